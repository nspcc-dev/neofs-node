import NeoFS.Lemmas.Resync
import NeoFS.Lemmas.MetaCtr
import NeoFS.Props.C01
/-!
The rebuild inside the fragment `Plain` (`Model/Resync.lean` `plainSet`): a bucket that met a set of objects of
the fragment in any order satisfies `Inv`, and `Inv` fixes `Exists` and `IsLocked` of every address.
-/
namespace NeoFS.Resync
open NeoFS.Meta

/-! ### the fragment of the partial theorem

Within one container: unsplit objects of type regular / tombstone / lock with distinct non-zero ids, where
* the target of a tombstone or lock is never a tombstone or lock of the set (it is regular or not stored),
* no id is the target of both a tombstone and a lock,
* the target of a tombstone carries no expiration attribute.
-/

structure Plain (S : List Hdr) : Prop where
  hdr : ∀ h ∈ S, h.id ≠ 0 ∧ h.parentId = 0 ∧ h.firstId = 0 ∧ h.splitId = 0 ∧
    (h.typ = .regular ∨ ((h.typ = .tombstone ∨ h.typ = .lock) ∧ h.assoc ≠ 0))
  nodup : (S.map (·.id)).Nodup
  tgtReg : ∀ a ∈ S, (a.typ = .tombstone ∨ a.typ = .lock) → ∀ x ∈ S, x.id = a.assoc → x.typ = .regular
  tsNoExp : ∀ a ∈ S, a.typ = .tombstone → ∀ x ∈ S, x.id = a.assoc → x.exp = none
  noMix : ∀ a ∈ S, (a.typ = .tombstone ∨ a.typ = .lock) → ∀ x ∈ S, (x.typ = .tombstone ∨ x.typ = .lock) →
    x.assoc = a.assoc → x.typ = a.typ

theorem plain_of_plainSet (S : List Hdr) (h : plainSet S = true) : Plain S := by
  simp only [plainSet, targetOK, plainHdr, Bool.and_eq_true, Bool.or_eq_true, List.all_eq_true, decide_eq_true_eq,
    bne_iff_ne, ne_eq, beq_iff_eq, Bool.not_eq_true', beq_eq_false_iff_ne, Option.isNone_iff_eq_none,
    Bool.or_eq_false_iff, Bool.and_eq_false_imp] at h
  obtain ⟨⟨h1, h2⟩, h3⟩ := h
  have tk := fun a ha (hta : a.typ = .tombstone ∨ a.typ = .lock) =>
    (h3 a ha).resolve_left fun h => hta.elim h.1 h.2
  exact {
    hdr := fun x hx => let ⟨⟨⟨⟨a, b⟩, c⟩, d⟩, e⟩ := h1 x hx; ⟨a, b, c, d, e⟩
    nodup := h2
    tgtReg := fun a ha hta x hx hid => ((tk a ha hta x hx).1.resolve_left (not_not_intro hid)).1
    tsNoExp := fun a ha hts x hx hid =>
      ((tk a ha (Or.inl hts) x hx).1.resolve_left (not_not_intro hid)).2.resolve_left (not_not_intro hts)
    noMix := fun a ha hta x hx hxt hxa => (tk a ha hta x hx).2.resolve_left fun h => h hxt hxa }

/-! ### the invariant of a rebuild inside the fragment

`S` is the whole set, `L` the objects met so far.  The bucket indexes only objects of `L` (as physical
objects), every tombstone and lock of `L` and every regular object of `L` that no tombstone of `S` targets;
the garbage keys are exactly the targets of the tombstones of `L`. -/

def targeted (S : List Hdr) (id : Nat) : Prop := ∃ t ∈ S, t.typ = .tombstone ∧ t.assoc = id

structure Inv (S L : List Hdr) (c : Cnr) : Prop where
  wf : c.WF
  nogc : c.gcMark = false
  r1 : ∀ r ∈ c.recs, ∃ h ∈ L, r = recOf h false true
  r2 : ∀ h ∈ L, (h.typ ≠ .regular ∨ ¬ targeted S h.id) → recOf h false true ∈ c.recs
  g : ∀ x, x ∈ c.garb ↔ (x.2 = false ∧ targeted L x.1)

theorem inv_empty (S : List Hdr) : Inv S [] {} := by
  refine ⟨wf_empty, rfl, ?_, ?_, ?_⟩
  · intro r hr; cases hr
  · intro h hh; cases hh
  · intro x
    constructor
    · intro hx; cases hx
    · rintro ⟨_, t, ht, _⟩; cases ht

theorem tombstoned_of_ownStatus {c : Cnr} {epoch id : Nat} (h : Ref.ownStatus c epoch id = .tombstoned) :
    Ref.tombstoned c id = true := by
  unfold Ref.ownStatus at h
  dsimp only at h
  by_cases h1 : (Ref.ownExpired c epoch id && !Ref.liveLock c epoch id) = true
  · rw [if_pos h1] at h; cases h
  · rw [if_neg h1] at h
    by_cases h2 : (Ref.tombstoned c id && !Ref.liveLock c epoch id) = true
    · exact (Bool.and_eq_true_iff.mp h2).1
    · rw [if_neg h2] at h
      by_cases h3 : (Ref.marked c id && !Ref.liveLock c epoch id) = true
      · rw [if_pos h3] at h; cases h
      · rw [if_neg h3] at h; cases h

section facts
variable {S L : List Hdr} {c : Cnr}

theorem targeted_mono (hL : ∀ x ∈ L, x ∈ S) {id : Nat} : targeted L id → targeted S id
  | ⟨t, ht, h⟩ => ⟨t, hL t ht, h⟩

theorem Plain.not_targeted (hp : Plain S) {a : Hdr} (ha : a ∈ S) (hta : a.typ = .tombstone ∨ a.typ = .lock) :
    ¬ targeted S a.id := by
  rintro ⟨t, ht, hty, hta'⟩
  have := hp.tgtReg t ht (Or.inl hty) a ha hta'.symm
  rcases hta with e | e <;> rw [e] at this <;> cases this

theorem targeted_cons (h : Hdr) (id : Nat) :
    targeted (h :: L) id ↔ (h.typ = .tombstone ∧ h.assoc = id) ∨ targeted L id := by
  simp only [targeted, List.mem_cons, or_and_right, exists_or, exists_eq_left]

theorem targeted_cons_of_not_ts (h : Hdr) (hnt : h.typ ≠ .tombstone) (id : Nat) :
    targeted (h :: L) id ↔ targeted L id := by
  rw [targeted_cons]
  exact or_iff_right fun h' => hnt h'.1

theorem Inv.tomb_iff (inv : Inv S L c) (id : Nat) : Ref.tombstoned c id = true ↔ targeted L id := by
  unfold Ref.tombstoned targeted
  rw [List.any_eq_true]
  constructor
  · rintro ⟨r, hr, hp⟩
    obtain ⟨x, hx, rfl⟩ := inv.r1 r hr
    simp only [recOf, Bool.and_eq_true, beq_iff_eq] at hp
    exact ⟨x, hx, hp.1, hp.2⟩
  · rintro ⟨t, ht, hty, hta⟩
    refine ⟨recOf t false true, inv.r2 t ht (Or.inl (by rw [hty]; decide)), ?_⟩
    simp [recOf, hty, hta]

theorem Inv.marked_iff (inv : Inv S L c) (id : Nat) : Ref.marked c id = true ↔ targeted L id := by
  unfold Ref.marked
  rw [List.any_eq_true]
  constructor
  · rintro ⟨x, hx, hp⟩
    simp only [Bool.and_eq_true, beq_iff_eq, Bool.not_eq_true'] at hp
    have := ((inv.g x).mp hx).2
    rw [hp.1] at this
    exact this
  · intro ht
    refine ⟨(id, false), (inv.g (id, false)).mpr ⟨rfl, ht⟩, by simp⟩

theorem Inv.lock_of_liveLock (inv : Inv S L c) (epoch id : Nat) (h : Ref.liveLock c epoch id = true) :
    ∃ l ∈ L, l.typ = .lock ∧ l.assoc = id ∧
      (!(decide (epoch > 0) && Ref.expiredAt (recOf l false true) epoch)) = true := by
  unfold Ref.liveLock at h
  rw [List.any_eq_true] at h
  obtain ⟨r, hr, hp⟩ := h
  obtain ⟨x, hx, rfl⟩ := inv.r1 r hr
  simp only [Bool.and_eq_true, beq_iff_eq] at hp
  exact ⟨x, hx, hp.1.1.1.1, hp.1.1.1.2, hp.1.1.2⟩

theorem Inv.find_some (inv : Inv S L c) (id : Nat) (r : Rec) (h : c.find? id = some r) :
    ∃ x ∈ L, r = recOf x false true ∧ x.id = id := by
  have hm : r ∈ c.recs := List.mem_of_find?_eq_some h
  have hid : r.id = id := by
    have := List.find?_some h; simpa using this
  obtain ⟨x, hx, rfl⟩ := inv.r1 r hm
  exact ⟨x, hx, rfl, hid⟩

theorem Inv.find_none_of_fresh (inv : Inv S L c) (id : Nat) (hnew : ∀ x ∈ L, x.id ≠ id) : c.find? id = none := by
  unfold Cnr.find?
  rw [List.find?_eq_none]
  intro r hr
  obtain ⟨x, hx, rfl⟩ := inv.r1 r hr
  simpa [recOf] using hnew x hx

theorem Inv.insert (inv : Inv S L c) (h : Hdr) (hnew : ∀ x ∈ L, x.id ≠ h.id) (c' : Cnr)
    (hrecs : c'.recs = insertRec (recOf h false true) c.recs) (hgc : c'.gcMark = false)
    (hgs : GarbSorted c'.garb) (hgarb : ∀ x, x ∈ c'.garb ↔ (x.2 = false ∧ targeted (h :: L) x.1)) :
    Inv S (h :: L) c' := by
  have hfresh : ∀ x ∈ c.recs, x.id ≠ (recOf h false true).id := by
    intro r hr
    obtain ⟨x, hx, rfl⟩ := inv.r1 r hr
    simpa [recOf] using hnew x hx
  have hmem := mem_insertRec_new (recOf h false true) c.recs hfresh
  refine ⟨⟨?_, hgs⟩, hgc, ?_, ?_, hgarb⟩
  · rw [hrecs]; exact insertRec_sorted _ _ inv.wf.recs
  · intro r hr
    rw [hrecs, hmem] at hr
    rcases hr with rfl | hr
    · exact ⟨h, List.mem_cons_self, rfl⟩
    · obtain ⟨x, hx, e⟩ := inv.r1 r hr
      exact ⟨x, List.mem_cons_of_mem _ hx, e⟩
  · intro x hx hc
    rw [hrecs, hmem]
    rcases List.mem_cons.mp hx with rfl | hx
    · exact Or.inl rfl
    · exact Or.inr (inv.r2 x hx hc)

theorem Inv.insert_same_garb (inv : Inv S L c) (h : Hdr) (hnew : ∀ x ∈ L, x.id ≠ h.id) (hnt : h.typ ≠ .tombstone)
    (c' : Cnr) (hrecs : c'.recs = insertRec (recOf h false true) c.recs) (hgc : c'.gcMark = false)
    (hgarb : c'.garb = c.garb) : Inv S (h :: L) c' :=
  inv.insert h hnew c' hrecs hgc (hgarb ▸ inv.wf.garb) fun x => by
    rw [hgarb, inv.g x, targeted_cons_of_not_ts h hnt]

/-- an object met after its tombstone is refused: nothing changes -/
theorem Inv.skip (inv : Inv S L c) (h : Hdr) (hreg : h.typ = .regular) (ht : targeted S h.id) :
    Inv S (h :: L) c := by
  refine ⟨inv.wf, inv.nogc, ?_, ?_, ?_⟩
  · intro r hr
    obtain ⟨x, hx, e⟩ := inv.r1 r hr
    exact ⟨x, List.mem_cons_of_mem _ hx, e⟩
  · intro x hx hc
    rcases List.mem_cons.mp hx with rfl | hx
    · rcases hc with hc | hc
      · exact absurd hreg hc
      · exact absurd ht hc
    · exact inv.r2 x hx hc
  · intro x
    rw [inv.g x, targeted_cons_of_not_ts h (by rw [hreg]; decide)]

variable (inv : Inv S L c) (hp : Plain S) (hL : ∀ x ∈ L, x ∈ S)
include inv hp hL

theorem Inv.unsplit : ∀ r ∈ c.recs, r.parentId = 0 ∧ r.firstId = 0 ∧ r.splitId = 0 := by
  intro r hr
  obtain ⟨x, hx, rfl⟩ := inv.r1 r hr
  obtain ⟨_, h2, h3, h4, _⟩ := hp.hdr x (hL x hx)
  exact ⟨h2, h3, h4⟩

theorem Inv.ref_status_own (epoch id : Nat) : Ref.status c epoch id = Ref.ownStatus c epoch id := by
  have hpar : Ref.parentOf c id = 0 := by
    unfold Ref.parentOf
    cases hf : c.find? id with
    | none => rfl
    | some r =>
      obtain ⟨h2, h3, h4⟩ := inv.unsplit hp hL r (List.mem_of_find?_eq_some hf)
      simp [h2, h3, h4]
  unfold Ref.status
  simp [hpar]

theorem Inv.status_own (epoch id : Nat) : c.status epoch id = Ref.ownStatus c epoch id := by
  rw [status_eq_ref c inv.wf, inv.ref_status_own hp hL]

theorem Inv.parentInfo_none (id : Nat) (hid : id ≠ 0) : c.parentInfo id = .none := by
  have hf : c.recs.filter (·.parentId == id) = [] := by
    rw [List.filter_eq_nil_iff]
    intro r hr
    rw [(inv.unsplit hp hL r hr).1]
    simpa using hid.symm
  unfold Cnr.parentInfo
  simp [hf]

theorem Inv.not_liveLock (epoch : Nat) {id : Nat} (ht : targeted S id) : Ref.liveLock c epoch id = false := by
  apply Bool.eq_false_iff.mpr
  intro hb
  obtain ⟨l, hl1, hl2, hl3, _⟩ := inv.lock_of_liveLock epoch id hb
  obtain ⟨t, ht1, ht2, ht3⟩ := ht
  have := hp.noMix t ht1 (Or.inl ht2) l (hL l hl1) (Or.inr hl2) (by rw [hl3, ht3])
  rw [hl2, ht2] at this
  cases this

theorem Inv.typeOf_target {a : Hdr} (ha : a ∈ S) (hta : a.typ = .tombstone ∨ a.typ = .lock) :
    c.typeOf a.assoc = none ∨ c.typeOf a.assoc = some .regular := by
  unfold Cnr.typeOf
  cases hf : c.find? a.assoc with
  | none => exact Or.inl rfl
  | some r =>
    obtain ⟨x, hx, rfl, hxid⟩ := inv.find_some a.assoc r hf
    exact Or.inr (congrArg some (hp.tgtReg a ha hta x (hL x hx) hxid))

theorem Inv.ownStatus_targeted (epoch : Nat) {id : Nat} (ht : targeted L id)
    (hexp : Ref.ownExpired c epoch id = false) : Ref.ownStatus c epoch id = .tombstoned := by
  have htomb := (inv.tomb_iff id).mpr ht
  have hlock := inv.not_liveLock hp hL epoch (targeted_mono hL ht)
  simp [Ref.ownStatus, hexp, htomb, hlock]

theorem Inv.exists_fresh (epoch : Nat) {id : Nat} (hnew : ∀ x ∈ L, x.id ≠ id) :
    (¬ targeted L id → c.exists_ id epoch false = (false, .ok)) ∧
    (targeted L id → c.exists_ id epoch false = (false, .alreadyRemoved)) := by
  have hfn := inv.find_none_of_fresh id hnew
  have hexp : Ref.ownExpired c epoch id = false := by unfold Ref.ownExpired; rw [hfn]
  have htyp : c.typeOf id = none := by unfold Cnr.typeOf; rw [hfn]; rfl
  have hex := exists_follows_ref c inv.wf epoch id inv.nogc
  rw [inv.ref_status_own hp hL] at hex
  constructor
  · intro hnt
    have htomb : Ref.tombstoned c id = false := Bool.eq_false_iff.mpr (mt (inv.tomb_iff id).mp hnt)
    have hmark : Ref.marked c id = false := Bool.eq_false_iff.mpr (mt (inv.marked_iff id).mp hnt)
    have : Ref.ownStatus c epoch id = .available := by simp [Ref.ownStatus, hexp, htomb, hmark]
    rw [hex, this, htyp]
    rfl
  · intro ht
    rw [hex, inv.ownStatus_targeted hp hL epoch ht hexp]

end facts

/-! ### one put inside the fragment -/

theorem putChainNR_accept (c c2 : Cnr) (epoch : Nat) (h : Hdr) (d : Diff) (hg : c.gcMark = false)
    (hex : c.exists_ h.id epoch false = (false, .ok)) (hk : putKind c epoch 0 h false .ok = (some (c2, d), .ok)) :
    putChainNR c epoch 0 [h] =
      ({ c2 with ctr := c2.ctr.apply d, recs := insertRec (recOf h false true) c2.recs }, .ok) := by
  rw [putChainNR_cons, putHead_of_not_exists c epoch h _ _ _ hg hex]
  show ((putSelf c c epoch 0 h false .ok).1, (putSelf c c epoch 0 h false .ok).2.2) = _
  unfold putSelf
  rw [hk]
  rfl

theorem putKind_lock_ok (c : Cnr) (epoch : Nat) (h : Hdr) (hty : h.typ = .lock) (ha : (h.assoc == 0) = false)
    (htgt : c.typeOf h.assoc = none ∨ c.typeOf h.assoc = some .regular)
    (hst : c.status epoch h.assoc ≠ .tombstoned) (hig : c.inGarbage h.assoc ≠ .tombstoned) :
    ∃ d, putKind c epoch 0 h false .ok = (some (c, d), .ok) := by
  have hb : (c.status epoch h.assoc == .tombstoned || c.inGarbage h.assoc == .tombstoned) = false := by
    simp [hst, hig]
  rw [putKind_lock hty, ha, hb]
  rcases htgt with e | e <;> rw [e] <;> exact ⟨_, rfl⟩

theorem putKind_ts_ok (c : Cnr) (epoch : Nat) (h : Hdr) (hty : h.typ = .tombstone) (ha : (h.assoc == 0) = false)
    (htgt : c.typeOf h.assoc = none ∨ c.typeOf h.assoc = some .regular)
    (h3 : c.objectLocked epoch h.assoc = false) :
    ∃ d, putKind c epoch 0 h false .ok =
      (some ({ c with garb := (c.tombstoneMarks epoch h.assoc).1 }, d), .ok) := by
  rw [putKind_tombstone hty, ha, h3]
  rcases htgt with e | e <;> rw [e] <;> exact ⟨_, rfl⟩

/-- **One object of the fragment keeps the invariant** (whatever was met before it). -/
theorem Inv.step {S L : List Hdr} {c : Cnr} (hp : Plain S) (hL : ∀ x ∈ L, x ∈ S) (inv : Inv S L c)
    (epoch : Nat) (h : Hdr) (hh : h ∈ S) (hnew : ∀ x ∈ L, x.id ≠ h.id) :
    ((putChainNR c epoch 0 [h]).2 = .ok ∨ (putChainNR c epoch 0 [h]).2 = .alreadyRemoved) ∧
      Inv S (h :: L) (stepC epoch c [h]) := by
  suffices H : ∃ c' e, putChainNR c epoch 0 [h] = (c', e) ∧ (e = .ok ∨ e = .alreadyRemoved) ∧ Inv S (h :: L) c' by
    obtain ⟨c', e, hput, he, hinv⟩ := H
    have hs : stepC epoch c [h] = c' := by
      unfold stepC
      rw [hput]
      rcases he with rfl | rfl <;> rfl
    rw [hput, hs]
    exact ⟨he, hinv⟩
  obtain ⟨hfree, hremoved⟩ := inv.exists_fresh hp hL epoch hnew
  obtain ⟨_, _, _, _, hreg | ⟨hta, hassoc⟩⟩ := hp.hdr h hh
  · by_cases ht : targeted L h.id
    · -- a regular object met after its tombstone: refused as already removed
      have hput : putChainNR c epoch 0 [h] = (c, .alreadyRemoved) := by
        rw [putChainNR_cons, putHead_of_not_exists c epoch h _ _ _ inv.nogc (hremoved ht)]
        rfl
      exact ⟨c, _, hput, Or.inr rfl, inv.skip h hreg (targeted_mono hL ht)⟩
    · exact ⟨_, _, putChainNR_accept c c epoch h _ inv.nogc (hfree ht) (putKind_regular hreg), Or.inl rfl,
        inv.insert_same_garb h hnew (by rw [hreg]; decide) _ rfl inv.nogc rfl⟩
  · -- a tombstone or lock: its id is no target, its target (if indexed) is a regular object
    have hnt : ¬ targeted L h.id := mt (targeted_mono hL) (hp.not_targeted hh hta)
    have ha0 : (h.assoc == 0) = false := by simpa using hassoc
    have htgt := inv.typeOf_target hp hL hh hta
    rcases hta with hts | hlk
    · -- a tombstone: the target is not locked and (alone) gets a garbage key
      have h3 : c.objectLocked epoch h.assoc = false := by
        rw [objectLocked_ref c inv.wf]
        exact inv.not_liveLock hp hL epoch ⟨h, hh, hts, rfl⟩
      obtain ⟨d, hk⟩ := putKind_ts_ok c epoch h hts ha0 htgt h3
      have hm := tombstoneMarks_fst_of_no_children c epoch h.assoc (inv.parentInfo_none hp hL h.assoc hassoc)
      refine ⟨_, _, putChainNR_accept c _ epoch h d inv.nogc (hfree hnt) hk, Or.inl rfl,
        inv.insert h hnew _ rfl inv.nogc ?_ fun x => ?_⟩
      · simp only [hm]; exact insertGarb_sorted _ _ inv.wf.garb
      · simp only [hm]
        rw [mem_insertGarb _ _ inv.wf.garb, inv.g x, targeted_cons]
        constructor
        · rintro (rfl | ⟨⟨hf, ht⟩, _⟩)
          · exact ⟨rfl, Or.inl ⟨hts, rfl⟩⟩
          · exact ⟨hf, Or.inr ht⟩
        · rintro ⟨hf, ⟨_, hxa⟩ | ht⟩
          · exact Or.inl (Prod.ext hxa.symm hf)
          · by_cases hxa : x.1 = h.assoc
            · exact Or.inl (Prod.ext hxa hf)
            · exact Or.inr ⟨⟨hf, ht⟩, hxa⟩
    · -- a lock: its target is not removed
      have hnt' : ¬ targeted L h.assoc := by
        rintro ⟨t, ht1, ht2, ht3⟩
        have := hp.noMix h hh (Or.inr hlk) t (hL t ht1) (Or.inl ht2) ht3
        rw [ht2, hlk] at this
        cases this
      have htomb : Ref.tombstoned c h.assoc = false := Bool.eq_false_iff.mpr (mt (inv.tomb_iff _).mp hnt')
      have hst : c.status epoch h.assoc ≠ .tombstoned := fun e => by
        rw [inv.status_own hp hL] at e
        rw [tombstoned_of_ownStatus e] at htomb
        cases htomb
      have hig : c.inGarbage h.assoc ≠ .tombstoned := by
        rw [inGarbage_ref c inv.wf, htomb]
        cases Ref.marked c h.assoc <;> exact nofun
      obtain ⟨d, hk⟩ := putKind_lock_ok c epoch h hlk ha0 htgt hst hig
      exact ⟨_, _, putChainNR_accept c c epoch h d inv.nogc (hfree hnt) hk, Or.inl rfl,
        inv.insert_same_garb h hnew (by rw [hlk]; decide) _ rfl inv.nogc rfl⟩

theorem Inv.congr {S L L' : List Hdr} {c : Cnr} (h : ∀ x, x ∈ L ↔ x ∈ L') (inv : Inv S L c) : Inv S L' c := by
  have ht : ∀ id, targeted L id ↔ targeted L' id := by
    intro id
    unfold targeted
    constructor
    · rintro ⟨t, h1, h2⟩; exact ⟨t, (h t).mp h1, h2⟩
    · rintro ⟨t, h1, h2⟩; exact ⟨t, (h t).mpr h1, h2⟩
  refine ⟨inv.wf, inv.nogc, ?_, ?_, ?_⟩
  · intro r hr
    obtain ⟨x, hx, e⟩ := inv.r1 r hr
    exact ⟨x, (h x).mp hx, e⟩
  · intro x hx hc
    exact inv.r2 x ((h x).mpr hx) hc
  · intro x
    rw [inv.g x, ht]

theorem pairwise_ne_middle {α β : Type} (f : α → β) (a : α) (l₁ l₂ : List α)
    (h : (a :: (l₁ ++ l₂)).Pairwise fun x y => f x ≠ f y) : (l₁ ++ a :: l₂).Pairwise fun x y => f x ≠ f y :=
  (List.perm_middle.symm.pairwise_iff (fun hxy e => hxy e.symm)).mp h

/-- **Any order of a set of the fragment keeps the invariant**: after the objects `rest` (ids distinct from
each other and from the ones met before) the bucket indexes what the invariant says for `rest ++ L`. -/
theorem Inv.fold {S : List Hdr} (hp : Plain S) (epoch : Nat) : ∀ (rest L : List Hdr) (c : Cnr),
    (∀ x ∈ L, x ∈ S) → (∀ x ∈ rest, x ∈ S) → (rest ++ L).Pairwise (fun a b => a.id ≠ b.id) → Inv S L c →
    Inv S (rest.reverse ++ L) ((rest.map fun h => [h]).foldl (stepC epoch) c) := by
  intro rest
  induction rest with
  | nil => intro L c _ _ _ inv; exact inv
  | cons h rest ih =>
    intro L c hL hR hpw inv
    have hh := hR h List.mem_cons_self
    have hnew : ∀ x ∈ L, x.id ≠ h.id :=
      fun x hx e => (List.pairwise_cons.mp hpw).1 x (List.mem_append_right _ hx) e.symm
    rw [List.reverse_cons, List.append_assoc]
    exact ih (h :: L) _ (List.forall_mem_cons.mpr ⟨hh, hL⟩) (fun x hx => hR x (List.mem_cons_of_mem _ hx))
      (pairwise_ne_middle _ h rest L hpw) (inv.step hp hL epoch h hh hnew).2

/-! ### what a bucket that met the whole set answers (independent of the order) -/

section final
variable {S : List Hdr} {c : Cnr} (inv : Inv S S c) (hp : Plain S)
include inv hp

theorem Inv.liveLock_iff (epoch id : Nat) :
    Ref.liveLock c epoch id = true ↔
      ∃ l ∈ S, l.typ = .lock ∧ l.assoc = id ∧ (!(decide (epoch > 0) && Ref.expiredAt (recOf l false true) epoch)) = true := by
  refine ⟨inv.lock_of_liveLock epoch id, ?_⟩
  unfold Ref.liveLock
  rw [List.any_eq_true]
  · rintro ⟨l, hl, hty, hta, hexp⟩
    -- a lock is no target of a tombstone: it is indexed and carries no mark
    have hnt : ¬ targeted S l.id := hp.not_targeted hl (Or.inr hty)
    have htomb : Ref.tombstoned c (recOf l false true).id = false :=
      Bool.eq_false_iff.mpr (mt (inv.tomb_iff _).mp hnt)
    have hmark : Ref.marked c (recOf l false true).id = false :=
      Bool.eq_false_iff.mpr (mt (inv.marked_iff _).mp hnt)
    refine ⟨recOf l false true, inv.r2 l hl (Or.inl (by rw [hty]; decide)), ?_⟩
    rw [htomb, hmark, hexp]
    simp [recOf, hty, hta]

omit inv in
theorem not_targeted_of_expired (epoch : Nat) {h : Hdr} (hh : h ∈ S)
    (hexp : Ref.expiredAt (recOf h false true) epoch = true) : ¬ targeted S h.id := by
  rintro ⟨t, ht, hty, hta⟩
  have := hp.tsNoExp t ht hty h hh hta.symm
  unfold Ref.expiredAt at hexp
  simp [recOf, this] at hexp

theorem Inv.ownExpired_iff (epoch id : Nat) :
    Ref.ownExpired c epoch id = true ↔ ∃ h ∈ S, h.id = id ∧ Ref.expiredAt (recOf h false true) epoch = true := by
  unfold Ref.ownExpired
  constructor
  · intro h
    cases hf : c.find? id with
    | none => rw [hf] at h; cases h
    | some r =>
      rw [hf] at h
      obtain ⟨x, hx, rfl, hxid⟩ := inv.find_some id r hf
      exact ⟨x, hx, hxid, h⟩
  · rintro ⟨h, hh, rfl, hexp⟩
    have hm := inv.r2 h hh (Or.inr (not_targeted_of_expired hp epoch hh hexp))
    have hf : c.find? h.id = some (recOf h false true) := find_of_mem c.recs inv.wf.recs _ hm
    rw [hf]; exact hexp

/-- an available id is indexed iff the set has it (a regular object under a tombstone is removed) -/
theorem Inv.typeOf_isSome_iff (epoch id : Nat)
    (hav : c.status epoch id = .available) : (c.typeOf id).isSome = true ↔ ∃ x ∈ S, x.id = id := by
  unfold Cnr.typeOf
  rw [Option.isSome_map]
  constructor
  · intro h
    cases hf : c.find? id with
    | none => rw [hf] at h; cases h
    | some r =>
      obtain ⟨x, hx, _, hxid⟩ := inv.find_some id r hf
      exact ⟨x, hx, hxid⟩
  · rintro ⟨x, hx, rfl⟩
    have hc : x.typ ≠ .regular ∨ ¬ targeted S x.id := by
      refine Or.inr fun ht => ?_
      have hexp : Ref.ownExpired c epoch x.id = false := by
        apply Bool.eq_false_iff.mpr
        intro hb
        obtain ⟨h, hh, hid, he⟩ := (inv.ownExpired_iff hp epoch x.id).mp hb
        exact not_targeted_of_expired hp epoch hh he (hid ▸ ht)
      rw [inv.status_own hp (fun _ h => h), inv.ownStatus_targeted hp (fun _ h => h) epoch ht hexp] at hav
      cases hav
    have hf : c.find? x.id = some (recOf x false true) := find_of_mem c.recs inv.wf.recs _ (inv.r2 x hx hc)
    rw [hf]; rfl

end final

/-- **Two buckets that met the same set of the fragment answer alike**: `Exists` and `IsLocked` of every
non-zero id at every epoch (every record of the fragment has parent id 0, so id 0 would have them all as
children). -/
theorem plain_views_eq {S : List Hdr} {c c' : Cnr} (hp : Plain S) (inv : Inv S S c) (inv' : Inv S S c')
    (epoch id : Nat) (hid : id ≠ 0) :
    c.exists_ id epoch true = c'.exists_ id epoch true ∧ c.objectLocked epoch id = c'.objectLocked epoch id := by
  have hT : Ref.tombstoned c id = Ref.tombstoned c' id :=
    Bool.eq_iff_iff.mpr ((inv.tomb_iff id).trans (inv'.tomb_iff id).symm)
  have hM : Ref.marked c id = Ref.marked c' id :=
    Bool.eq_iff_iff.mpr ((inv.marked_iff id).trans (inv'.marked_iff id).symm)
  have hLk : Ref.liveLock c epoch id = Ref.liveLock c' epoch id :=
    Bool.eq_iff_iff.mpr ((inv.liveLock_iff hp epoch id).trans (inv'.liveLock_iff hp epoch id).symm)
  have hE : Ref.ownExpired c epoch id = Ref.ownExpired c' epoch id :=
    Bool.eq_iff_iff.mpr ((inv.ownExpired_iff hp epoch id).trans (inv'.ownExpired_iff hp epoch id).symm)
  have hst : c.status epoch id = c'.status epoch id := by
    rw [inv.status_own hp (fun _ h => h), inv'.status_own hp (fun _ h => h)]
    unfold Ref.ownStatus
    rw [hT, hM, hLk, hE]
  refine ⟨?_, by rw [objectLocked_ref c inv.wf, objectLocked_ref c' inv'.wf, hLk]⟩
  unfold Cnr.exists_
  rw [inv.nogc, inv'.nogc, hst]
  cases hs : c'.status epoch id <;> simp only [Bool.false_eq_true, if_false]
  rw [inv.parentInfo_none hp (fun _ h => h) id hid, inv'.parentInfo_none hp (fun _ h => h) id hid]
  simp only [if_true]
  have h1 := inv.typeOf_isSome_iff hp epoch id (by rw [hst]; exact hs)
  have h2 := inv'.typeOf_isSome_iff hp epoch id hs
  have : (c.typeOf id).isSome = (c'.typeOf id).isSome := Bool.eq_iff_iff.mpr (h1.trans h2.symm)
  rw [this]

/-- after the whole set: every stored object is indexed or carries a garbage key, and every id the reference
rules call removed carries a garbage key (what `GetGarbage` lists, so GC reclaims the payload) -/
theorem plain_known {S : List Hdr} {c : Cnr} (inv : Inv S S c) (x : Hdr) (hx : x ∈ S) :
    ((c.find? x.id).isSome || c.garb.any (·.1 == x.id)) = true := by
  by_cases hc : x.typ ≠ .regular ∨ ¬ targeted S x.id
  · have hf : c.find? x.id = some (recOf x false true) := find_of_mem c.recs inv.wf.recs _ (inv.r2 x hx hc)
    rw [hf]; rfl
  · have hc1 : targeted S x.id := Classical.not_not.mp fun h => hc (Or.inr h)
    have : (x.id, false) ∈ c.garb := (inv.g (x.id, false)).mpr ⟨rfl, hc1⟩
    rw [Bool.or_eq_true, List.any_eq_true]
    exact Or.inr ⟨_, this, by simp⟩

theorem plain_removed_has_key {S : List Hdr} {c : Cnr} (hp : Plain S) (inv : Inv S S c) (epoch id : Nat)
    (h : c.status epoch id = .tombstoned) : c.garb.any (·.1 == id) = true := by
  rw [inv.status_own hp (fun _ h => h)] at h
  have ht := tombstoned_of_ownStatus h
  have : (id, false) ∈ c.garb := (inv.g (id, false)).mpr ⟨rfl, (inv.tomb_iff id).mp ht⟩
  rw [List.any_eq_true]
  exact ⟨_, this, by simp⟩

/-! ### several containers -/

theorem mem_hdrsIn (hs : List (Nat × Hdr)) (cn : Nat) (h : Hdr) : h ∈ hdrsIn hs cn ↔ (cn, h) ∈ hs := by
  unfold hdrsIn
  simp only [List.mem_map, List.mem_filter, beq_iff_eq]
  constructor
  · rintro ⟨p, ⟨hp, hc⟩, rfl⟩
    have : p = (cn, p.2) := by rw [← hc]
    rw [← this]; exact hp
  · intro h'
    exact ⟨(cn, h), ⟨h', rfl⟩, rfl⟩

theorem hdrsIn_cons (p : Nat × Hdr) (hs : List (Nat × Hdr)) (cn : Nat) :
    hdrsIn (p :: hs) cn = if p.1 = cn then p.2 :: hdrsIn hs cn else hdrsIn hs cn := by
  unfold hdrsIn
  by_cases h : p.1 = cn <;> simp [h]

theorem plain_nil : Plain [] := by
  refine ⟨?_, List.nodup_nil, ?_, ?_, ?_⟩
  · intro h hh; cases hh
  · intro a ha; cases ha
  · intro a ha; cases ha
  · intro a ha; cases ha

theorem plainObjs_cn (hs : List (Nat × Hdr)) (h : plainObjs hs = true) (cn : Nat) : Plain (hdrsIn hs cn) := by
  by_cases hc : ∃ p ∈ hs, p.1 = cn
  · obtain ⟨p, hp, rfl⟩ := hc
    unfold plainObjs at h
    rw [List.all_eq_true] at h
    exact plain_of_plainSet _ (h p hp)
  · have : hdrsIn hs cn = [] := by
      unfold hdrsIn
      rw [List.map_eq_nil_iff, List.filter_eq_nil_iff]
      intro p hp
      simp only [beq_iff_eq]
      exact fun e => hc ⟨p, hp, e⟩
    rw [this]; exact plain_nil

/-- **The rebuild of a set of the fragment, in any order**: no put aborts, and the bucket of every container
ends in the invariant state for the objects met. -/
theorem plain_runSeq (epoch : Nat) (hs : List (Nat × Hdr)) (hP : ∀ cn, Plain (hdrsIn hs cn)) :
    ∀ (rest done : List (Nat × Hdr)) (db : DB),
      (∀ p ∈ rest, p ∈ hs) → (∀ p ∈ done, p ∈ hs) →
      (∀ cn, (hdrsIn rest cn ++ hdrsIn done cn).Pairwise (fun a b => a.id ≠ b.id)) →
      (∀ cn, Inv (hdrsIn hs cn) (hdrsIn done cn) ((getCnr? db cn).getD {})) →
      ∃ d, runSeq epoch db (toObjs rest) = some d ∧
        ∀ cn, Inv (hdrsIn hs cn) (hdrsIn (rest.reverse ++ done) cn) ((getCnr? d cn).getD {}) := by
  intro rest
  induction rest with
  | nil => intro done db _ _ _ inv; exact ⟨db, rfl, inv⟩
  | cons p rest ih =>
    intro done db hR hD hpw inv
    obtain ⟨cn0, h⟩ := p
    have hin := hR _ List.mem_cons_self
    have hpw0 := hpw cn0
    rw [hdrsIn_cons, if_pos rfl, List.cons_append] at hpw0
    -- the put of `h` into the bucket of `cn0` is accepted or skipped, and keeps that bucket's invariant
    obtain ⟨herr, hinv⟩ := (inv cn0).step (hP cn0)
      (fun x hx => (mem_hdrsIn hs cn0 x).mpr (hD _ ((mem_hdrsIn done cn0 x).mp hx))) epoch h
      ((mem_hdrsIn hs cn0 h).mpr hin)
      (fun x hx e => (List.pairwise_cons.mp hpw0).1 x (List.mem_append_right _ hx) e.symm)
    generalize hr : putChainNR ((getCnr? db cn0).getD {}) epoch 0 [h] = r at herr
    have hskip : (r.2 == Err.ok || skippable r.2) = true := by rcases herr with e | e <;> rw [e] <;> rfl
    have hput : putObj db epoch (cn0, [h]) = (setCnr db cn0 r.1, r.2) := by
      unfold putObj; simp only [hr]; rw [if_pos hskip]
    have hstepC : stepC epoch ((getCnr? db cn0).getD {}) [h] = r.1 := by
      unfold stepC; simp only [hr]; rw [if_pos hskip]
    rw [hstepC] at hinv
    obtain ⟨d, hd1, hd2⟩ := ih ((cn0, h) :: done) (setCnr db cn0 r.1)
      (fun q hq => hR q (List.mem_cons_of_mem _ hq)) (List.forall_mem_cons.mpr ⟨hin, hD⟩)
      (fun cn => by
        by_cases hc : cn0 = cn
        · subst hc
          rw [hdrsIn_cons, if_pos rfl]
          exact pairwise_ne_middle _ h _ _ hpw0
        · rw [hdrsIn_cons, if_neg hc]
          have := hpw cn
          rwa [hdrsIn_cons, if_neg hc] at this)
      (fun cn => by
        by_cases hc : cn0 = cn
        · subst hc
          rw [hdrsIn_cons, if_pos rfl, getCnr_setCnr, if_pos rfl]
          exact hinv
        · rw [hdrsIn_cons, if_neg hc, getCnr_setCnr, if_neg hc]
          exact inv cn)
    refine ⟨d, ?_, fun cn => ?_⟩
    · have : runSeq epoch db (toObjs ((cn0, h) :: rest)) = runSeq epoch (setCnr db cn0 r.1) (toObjs rest) := by
        simp only [toObjs, List.map_cons, runSeq, hput]
        rw [if_pos hskip]
      rw [this]; exact hd1
    · rw [List.reverse_cons, List.append_assoc]
      exact hd2 cn

theorem plain_final (epoch : Nat) (hs o : List (Nat × Hdr)) (hP : ∀ cn, Plain (hdrsIn hs cn)) (hperm : hs.Perm o) :
    ∃ d, resync epoch (toObjs o) = (d, .ok) ∧
      ∀ cn, Inv (hdrsIn hs cn) (hdrsIn hs cn) ((getCnr? d cn).getD {}) := by
  have hpw : ∀ cn, (hdrsIn o cn ++ hdrsIn [] cn).Pairwise (fun a b => a.id ≠ b.id) := by
    intro cn
    rw [show hdrsIn [] cn = [] from rfl, List.append_nil]
    have hpm : (hdrsIn hs cn).Perm (hdrsIn o cn) := (hperm.filter _).map _
    exact (hpm.pairwise_iff (fun hab e => hab e.symm)).mp (List.pairwise_map.mp (hP cn).nodup)
  obtain ⟨d, hd1, hd2⟩ := plain_runSeq epoch hs hP o [] [] (fun p hp => hperm.mem_iff.mpr hp) (fun _ hp => by cases hp) hpw
    fun cn => inv_empty _
  refine ⟨d, (resyncB_of_runSeq resyncBatchSize epoch (by decide) _ d hd1).1, fun cn => (hd2 cn).congr fun x => ?_⟩
  rw [mem_hdrsIn, mem_hdrsIn, List.append_nil, List.mem_reverse]
  exact hperm.mem_iff.symm

end NeoFS.Resync
