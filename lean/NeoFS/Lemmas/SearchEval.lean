/-
C03: the handler's evaluation of the filters on one index element agrees with the declarative `satisfies`
(for attributes stored as plain strings), and a `stop` verdict is only issued when no later element can match.
-/
import NeoFS.Lemmas.SearchScan
import NeoFS.Lemmas.LexOrder
import NeoFS.Props.C05
namespace NeoFS.Search
open NeoFS.Int256

section
variable {α : Type} {Q : Nat → α → Prop} {i : Nat} {a : α} {l : List α}

/-- `Q` holds at every position of `l`, counted from `i`. -/
def AllFrom (Q : Nat → α → Prop) (i : Nat) (l : List α) : Prop :=
  ∀ j x, l[j]? = some x → Q (i + j) x

def AnyFrom (Q : Nat → α → Prop) (i : Nat) (l : List α) : Prop :=
  ∃ j x, l[j]? = some x ∧ Q (i + j) x

theorem allFrom_nil (Q : Nat → α → Prop) (i : Nat) : AllFrom Q i [] :=
  fun j x hj => by simp at hj

theorem allFrom_cons (Q : Nat → α → Prop) : AllFrom Q i (a :: l) ↔ Q i a ∧ AllFrom Q (i + 1) l :=
  ⟨fun h => ⟨h 0 a rfl, fun j x hj => Nat.add_right_comm i 1 j ▸ h (j + 1) x hj⟩,
   fun h j x hj => match j with
    | 0 => (Option.some.inj hj) ▸ h.1
    | j + 1 => Nat.add_right_comm i 1 j ▸ h.2 j x hj⟩

theorem anyFrom_cons (Q : Nat → α → Prop) : AnyFrom Q i (a :: l) ↔ Q i a ∨ AnyFrom Q (i + 1) l :=
  ⟨fun ⟨j, x, hj, hq⟩ => match j with
    | 0 => Or.inl ((Option.some.inj hj) ▸ hq)
    | j + 1 => Or.inr ⟨j, x, hj, Nat.add_right_comm i 1 j ▸ hq⟩,
   fun h => h.elim (fun h => ⟨0, a, rfl, h⟩)
    (fun ⟨j, x, hj, hq⟩ => ⟨j + 1, x, hj, Nat.add_right_comm i 1 j ▸ hq⟩)⟩

theorem anyFrom_imp {Q' : Nat → α → Prop} (h : AnyFrom Q i l) (hq : ∀ j x, Q (i + j) x → Q' (i + j) x) :
    AnyFrom Q' i l :=
  let ⟨j, x, hj, hx⟩ := h; ⟨j, x, hj, hq j x hx⟩

end

theorem mk_wf (neg : Bool) (n : Nat) (h : n < two256) : (mk neg n).WF := by
  constructor
  · exact h
  · intro h0; simp only [mk] at h0 ⊢; simp [h0]

theorem parseInt_wf {v : Bytes} {z : I256} (h : parseInt v = some z) : z.WF := by
  obtain ⟨neg, d, _, hv, rfl⟩ := (parse_accepts_iff _ _).1 h
  exact mk_wf neg _ hv

def maxI : I256 := ⟨false, two256 - 1⟩
def minI : I256 := ⟨true, two256 - 1⟩

theorem maxI_wf : maxI.WF := by decide
theorem minI_wf : minI.WF := by decide

theorem toInt_bounds {z : I256} (h : z.WF) : minI.toInt ≤ z.toInt ∧ z.toInt ≤ maxI.toInt := by
  have hm : z.mag ≤ two256 - 1 := Nat.le_sub_one_of_lt h.1
  show -((two256 - 1 : Nat) : Int) ≤ _ ∧ _ ≤ ((two256 - 1 : Nat) : Int)
  unfold I256.toInt
  split <;> constructor <;> omega

theorem intSat_le {a b : Int} (h : a ≤ b) : intSat .le a b = true := by
  show (ordInt a b != .gt) = true
  unfold ordInt
  rw [if_neg (Int.not_lt.2 h)]
  split <;> rfl

theorem intSat_ge {a b : Int} (h : b ≤ a) : intSat .ge a b = true := by
  show (ordInt a b != .lt) = true
  unfold ordInt
  rw [if_neg (Int.not_lt.2 h)]
  split <;> rfl

theorem auto_sat {z x : I256} {m : Op} (hz : z.WF) (h : (m = .le ∧ x = maxI) ∨ (m = .ge ∧ x = minI)) :
    intSat m z.toInt x.toInt = true := by
  rcases h with ⟨rfl, rfl⟩ | ⟨rfl, rfl⟩
  · exact intSat_le (toInt_bounds hz).2
  · exact intSat_ge (toInt_bounds hz).1

theorem intBytesMatch_encode (z x : I256) (hz : z.WF) (hx : x.WF) (m : Op) :
    intBytesMatch (encode z) m (encode x) = intSat m z.toInt x.toInt := by
  unfold intBytesMatch intSat
  rw [encode_order z x hz hx]
  cases m <;> rfl

theorem intMatches_eq (z x : I256) (hz : z.WF) (hx : x.WF) (m : Op) :
    intMatches z m x = intSat m z.toInt x.toInt := by
  unfold intMatches intSat
  rw [cmp_correct z x hz hx]
  cases m <;> rfl

/-- what `parseIntFilters` has established for the filter at position `i`. -/
def PFok (f0 : Filter) (i : Nat) (p : PF) : Prop :=
  p.f.cop.isInt = true → ∃ x, parseInt p.f.cval = some x ∧
    (p.auto = true → (p.f.cop = .le ∧ x = maxI) ∨ (p.f.cop = .ge ∧ x = minI)) ∧
    (p.auto = false → (i = 0 ∨ (f0.cop.isInt = true ∧ p.f.attr = f0.attr)) → p.raw = encode x)

theorem matchPlain_plain {a db : Bytes} {m : Op} {flt : Bytes} (h : kindOf a = .plain) :
    matchPlain a db m flt = some (matchValues db m flt) := by
  simp [matchPlain, combine, h]

theorem restore_plain {a v : Bytes} (h : kindOf a = .plain) : restore a v = some v := by
  simp [restore, h]

theorem scattered_plain {a : Bytes} {m : Op} (hk : kindOf a = .plain) : scattered a m = decide (m = .ne) := by
  unfold kindOf at hk
  by_cases h1 : a = aOwner
  · rw [if_pos h1] at hk; cases hk
  by_cases h2 : a = aFirst ∨ a = aParent ∨ a = aAssoc
  · rw [if_neg h1, if_pos h2] at hk; cases hk
  cases m <;> simp [scattered, h1, h2]

theorem secMatch_eq (o : Obj) (f0 : Filter) (i : Nat) (p : PF) (hp : PFok f0 i p) (hk : kindOf p.f.attr = .plain) :
    secMatch p (lookup o p.f.attr) = some (satisfies o p.f) := by
  unfold secMatch satisfies
  cases lookup o p.f.attr with
  | none => simp
  | some v =>
    simp only
    by_cases hnp : p.f.cop = .np
    · simp [hnp]
    rw [if_neg hnp, if_neg hnp]
    by_cases hi : p.f.cop.isInt = true
    swap
    · rw [if_neg hi, if_neg hi, matchPlain_plain hk]
      simp
    rw [if_pos hi, if_pos hi]
    obtain ⟨x, hx, hauto, _⟩ := hp hi
    rw [hx]
    cases hz : parseInt v with
    | none => rfl
    | some z =>
      have hzw := parseInt_wf hz
      by_cases ha : p.auto = true
      · simp [ha, auto_sat hzw (hauto ha)]
      · have hr := readers_agree (toChars p.f.cval)
        rw [show parseDecimal (toChars p.f.cval) = some x from hx] at hr
        cases hs : splitIntString (toChars p.f.cval) with
        | none => rw [hs] at hr; cases hr
        | some nd =>
          rw [hs, Option.bind_some] at hr
          simp only [ha, Bool.false_eq_true, if_false, hr, intMatches_eq z x hzw (parseInt_wf hx)]

/-- the filter was preprocessed consistently (for some position). -/
def PFokW (p : PF) : Prop := ∃ f0 i, PFok f0 i p

theorem secInner_eq (o : Obj) (a : Bytes) (ps : List PF) (hok : ∀ p ∈ ps, PFokW p)
    (hk : ∀ p ∈ ps, kindOf p.f.attr = .plain) :
    secInner a (lookup o a) ps = some ((ps.filter (fun p => p.f.attr = a)).all (fun p => satisfies o p.f)) := by
  induction ps with
  | nil => rfl
  | cons p r ih =>
    obtain ⟨⟨f0, i, hp⟩, hokr⟩ := List.forall_mem_cons.1 hok
    obtain ⟨hkp, hkr⟩ := List.forall_mem_cons.1 hk
    unfold secInner
    by_cases ha : p.f.attr = a
    · have := secMatch_eq o f0 i p hp hkp
      rw [ha] at this
      rw [if_neg (not_not.2 ha), this, List.filter_cons_of_pos (by simpa using ha), List.all_cons]
      cases satisfies o p.f
      · rfl
      · exact ih hokr hkr
    · rw [if_pos ha, List.filter_cons_of_neg (by simpa using ha)]
      exact ih hokr hkr

/-- is the filter at position `i` left to the primary loop? -/
def skipped (h : HCtx) (i : Nat) (p : PF) : Bool :=
  !h.idIter && (i = 0 || (p.f.attr = h.f0.attr && p.f.cop.isInt == h.intPrim))

theorem secLoop_cons (h : HCtx) (id i : Nat) (p : PF) (r : List PF) :
    secLoop h id i (p :: r) =
      if skipped h i p then secLoop h id (i + 1) r
      else match secInner p.f.attr (h.get id p.f.attr) (p :: r) with
        | none => none
        | some false => some false
        | some true => secLoop h id (i + 1) r := rfl

theorem secLoop_spec (h : HCtx) (o : Obj) :
    ∀ (ps : List PF) (i : Nat), (∀ p ∈ ps, h.get o.id p.f.attr = lookup o p.f.attr) →
    (∀ p ∈ ps, PFokW p) → (∀ p ∈ ps, kindOf p.f.attr = .plain) →
    ∃ b, secLoop h o.id i ps = some b ∧
      (b = true → ∀ j p, ps[j]? = some p → skipped h (i + j) p = false → satisfies o p.f = true) ∧
      ((∀ p ∈ ps, satisfies o p.f = true) → b = true) := by
  intro ps
  let Q : Nat → PF → Prop := fun idx q => skipped h idx q = false → satisfies o q.f = true
  induction ps with
  | nil => exact fun i _ _ _ => ⟨true, rfl, fun _ => allFrom_nil Q i, fun _ => rfl⟩
  | cons p r ih =>
    intro i hget hok hk
    obtain ⟨b, hb, h1, h2⟩ := ih (i + 1) (List.forall_mem_cons.1 hget).2 (List.forall_mem_cons.1 hok).2
      (List.forall_mem_cons.1 hk).2
    have h2' : (∀ q ∈ p :: r, satisfies o q.f = true) → b = true := fun hall => h2 (List.forall_mem_cons.1 hall).2
    rw [secLoop_cons]
    cases hs : skipped h i p
    · rw [if_neg Bool.false_ne_true, hget p List.mem_cons_self, secInner_eq o p.f.attr (p :: r) hok hk]
      cases hall : ((p :: r).filter (fun q => q.f.attr = p.f.attr)).all (fun q => satisfies o q.f)
      · refine ⟨false, rfl, fun hf => Bool.noConfusion hf, fun hsat => ?_⟩
        rw [← hall, List.all_eq_true]
        exact fun q hq => hsat q (List.mem_filter.1 hq).1
      · rw [List.all_eq_true] at hall
        have hp : satisfies o p.f = true := hall p (List.mem_filter.2 ⟨List.mem_cons_self, by simp⟩)
        exact ⟨b, hb, fun hbt => (allFrom_cons Q).2 ⟨fun _ => hp, h1 hbt⟩, h2'⟩
    · rw [if_pos rfl]
      exact ⟨b, hb, fun hbt => (allFrom_cons Q).2 ⟨fun hn => Bool.noConfusion (hs.symm.trans hn), h1 hbt⟩, h2'⟩

/-- evaluation of a primary-attribute filter against a value of the primary index. -/
def pm (p : PF) (w : Bytes) : Bool :=
  if p.f.cop.isInt then p.auto || intBytesMatch w p.f.cop p.raw else matchValues w p.f.cop p.f.cval

/-- is the filter at position `i` checked in the primary loop? -/
def PE (h : HCtx) (i : Nat) (p : PF) : Bool :=
  i = 0 || (p.f.attr = h.f0.attr && p.f.cop.isInt == h.intPrim)

/-- why the primary loop said `stop` at value `w`. -/
def StopWhy (was : Bool) (w : Bytes) (idx : Nat) (p : PF) : Prop :=
  p.f.cop = .np ∨ (pm p w = false ∧
    ((idx = 0 ∧ scattered p.f.attr p.f.cop = false ∧ (was = true ∨ p.f.cop ≠ .gt)) ∨
     (idx > 0 ∧ (p.f.cop = .lt ∨ p.f.cop = .le))))

theorem stopWhy_of_pos {was was' : Bool} {w : Bytes} {idx : Nat} {p : PF} (hidx : 0 < idx)
    (hw : StopWhy was' w idx p) : StopWhy was w idx p :=
  hw.imp id (And.imp_right (Or.imp (fun h0 => absurd h0.1 (Nat.ne_of_gt hidx)) id))

theorem skipped_eq_PE {h : HCtx} (hid : h.idIter = false) (i : Nat) (p : PF) : skipped h i p = PE h i p := by
  unfold skipped PE
  rw [hid]
  rfl

/-- post-condition of the primary loop. -/
def PrimPost (h : HCtx) (w : Bytes) (ps : List PF) (i : Nat) (was : Bool) : PrimRes → Prop
  | .err => False
  | .pass w' =>
      AllFrom (fun idx p => PE h idx p = true → p.f.cop ≠ .np ∧ pm p w = true) i ps ∧
      (w' = true → was = true ∨ (i = 0 ∧ ∃ p, ps.head? = some p ∧ pm p w = true))
  | .skip => AnyFrom (fun idx p => PE h idx p = true ∧ p.f.cop ≠ .np ∧ pm p w = false) i ps
  | .stop => AnyFrom (fun idx p => PE h idx p = true ∧ StopWhy was w idx p) i ps

theorem primPost_cons {h : HCtx} {w : Bytes} {p : PF} {r : List PF} {i : Nat} {was was' : Bool} {res : PrimRes}
    (hp : PE h i p = true → p.f.cop ≠ .np ∧ pm p w = true)
    (hwas : was' = true → was = true ∨ (i = 0 ∧ pm p w = true))
    (hr : PrimPost h w r (i + 1) was' res) : PrimPost h w (p :: r) i was res := by
  cases res with
  | err => exact hr
  | pass w' =>
    refine ⟨(allFrom_cons _).2 ⟨hp, hr.1⟩, fun hw' => ?_⟩
    rcases hr.2 hw' with h1 | ⟨h0, _⟩
    · exact (hwas h1).imp id (And.imp_right fun hpm => ⟨p, rfl, hpm⟩)
    · exact absurd h0 (Nat.succ_ne_zero i)
  | skip =>
    unfold PrimPost at hr ⊢
    exact (anyFrom_cons _).2 (Or.inr hr)
  | stop =>
    unfold PrimPost at hr ⊢
    exact (anyFrom_cons _).2 (Or.inr (anyFrom_imp hr fun j q hq => ⟨hq.1, stopWhy_of_pos (by omega) hq.2⟩))

/-- the loop's own test. -/
theorem not_PE (h : HCtx) (i : Nat) (p : PF) :
    (decide (i > 0) && (decide (p.f.attr ≠ h.f0.attr) || p.f.cop.isInt != h.intPrim)) = !PE h i p := by
  unfold PE
  rcases Nat.eq_zero_or_pos i with rfl | hi
  · rfl
  · rw [decide_eq_false (Nat.ne_of_gt hi), decide_eq_true hi, Bool.true_and, Bool.false_or, Bool.not_and, decide_not]
    rfl

theorem primMatch_plain (p : PF) (w : Bytes) (hk : kindOf p.f.attr = .plain) :
    (if p.f.cop.isInt = true then some (p.auto || intBytesMatch w p.f.cop p.raw)
      else matchPlain p.f.attr w p.f.cop p.f.cval) = some (pm p w) := by
  unfold pm
  split
  · rfl
  · exact matchPlain_plain hk

theorem primLoop_spec (h : HCtx) (w : Bytes) :
    ∀ (ps : List PF) (i : Nat) (was : Bool), (∀ p ∈ ps, kindOf p.f.attr = .plain) →
    match primLoop h w i ps was with
    | .err => False
    | .pass w' =>
        (∀ j p, ps[j]? = some p → PE h (i + j) p = true → p.f.cop ≠ .np ∧ pm p w = true) ∧
        (w' = true → was = true ∨ (i = 0 ∧ ∃ p, ps.head? = some p ∧ pm p w = true))
    | .skip => ∃ j p, ps[j]? = some p ∧ PE h (i + j) p = true ∧ p.f.cop ≠ .np ∧ pm p w = false
    | .stop => ∃ j p, ps[j]? = some p ∧ PE h (i + j) p = true ∧ StopWhy was w (i + j) p := by
  intro ps
  induction ps with
  | nil => exact fun i was _ => show PrimPost h w [] i was (.pass was) from ⟨allFrom_nil _ i, Or.inl⟩
  | cons p r ih =>
    intro i was hk
    obtain ⟨hkp, hkr⟩ := List.forall_mem_cons.1 hk
    show PrimPost h w (p :: r) i was (primLoop h w i (p :: r) was)
    unfold primLoop
    simp only
    rw [not_PE]
    cases hpe : PE h i p
    · exact primPost_cons (fun hh => Bool.noConfusion (hpe.symm.trans hh)) Or.inl (ih (i + 1) was hkr)
    have here : (p :: r)[0]? = some p ∧ PE h (i + 0) p = true := ⟨rfl, hpe⟩
    rw [Bool.not_true, if_neg Bool.false_ne_true]
    by_cases hnp : p.f.cop = .np
    · rw [if_pos hnp]
      exact ⟨0, p, here.1, here.2, Or.inl hnp⟩
    rw [if_neg hnp, primMatch_plain p w hkp]
    cases hpm : pm p w
    · -- mismatch
      rcases Nat.eq_zero_or_pos i with rfl | hi0
      · rw [if_pos rfl]
        by_cases hc : (!scattered p.f.attr p.f.cop && (was || decide (p.f.cop ≠ .gt))) = true
        · rw [if_pos hc]
          simp only [Bool.and_eq_true, Bool.not_eq_true', Bool.or_eq_true, decide_eq_true_eq] at hc
          exact ⟨0, p, here.1, here.2, Or.inr ⟨hpm, Or.inl ⟨rfl, hc.1, hc.2⟩⟩⟩
        · rw [if_neg hc]
          exact ⟨0, p, here.1, here.2, hnp, hpm⟩
      · rw [if_neg (Nat.ne_of_gt hi0)]
        by_cases hc : p.f.cop = .lt ∨ p.f.cop = .le
        · rw [if_pos hc]
          exact ⟨0, p, here.1, here.2, Or.inr ⟨hpm, Or.inr ⟨hi0, hc⟩⟩⟩
        · rw [if_neg hc]
          exact ⟨0, p, here.1, here.2, hnp, hpm⟩
    · -- match
      refine primPost_cons (fun _ => ⟨hnp, hpm⟩) (fun hw' => ?_) (ih (i + 1) (if i = 0 then true else was) hkr)
      by_cases hi0 : i = 0
      · exact Or.inr ⟨hi0, hpm⟩
      · rw [if_neg hi0] at hw'; exact Or.inl hw'

/-! ### one element of the scanned index -/

def HCtx.p0 (h : HCtx) : PF := h.fs.headD { f := ⟨[], .eq, []⟩ }
theorem HCtx.f0_eq (h : HCtx) : h.f0 = h.p0.f := rfl

def fsOf (h : HCtx) : List Filter := h.fs.map (·.f)

theorem fs_eq_p0_cons {h : HCtx} (hne : h.fs ≠ []) : h.fs = h.p0 :: h.fs.tail := by
  unfold HCtx.p0
  cases hfs : h.fs with
  | nil => exact absurd hfs hne
  | cons q r => rfl

theorem p0_of_getElem?_zero {h : HCtx} {p : PF} (hp : h.fs[0]? = some p) : p = h.p0 := by
  rw [fs_eq_p0_cons (fun e => by rw [e] at hp; cases hp)] at hp
  exact (Option.some.inj hp).symm

theorem fsOf_eq_cons {h : HCtx} (hne : h.fs ≠ []) : fsOf h = h.f0 :: h.fs.tail.map (·.f) := by
  unfold fsOf
  rw [fs_eq_p0_cons hne]
  rfl

theorem mem_fsOf {h : HCtx} {idx : Nat} {p : PF} (hget : h.fs[idx]? = some p) : p.f ∈ fsOf h :=
  List.mem_map.2 ⟨p, List.mem_of_getElem? hget, rfl⟩

theorem orderOf_fsOf (h : HCtx) (hne : h.fs ≠ []) :
    orderOf (fsOf h) h.attrs = if h.idIter then .byId else if h.intPrim then .byInt else .byBytes := by
  rw [fsOf_eq_cons hne]
  rfl

theorem primVal_fsOf (h : HCtx) (hne : h.fs ≠ []) (o : Obj) :
    primVal (fsOf h) o = (lookup o h.f0.attr).getD [] := by
  rw [fsOf_eq_cons hne]
  rfl

/-- how the stored value `w` of the scanned element relates to the object. -/
def EntryRel (h : HCtx) (o : Obj) (w : Bytes) : Prop :=
  if h.idIter then w = []
  else if h.intPrim then ∃ v z, lookup o h.f0.attr = some v ∧ parseInt v = some z ∧ w = encode z
  else lookup o h.f0.attr = some w

section
variable {h : HCtx} {o : Obj} {w : Bytes}

theorem entryRel_idIter (hid : h.idIter = true) : EntryRel h o w ↔ w = [] := by
  unfold EntryRel
  rw [if_pos hid]

theorem entryRel_int (hid : h.idIter = false) (hip : h.intPrim = true) :
    EntryRel h o w ↔ ∃ v z, lookup o h.f0.attr = some v ∧ parseInt v = some z ∧ w = encode z := by
  unfold EntryRel
  rw [if_neg (by simp [hid]), if_pos hip]

theorem entryRel_bytes (hid : h.idIter = false) (hip : h.intPrim = false) :
    EntryRel h o w ↔ lookup o h.f0.attr = some w := by
  unfold EntryRel
  rw [if_neg (by simp [hid]), if_neg (by simp [hip])]

end

theorem entryRel_has (h : HCtx) (o : Obj) (w : Bytes) (hrel : EntryRel h o w) (hni : h.idIter = false) :
    ∃ v, lookup o h.f0.attr = some v := by
  cases hip : h.intPrim
  · exact ⟨w, (entryRel_bytes hni hip).1 hrel⟩
  · obtain ⟨v, _, hv, _⟩ := (entryRel_int hni hip).1 hrel
    exact ⟨v, hv⟩

theorem PE_facts {h : HCtx} {idx : Nat} {p : PF} (hget : h.fs[idx]? = some p) (hpe : PE h idx p = true) :
    p.f.attr = h.f0.attr ∧ p.f.cop.isInt = h.intPrim := by
  simp only [PE, Bool.or_eq_true, decide_eq_true_eq, Bool.and_eq_true, beq_iff_eq] at hpe
  rcases hpe with rfl | hpe
  · rw [p0_of_getElem?_zero hget]
    exact ⟨rfl, rfl⟩
  · exact hpe

theorem pm_sat (h : HCtx) (o : Obj) (w : Bytes) (hrel : EntryRel h o w) (hni : h.idIter = false)
    (hpf : ∀ idx p, h.fs[idx]? = some p → PFok h.f0 idx p) (hkf : ∀ p ∈ h.fs, kindOf p.f.attr = .plain)
    {idx : Nat} {p : PF} (hget : h.fs[idx]? = some p) (hpe : PE h idx p = true) (hnp : p.f.cop ≠ .np) :
    pm p w = satisfies o p.f := by
  obtain ⟨hattr, hkind⟩ := PE_facts hget hpe
  have hk := hkf p (List.mem_of_getElem? hget)
  unfold pm satisfies
  by_cases hip : h.intPrim = true
  · obtain ⟨v, z, hv, hz, rfl⟩ := (entryRel_int hni hip).1 hrel
    have hi : p.f.cop.isInt = true := hkind.trans hip
    obtain ⟨x, hx, hauto, hraw⟩ := hpf idx p hget hi
    rw [hattr, hv]
    simp only [hi, if_true, hnp, if_false, hz, hx]
    have hzw := parseInt_wf hz
    by_cases ha : p.auto = true
    · simp [ha, auto_sat hzw (hauto ha)]
    · have ha' : p.auto = false := by simpa using ha
      rw [hraw ha' (Or.inr ⟨hip, hattr⟩), ha', Bool.false_or, intBytesMatch_encode z x hzw (parseInt_wf hx)]
  · have hip : h.intPrim = false := by simpa using hip
    have hrel := (entryRel_bytes hni hip).1 hrel
    have hi : p.f.cop.isInt = false := hkind.trans hip
    rw [hattr, hrel]
    simp only [hi, Bool.false_eq_true, if_false, hnp]
    rw [← hattr, matchPlain_plain hk]
    simp

theorem isMatch_false_of (fs : List Filter) (o : Obj) (f : Filter) (hf : f ∈ fs) (hs : satisfies o f = false) :
    isMatch fs o = false := by
  unfold isMatch
  rw [List.all_eq_false.2 ⟨f, hf, by simp [hs]⟩, Bool.and_false]

theorem prim_unmatched (h : HCtx) (o : Obj) (w : Bytes) (hrel : EntryRel h o w) (hni : h.idIter = false)
    (hpf : ∀ idx p, h.fs[idx]? = some p → PFok h.f0 idx p) (hkf : ∀ p ∈ h.fs, kindOf p.f.attr = .plain)
    {idx : Nat} {p : PF} (hget : h.fs[idx]? = some p) (hpe : PE h idx p = true)
    (hfail : p.f.cop = .np ∨ pm p w = false) : isMatch (fsOf h) o = false := by
  refine isMatch_false_of _ o p.f (mem_fsOf hget) ?_
  by_cases hnp : p.f.cop = .np
  · -- `NOT_PRESENT` of a present attribute
    obtain ⟨v, hv⟩ := entryRel_has h o w hrel hni
    unfold satisfies
    rw [(PE_facts hget hpe).1, hv]
    simp [hnp]
  · rw [← pm_sat h o w hrel hni hpf hkf hget hpe hnp]
    exact hfail.resolve_left hnp

theorem collectRest_spec (h : HCtx) (o : Obj) :
    ∀ (as : List Bytes), (∀ a ∈ as, h.get o.id a = lookup o a) → (∀ a ∈ as, kindOf a = .plain) →
      collectRest h o.id as = some (as.map (fun a => (restore a ((lookup o a).getD [])).getD [])) := by
  intro as
  induction as with
  | nil => intro _ _; rfl
  | cons a r ih =>
    intro hget hk
    obtain ⟨hka, hkr⟩ := List.forall_mem_cons.1 hk
    unfold collectRest
    rw [ih (List.forall_mem_cons.1 hget).2 hkr, hget a List.mem_cons_self]
    simp [restore_plain hka]

theorem collect_spec (h : HCtx) (hne : h.fs ≠ []) (o : Obj) (w : Bytes)
    (hrel : EntryRel h o w) (hget : ∀ a ∈ h.attrs, h.get o.id a = lookup o a)
    (hkf : ∀ p ∈ h.fs, kindOf p.f.attr = .plain) (hka : ∀ a ∈ h.attrs, kindOf a = .plain) :
    collect h o.id w = some (itemOf (fsOf h) h.attrs o).attrs := by
  have hk0 : kindOf h.f0.attr = .plain := by
    rw [HCtx.f0_eq]; exact hkf _ (by rw [fs_eq_p0_cons hne]; exact List.mem_cons_self)
  have hor := orderOf_fsOf h hne
  have hpv := primVal_fsOf h hne o
  unfold collect
  cases hat : h.attrs with
  | nil => rfl
  | cons a rest =>
    rw [hat] at hget hka hor
    dsimp only
    rw [collectRest_spec h o rest (List.forall_mem_cons.1 hget).2 (List.forall_mem_cons.1 hka).2]
    have first : (if h.intPrim = true then restoreInt w else restore h.f0.attr w) =
        some (match orderOf (fsOf h) (a :: rest) with
          | .byInt => (match parseInt (primVal (fsOf h) o) with
                       | some z => (toDec z).map Char.toNat
                       | none => [])
          | .byBytes => (restore h.f0.attr (primVal (fsOf h) o)).getD []
          | .byId => (restore h.f0.attr []).getD []) := by
      rw [hor, hpv]
      cases hid : h.idIter
      swap
      · have hip : h.intPrim = false := by
          have : h.f0.cop = .np := by simpa [HCtx.idIter, hat] using hid
          simp [HCtx.intPrim, this, Op.isInt]
        simp [hip, (entryRel_idIter hid).1 hrel, restore_plain hk0]
      cases hip : h.intPrim
      · simp [(entryRel_bytes hid hip).1 hrel, restore_plain hk0]
      · obtain ⟨v, z, hv, hz, rfl⟩ := (entryRel_int hid hip).1 hrel
        simp [hv, hz, restoreInt, decode_encode z (parseInt_wf hz)]
    rw [first, fsOf_eq_cons hne]
    rfl

/-- the attributes the handler looks up through the ID-to-attribute index. -/
def attrsOf (h : HCtx) : List Bytes := h.fs.map (·.f.attr) ++ h.attrs

/-- the "was" flag is only raised by a match of the first filter. -/
def WasInv (h : HCtx) (was was' : Bool) (w : Bytes) : Prop :=
  was' = true → was = true ∨ (h.idIter = false ∧ pm h.p0 w = true)

/-- post-condition of a verdict. -/
def VerdictPost (h : HCtx) (o : Obj) (w : Bytes) (was : Bool) : Verdict × Bool → Prop
  | (.err, _) => False
  | (.stop, _) => isMatch (fsOf h) o = false ∧ h.idIter = false ∧
      ∃ idx p, h.fs[idx]? = some p ∧ PE h idx p = true ∧ StopWhy was w idx p
  | (.skip, was') => isMatch (fsOf h) o = false ∧ WasInv h was was' w
  | (.take it, was') => isMatch (fsOf h) o = true ∧ it = itemOf (fsOf h) h.attrs o ∧ WasInv h was was' w

/-- the handler's verdict on one element of the scanned index, against the declarative match. -/
theorem verdictE_spec (h : HCtx) (hne : h.fs ≠ []) (o : Obj) (w : Bytes) (was : Bool)
    (hrel : EntryRel h o w) (hget : ∀ a ∈ attrsOf h, h.get o.id a = lookup o a) (havail : h.avail o.id = o.avail)
    (hpf : ∀ idx p, h.fs[idx]? = some p → PFok h.f0 idx p)
    (hkf : ∀ p ∈ h.fs, kindOf p.f.attr = .plain) (hka : ∀ a ∈ h.attrs, kindOf a = .plain) :
    match verdictE h was w o.id with
    | (.err, _) => False
    | (.stop, _) => isMatch (fsOf h) o = false ∧ h.idIter = false ∧
        ∃ idx p, h.fs[idx]? = some p ∧ PE h idx p = true ∧ StopWhy was w idx p
    | (.skip, was') => isMatch (fsOf h) o = false ∧ WasInv h was was' w
    | (.take it, was') => isMatch (fsOf h) o = true ∧ it = itemOf (fsOf h) h.attrs o ∧ WasInv h was was' w := by
  show VerdictPost h o w was (verdictE h was w o.id)
  -- the part after the primary loop, for any flag value
  have tail : ∀ was', WasInv h was was' w →
      (∀ idx p, h.fs[idx]? = some p → skipped h idx p = true → satisfies o p.f = true) →
      VerdictPost h o w was
        (match secLoop h o.id 0 h.fs with
          | none => (Verdict.err, was')
          | some false => (Verdict.skip, was')
          | some true =>
            if !h.avail o.id then (Verdict.skip, was')
            else match collect h o.id w with
              | none => (Verdict.err, was')
              | some vs => (Verdict.take ⟨o.id, vs⟩, was')) := by
    intro was' hinv hprim
    obtain ⟨b, hb, h1, h2⟩ := secLoop_spec h o h.fs 0
      (fun p hp => hget _ (List.mem_append_left _ (List.mem_map.2 ⟨p, hp, rfl⟩)))
      (fun p hp => let ⟨idx, hidx⟩ := List.getElem?_of_mem hp; ⟨h.f0, idx, hpf idx p hidx⟩) hkf
    rw [hb]
    cases b with
    | false =>
      refine ⟨?_, hinv⟩
      unfold isMatch
      cases hall : (fsOf h).all (satisfies o) with
      | false => exact Bool.and_false _
      | true =>
        rw [List.all_eq_true] at hall
        exact Bool.noConfusion (h2 fun p hp => hall p.f (List.mem_map.2 ⟨p, hp, rfl⟩))
    | true =>
      have hall : (fsOf h).all (satisfies o) = true := by
        rw [List.all_eq_true]
        intro f hf
        obtain ⟨p, hp, rfl⟩ := List.mem_map.1 hf
        obtain ⟨idx, hidx⟩ := List.getElem?_of_mem hp
        cases hsk : skipped h idx p
        · exact h1 rfl idx p hidx (by rw [Nat.zero_add]; exact hsk)
        · exact hprim idx p hidx hsk
      cases hav : o.avail
      · rw [havail, hav]
        exact ⟨by rw [isMatch, hav]; rfl, hinv⟩
      · rw [havail, hav, collect_spec h hne o w hrel (fun a ha => hget a (List.mem_append_right _ ha)) hkf hka]
        refine ⟨by rw [isMatch, hav, hall]; rfl, ?_, hinv⟩
        cases h.attrs <;> rfl
  unfold verdictE
  by_cases hid : h.idIter = true
  · rw [if_pos hid]
    exact tail was Or.inl fun idx p _ hsk => by simp [skipped, hid] at hsk
  have hid' : h.idIter = false := by simpa using hid
  rw [if_neg hid]
  have hp := primLoop_spec h w h.fs 0 was hkf
  have unmatched := fun idx p => prim_unmatched h o w hrel hid' hpf hkf (idx := idx) (p := p)
  generalize primLoop h w 0 h.fs was = res at hp ⊢
  cases res with
  | err => exact hp
  | stop =>
    obtain ⟨j, p, hj, hpe, hwhy⟩ := hp
    rw [Nat.zero_add] at hpe hwhy
    exact ⟨unmatched j p hj hpe (hwhy.imp id And.left), hid', j, p, hj, hpe, hwhy⟩
  | skip =>
    obtain ⟨j, p, hj, hpe, hnp, hpm⟩ := hp
    rw [Nat.zero_add] at hpe
    exact ⟨unmatched j p hj hpe (Or.inr hpm), Or.inl⟩
  | pass was' =>
    refine tail was' (fun hw => ?_) fun idx p hidx hsk => ?_
    · rcases hp.2 hw with hw | ⟨_, q, hq, hpm⟩
      · exact Or.inl hw
      · rw [List.head?_eq_getElem?] at hq
        exact Or.inr ⟨hid', p0_of_getElem?_zero hq ▸ hpm⟩
    · have hpe : PE h idx p = true := skipped_eq_PE hid' idx p ▸ hsk
      obtain ⟨hnp, hpm⟩ := hp.1 idx p hidx (by rw [Nat.zero_add]; exact hpe)
      rw [← pm_sat h o w hrel hid' hpf hkf hidx hpe hnp]
      exact hpm

/-! ### a `stop` is safe: nothing further in the index can match -/

/-- what the seek position guarantees about every scanned value, relative to the first filter. -/
def LB (p0 : PF) (w : Bytes) : Prop :=
  ((p0.f.cop = .eq ∨ p0.f.cop = .pfx) → bLe p0.f.cval w) ∧
  (p0.f.cop = .ge → p0.auto = false → bLe p0.raw w)

theorem lexCmp_ne_lt_iff (a b : Bytes) : lexCmp a b ≠ .lt ↔ bLe b a :=
  not_congr (lexCmp_gt_iff b a).symm

theorem pm_upper_anti (p : PF) (w w' : Bytes) (hc : p.f.cop = .lt ∨ p.f.cop = .le) (hle : bLe w w')
    (hpm : pm p w = false) : pm p w' = false := by
  unfold pm at hpm ⊢
  rcases hc with hc | hc
  · simp only [hc, Op.isInt, if_true, Bool.or_eq_false_iff, intBytesMatch, beq_eq_false_iff_ne, ne_eq] at hpm ⊢
    exact ⟨hpm.1, fun h => hpm.2 (bLt_of_bLe_of_bLt hle h)⟩
  · simp only [hc, Op.isInt, if_true, Bool.or_eq_false_iff, intBytesMatch, bne_eq_false_iff_eq] at hpm ⊢
    exact ⟨hpm.1, (lexCmp_gt_iff w' p.raw).2 (bLt_of_bLt_of_bLe ((lexCmp_gt_iff w p.raw).1 hpm.2) hle)⟩

theorem pm_gt_mono (p : PF) (w w' : Bytes) (hcop : p.f.cop = .gt) (hle : bLe w w') (hpm : pm p w = true) :
    pm p w' = true := by
  unfold pm at hpm ⊢
  simp only [hcop, Op.isInt, if_true, Bool.or_eq_true, intBytesMatch, beq_iff_eq] at hpm ⊢
  exact hpm.imp id fun hg => (lexCmp_gt_iff w' p.raw).2 (bLt_of_bLt_of_bLe ((lexCmp_gt_iff w p.raw).1 hg) hle)

theorem stop_safe (p0 p : PF) (was : Bool) (w w' : Bytes) (idx : Nat)
    (hwhy : StopWhy was w idx p) (hle : bLe w w') (hlb : LB p0 w) (hp0 : idx = 0 → p = p0)
    (hwas : was = true → p0.f.cop = .gt → pm p0 w = true) (hk : kindOf p.f.attr = .plain) :
    p.f.cop = .np ∨ pm p w' = false := by
  rcases hwhy with hnp | ⟨hpm, ⟨h0, hsc, hgt⟩ | ⟨_, hc⟩⟩
  · exact Or.inl hnp
  swap
  · exact Or.inr (pm_upper_anti p w w' hc hle hpm)
  -- the first filter
  right
  obtain rfl := hp0 h0
  rw [scattered_plain hk] at hsc
  cases hcop : p.f.cop with
  | eq =>
    have hc := hlb.1 (Or.inl hcop)
    unfold pm at hpm ⊢
    simp only [hcop, Op.isInt, Bool.false_eq_true, if_false, matchValues, beq_eq_false_iff_ne, ne_eq] at hpm ⊢
    rintro rfl
    exact hpm (bLe_antisymm hle hc)
  | ne => rw [hcop] at hsc; cases hsc
  | pfx =>
    have hc := hlb.1 (Or.inr hcop)
    unfold pm at hpm ⊢
    simp only [hcop, Op.isInt, Bool.false_eq_true, if_false, matchValues] at hpm ⊢
    cases hpre : p.f.cval.isPrefixOf w' with
    | false => rfl
    | true =>
      have := List.isPrefixOf_iff_prefix.2 (prefix_convex hc hle (List.isPrefixOf_iff_prefix.1 hpre))
      rw [this] at hpm; cases hpm
  | np => unfold pm; simp [hcop, Op.isInt, matchValues]
  | flag => unfold pm; simp [hcop, Op.isInt, matchValues]
  | gt =>
    rcases hgt with hw | hw
    · rw [hwas hw hcop] at hpm; cases hpm
    · exact absurd hcop hw
  | ge =>
    unfold pm at hpm
    simp only [hcop, Op.isInt, if_true, Bool.or_eq_false_iff, intBytesMatch, bne_eq_false_iff_eq] at hpm
    exact absurd hpm.2 ((lexCmp_ne_lt_iff w p.raw).2 (hlb.2 hcop hpm.1))
  | lt => exact pm_upper_anti p w w' (Or.inl hcop) hle hpm
  | le => exact pm_upper_anti p w w' (Or.inr hcop) hle hpm

/-- the expected result of one scanned object. -/
def expOf (h : HCtx) (o : Obj) : Option Item :=
  if isMatch (fsOf h) o then some (itemOf (fsOf h) h.attrs o) else none

/-- The handler's verdicts over ANY list of index elements that is sorted by stored value, lies above the
seek bound and splits/looks up correctly agree with the declarative match; every early stop is safe. -/
theorem verdictOK_entries (h : HCtx) (hne : h.fs ≠ []) (val : Obj → Bytes) (key : Obj → Bytes)
    (hpf : ∀ idx p, h.fs[idx]? = some p → PFok h.f0 idx p)
    (hkf : ∀ p ∈ h.fs, kindOf p.f.attr = .plain) (hka : ∀ a ∈ h.attrs, kindOf a = .plain) :
    ∀ (os : List Obj) (was : Bool),
      (∀ o ∈ os, splitKey h (key o) = some (val o, oidBytes o.id)) →
      (∀ o ∈ os, fromBE (oidBytes o.id) = o.id) →
      (∀ o ∈ os, EntryRel h o (val o)) →
      (∀ o ∈ os, ∀ a ∈ attrsOf h, h.get o.id a = lookup o a) →
      (∀ o ∈ os, h.avail o.id = o.avail) →
      os.Pairwise (fun a b => bLe (val a) (val b)) →
      (∀ o ∈ os, LB h.p0 (val o)) →
      (was = true → h.p0.f.cop = .gt → ∀ o ∈ os, pm h.p0 (val o) = true) →
      VerdictOK h key (expOf h) os was := by
  intro os
  induction os with
  | nil => intro _ _ _ _ _ _ _ _ _; trivial
  | cons o r ih =>
    intro was hkey hid hrel hget havail hsorted hlb hwas
    obtain ⟨hkey0, hkeyr⟩ := List.forall_mem_cons.1 hkey
    obtain ⟨hid0, hidr⟩ := List.forall_mem_cons.1 hid
    obtain ⟨hrel0, hrelr⟩ := List.forall_mem_cons.1 hrel
    obtain ⟨hget0, hgetr⟩ := List.forall_mem_cons.1 hget
    obtain ⟨hav0, havr⟩ := List.forall_mem_cons.1 havail
    obtain ⟨hlb0, hlbr⟩ := List.forall_mem_cons.1 hlb
    obtain ⟨hs0, hsr⟩ := List.pairwise_cons.1 hsorted
    have hspec : VerdictPost h o (val o) was (verdictE h was (val o) o.id) :=
      verdictE_spec h hne o (val o) was hrel0 hget0 hav0 hpf hkf hka
    -- the flag invariant for the rest
    have rest : ∀ was', WasInv h was was' (val o) → VerdictOK h key (expOf h) r was' := fun was' hinv =>
      ih was' hkeyr hidr hrelr hgetr havr hsr hlbr fun hw' hgt x hx =>
        (hinv hw').elim (fun hw => hwas hw hgt x (List.mem_cons_of_mem _ hx))
          (fun hpm => pm_gt_mono h.p0 (val o) (val x) hgt (hs0 x hx) hpm.2)
    unfold VerdictOK
    rw [show verdict h was (key o) = verdictE h was (val o) o.id by unfold verdict; rw [hkey0]; dsimp only; rw [hid0]]
    generalize verdictE h was (val o) o.id = v at hspec ⊢
    obtain ⟨v, was'⟩ := v
    cases v with
    | err => exact hspec
    | stop =>
      obtain ⟨hm, hni, idx, p, hidx, hpe, hwhy⟩ := hspec
      refine ⟨by simp [expOf, hm], fun x hx => ?_⟩
      have hsafe := stop_safe h.p0 p was (val o) (val x) idx hwhy (hs0 x hx) hlb0
        (fun h0 => p0_of_getElem?_zero (h0 ▸ hidx)) (fun hw hg => hwas hw hg o List.mem_cons_self)
        (hkf p (List.mem_of_getElem? hidx))
      simp [expOf, prim_unmatched h x (val x) (hrelr x hx) hni hpf hkf hidx hpe hsafe]
    | skip => exact ⟨by simp [expOf, hspec.1], rest was' hspec.2⟩
    | take it => exact ⟨by simp [expOf, hspec.1, hspec.2.1], rest was' hspec.2.2⟩

end NeoFS.Search
