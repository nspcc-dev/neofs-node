import NeoFS.Lemmas.PolicerCluster
/-! Progress of one pass over one REP list in a healthy network (for `Props/C27.lean`). -/
namespace NeoFS.Policer

/-- a healthy, truthful network as one pass sees it: nobody under maintenance, every node answers `holds` or
`notFound`, every replication succeeds, the local object is readable -/
structure Healthy (e : Env) : Prop where
  flag : ∀ n, e.flag n = false
  ans : ∀ n, e.ans n = .holds ∨ e.ans n = .notFound
  repl : ∀ n, e.repl n = true
  readable : e.readable = true

theorem clusterEnv_healthy (hold : List Nat) (me : Nat) : Healthy (clusterEnv [] [] hold me) :=
  ⟨fun _ => rfl, fun n => by simp only [clusterEnv, List.contains_nil, Bool.false_eq_true, if_false]; split_ifs <;> simp,
    fun _ => by simp [clusterEnv], rfl⟩

theorem Healthy.ans_ne {e : Env} (he : Healthy e) (n : Nat) : e.ans n ≠ .maint ∧ e.ans n ≠ .err := by
  rcases he.ans n with h | h <;> simp [h]

/-- what the node loop leaves behind in a healthy network: `G` = the nodes that lowered the shortage (holders and
the local node), `K` = the candidates it collected (nodes that do not hold the object) -/
structure WalkOut (e : Env) (ns : List Nat) (c c' : Ctx) (l l' : Loop) (G K : List Nat) : Prop where
  cands : l'.cands = l.cands ++ K
  unchecked : l'.unchecked = l.unchecked
  gnd : G.Nodup
  knd : K.Nodup
  gok : ∀ g ∈ G, g ∈ ns ∧ (g = e.me ∨ e.ans g = .holds)
  kok : ∀ k ∈ K, k ∈ ns ∧ k ≠ e.me ∧ e.ans k = .notFound
  short : l'.shortage + G.length = l.shortage
  all : l'.shortage > 0 → G.length + K.length = ns.length
  need : e.me ∈ G → c'.need = true
  tasks : c'.tasks = c.tasks

section
variable {e : Env} {a : Nat} {as : List Nat} {c c1 c' : Ctx} {l l' : Loop} {G K : List Nat}

theorem WalkOut.stop (ns : List Nat) (h : l.shortage > 0 → ns = []) : WalkOut e ns c c l l [] [] :=
  ⟨(List.append_nil _).symm, rfl, List.nodup_nil, List.nodup_nil, nofun, nofun, rfl, fun hs => by rw [h hs]; rfl, nofun, rfl⟩

/-! the summary over `as` extended to `a :: as` -/

theorem WalkOut.skip (w : WalkOut e as c1 c' l l' G K) (h0 : l.shortage = 0) (ht : c1.tasks = c.tasks) :
    WalkOut e (a :: as) c c' l l' G K :=
  ⟨w.cands, w.unchecked, w.gnd, w.knd, fun g hg => ⟨List.mem_cons_of_mem _ (w.gok g hg).1, (w.gok g hg).2⟩,
    fun k hk => ⟨List.mem_cons_of_mem _ (w.kok k hk).1, (w.kok k hk).2⟩, w.short,
    fun h => by have := w.short; omega, w.need, w.tasks.trans ht⟩

theorem WalkOut.consG (w : WalkOut e as c1 c' { l with shortage := l.shortage - 1 } l' G K) (ha : a ∉ as)
    (h0 : l.shortage ≠ 0) (ht : c1.tasks = c.tasks) (hg : a = e.me ∨ e.ans a = .holds)
    (hn : a = e.me → c'.need = true) : WalkOut e (a :: as) c c' l l' (a :: G) K := by
  refine ⟨w.cands, w.unchecked, List.nodup_cons.mpr ⟨fun h => ha (w.gok a h).1, w.gnd⟩, w.knd, ?_,
    fun k hk => ⟨List.mem_cons_of_mem _ (w.kok k hk).1, (w.kok k hk).2⟩, ?_, ?_, ?_, w.tasks.trans ht⟩
  · intro g hg'
    rcases List.mem_cons.mp hg' with rfl | hg'
    · exact ⟨List.mem_cons_self, hg⟩
    · exact ⟨List.mem_cons_of_mem _ (w.gok g hg').1, (w.gok g hg').2⟩
  · rw [List.length_cons, ← Nat.add_assoc, w.short]
    exact Nat.sub_add_cancel (Nat.pos_of_ne_zero h0)
  · intro h
    rw [List.length_cons, List.length_cons, Nat.add_right_comm, w.all h]
  · intro h
    rcases List.mem_cons.mp h with h | h
    · exact hn h.symm
    · exact w.need h

theorem WalkOut.consK (w : WalkOut e as c1 c' { l with cands := l.cands ++ [a] } l' G K) (ha : a ∉ as)
    (ht : c1.tasks = c.tasks) (hl : a ≠ e.me) (hans : e.ans a = .notFound) :
    WalkOut e (a :: as) c c' l l' G (a :: K) := by
  refine ⟨by rw [w.cands]; simp, w.unchecked, w.gnd, List.nodup_cons.mpr ⟨fun h => ha (w.kok a h).1, w.knd⟩,
    fun g hg => ⟨List.mem_cons_of_mem _ (w.gok g hg).1, (w.gok g hg).2⟩, ?_, w.short, ?_, w.need, w.tasks.trans ht⟩
  · intro k hk
    rcases List.mem_cons.mp hk with rfl | hk
    · exact ⟨List.mem_cons_self, hl, hans⟩
    · exact ⟨List.mem_cons_of_mem _ (w.kok k hk).1, (w.kok k hk).2⟩
  · intro h
    rw [List.length_cons, List.length_cons, ← Nat.add_assoc, w.all h]

end

theorem walk_progress (e : Env) (he : Healthy e) (ns : List Nat) (nd : ns.Nodup) (c : Ctx) (l : Loop)
    (hc : ∀ n ∈ ns, cacheGet c.cache n = none) :
    ∃ G K, WalkOut e ns c (walk e c l ns).1 l (walk e c l ns).2 G K := by
  induction ns generalizing c l with
  | nil => exact ⟨[], [], .stop [] fun _ => rfl⟩
  | cons a as ih =>
    obtain ⟨nda, ndas⟩ := List.nodup_cons.mp nd
    unfold walk
    split_ifs with hstop
    · simp only [Bool.and_eq_true, decide_eq_true_eq] at hstop
      exact ⟨[], [], .stop _ fun h => absurd hstop.2 (Nat.ne_of_gt h)⟩
    · dsimp only
      -- the later nodes stay uncached
      have same : ∀ n ∈ as, cacheGet c.cache n = none := fun n hn => hc n (List.mem_cons_of_mem _ hn)
      have entered : ∀ v, ∀ n ∈ as, cacheGet ((a, v) :: c.cache) n = none := fun v n hn =>
        (cacheGet_cons_ne _ _ _ _ fun (heq : n = a) => nda (heq ▸ hn)).trans (same n hn)
      refine nodeStep_cases (P := fun r => ∃ G K, WalkOut e (a :: as) c (walk e r.1 r.2 as).1 l (walk e r.1 r.2 as).2 G K)
        ?_ ?_ ?_ ?_ ?_ ?_ ?_ ?_
      · exact fun h0 => (ih ndas (seen e c a) l same).elim fun G ⟨K, w⟩ => ⟨G, K, w.skip h0 rfl⟩
      · exact fun h0 hl => (ih ndas { seen e c a with need := true } _ same).elim fun G ⟨K, w⟩ =>
          ⟨a :: G, K, w.consG nda h0 rfl (Or.inl hl) fun _ => (walk_mono e as _ _).need rfl⟩
      · intro _ hf
        rw [he.flag a] at hf
        cases hf
      · intro b hb
        rw [hc a List.mem_cons_self] at hb
        cases hb
      · exact fun f hans => (ih ndas _ _ (entered false)).elim fun G ⟨K, w⟩ =>
          ⟨G, a :: K, w.consK nda rfl f.remote hans⟩
      · exact fun _ hans => absurd hans (he.ans_ne a).1
      · exact fun _ hans => absurd hans (he.ans_ne a).2
      · exact fun f hans => (ih ndas _ _ (entered true)).elim fun G ⟨K, w⟩ =>
          ⟨a :: G, K, w.consG nda f.short rfl (Or.inr hans) fun h => absurd h f.remote⟩

/-- one pass over one list of distinct nodes in a healthy network, starting with an empty node cache: afterwards as
many distinct nodes of the list as the rule asks for hold the object — each is the local node (which then keeps its
copy), a node that answered `holds`, or a node the replicator reported a successful replication to -/
theorem processNodes_progress (e : Env) (he : Healthy e) (typ : OType) (nodes : List Nat) (nd : nodes.Nodup) (r : Nat)
    (hs : startShortage typ nodes r ≤ nodes.length) :
    ∃ D : List Nat, D.Nodup ∧ D.length = startShortage typ nodes r ∧ ∀ n ∈ D, n ∈ nodes ∧
      ((n = e.me ∧ (processNodes e false typ {} nodes r).need = true) ∨
       (n ≠ e.me ∧ (e.ans n = .holds ∨ ∃ t ∈ (processNodes e false typ {} nodes r).tasks, n ∈ t.done))) := by
  obtain ⟨G, K, w⟩ := walk_progress e he nodes nd {} { shortage := startShortage typ nodes r }
    (fun _ _ => rfl)
  unfold processNodes
  dsimp only
  generalize walk e {} { shortage := startShortage typ nodes r } nodes = res at w
  obtain ⟨c', l'⟩ := res
  dsimp only at w ⊢
  have hK : l'.cands = K := w.cands
  have hsh : l'.shortage + G.length = startShortage typ nodes r := w.short
  -- `G`: the local node keeps its copy, the others answered `holds`
  have gmem : ∀ cf : Ctx, (c'.need = true → cf.need = true) → ∀ g ∈ G, g ∈ nodes ∧
      ((g = e.me ∧ cf.need = true) ∨ (g ≠ e.me ∧ (e.ans g = .holds ∨ ∃ t ∈ cf.tasks, g ∈ t.done))) := by
    intro cf hneed g hg
    refine ⟨(w.gok g hg).1, ?_⟩
    by_cases hgm : g = e.me
    · exact Or.inl ⟨hgm, hneed (w.need (hgm ▸ hg))⟩
    · exact Or.inr ⟨hgm, Or.inl ((w.gok g hg).2.resolve_left hgm)⟩
  by_cases hpos : l'.shortage > 0
  · -- a shortage is left: the replicator fills it from the candidates
    rw [finish_of_shortage hpos, hK]
    have hall := w.all hpos
    have hdone : handleTask e l'.shortage K = K.take l'.shortage := by
      unfold handleTask
      rw [he.readable]
      exact sendLoop_eq_take e he.repl K (fun k hk => (w.kok k hk).2.1) _
    refine ⟨G ++ K.take l'.shortage, ?_, ?_, ?_⟩
    · refine List.Nodup.append w.gnd (List.Nodup.sublist (List.take_sublist _ _) w.knd) ?_
      intro x hx1 hx2
      have k := w.kok x (List.mem_of_mem_take hx2)
      rcases (w.gok x hx1).2 with h | h
      · exact k.2.1 h
      · rw [h] at k; exact Ans.noConfusion k.2.2
    · simp only [List.length_append, List.length_take]
      omega
    · intro n hn
      rcases List.mem_append.mp hn with hg | hk
      · exact gmem (replicate e c' l'.shortage K) id n hg
      · have k := w.kok n (List.mem_of_mem_take hk)
        exact ⟨k.1, Or.inr ⟨k.2.1, Or.inr ⟨⟨l'.shortage, K, handleTask e l'.shortage K⟩,
          List.mem_append_right _ List.mem_cons_self, hdone ▸ hk⟩⟩⟩
  · exact ⟨G, w.gnd, by omega, gmem _ (finish_need e false c' l')⟩

end NeoFS.Policer
