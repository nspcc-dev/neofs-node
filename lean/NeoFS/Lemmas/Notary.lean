import NeoFS.Model.Notary
import NeoFS.Lemmas.GuardChain
/-! What the definitions of Model/Notary.lean say when they answer `true`, `ok` or no error. -/
namespace NeoFS.Notary

theorem CallSpec.same_eq_true_iff {s : CallSpec} {c : Call} :
    s.same c = true ↔ c.contract = s.contract ∧ c.method = s.method := by
  simp only [CallSpec.same, Bool.and_eq_true, beq_iff_eq]

theorem Registry.lookup_eq_some {reg : Registry} {c : Call} {p : Parser} (h : reg.lookup c = some p) :
    p ∈ reg ∧ p.first.same c = true := by
  unfold Registry.lookup at h
  exact ⟨List.mem_of_find?_eq_some h, by simpa using List.find?_some h⟩

theorem prepare_eq_ok {reg : Registry} {env : Env} {r : Req} {l : List Call} (h : prepare reg env r = .ok l) :
    structureErr env r = none ∧ r.script = some l ∧ ∃ c cs, l = c :: cs ∧ reg.allowed c = true := by
  unfold prepare at h
  split at h
  · cases h
  · rename_i hs
    split at h
    · cases h
    · cases h
    · rename_i c cs hsc
      split at h
      · rename_i ha
        cases h
        exact ⟨hs, hsc, c, cs, rfl, ha⟩
      · cases h

theorem cosign_unfold {reg : Registry} {env : Env} {hv : Nat → Call → Bool} {r : Req}
    (h : cosign reg env hv r = true) :
    ∃ c cs p, r.script = some (c :: cs) ∧ structureErr env r = none ∧ reg.allowed c = true ∧
      p ∈ reg ∧ p.first.same c = true ∧ p.first.argsOk c = true ∧ matchRest p.rest cs = true ∧
      env.isAlphabet = true ∧ hv p.first.method c = true ∧ validateRest hv p.rest cs = true := by
  unfold cosign handle handleWith at h
  split at h
  · cases h
  · cases h
  · rename_i c cs hp
    obtain ⟨hs, hsc, c', cs', hl, ha⟩ := prepare_eq_ok hp
    cases hl
    split at h
    · cases h
    · rename_i p hl
      obtain ⟨hpm, hps⟩ := Registry.lookup_eq_some hl
      split at h
      · rename_i hparse
        simp only [Outcome.signed, Bool.and_eq_true] at h hparse
        exact ⟨c, cs, p, hsc, hs, ha, hpm, hps, hparse.1, hparse.2, h.1.1, h.1.2, h.2⟩
      · cases h

theorem allowed_of_follower {reg : Registry} (hreg : reg.followersRegistered = true) {p : Parser}
    (hp : p ∈ reg) {s : CallSpec} (hs : s ∈ p.rest) {c : Call} (hsame : s.same c = true) :
    reg.allowed c = true := by
  obtain ⟨q, hq, hqs⟩ := List.any_eq_true.mp (List.all_eq_true.mp (List.all_eq_true.mp hreg p hp) s hs)
  simp only [Bool.and_eq_true, beq_iff_eq] at hqs
  have hc := CallSpec.same_eq_true_iff.mp hsame
  exact List.any_eq_true.mpr ⟨q, hq, CallSpec.same_eq_true_iff.mpr ⟨hc.1.trans hqs.1.symm, hc.2.trans hqs.2.symm⟩⟩

theorem cosignersErr_eq_none {ln : Nat} {r : Req} :
    cosignersErr ln r = none ↔ r.signers.length = ln ∧ r.signers[1]? = some Signer.alpha := by
  simp only [cosignersErr, ite_eq_iff_of_ne (Option.some_ne_none _), bne_iff_ne, ne_eq, Decidable.not_not, and_true]

theorem attrsErr_eq_none {env : Env} {invoker : Bool} {r : Req} :
    attrsErr env invoker r = none ↔
      r.attrs = [Attr.notaryAssisted ((env.alphaN % 256 + invN invoker) % 256)] := by
  unfold attrsErr
  split
  · rename_i a ha
    simp only [ha, ite_eq_iff_of_ne (Option.some_ne_none _), bne_iff_ne, ne_eq, Decidable.not_not, and_true, List.cons.injEq]
  · rename_i h
    simp only [reduceCtorEq, false_iff]
    exact fun h' => h _ h'

theorem witnessesErr_eq_none {invoker : Bool} {r : Req} :
    witnessesErr invoker r = none ↔
      r.witnesses[0]?.any emptyW = true ∧ r.witnesses[1]?.any (fun x => x.ver == Ver.alpha) = true ∧
      (invoker = true → r.witnesses[2]?.any emptyW = false) ∧
      ∃ l, r.witnesses.getLast? = some l ∧ (l.inv = Inv.empty ∨ l.inv = Inv.dummy) ∧ l.ver = Ver.empty := by
  simp only [witnessesErr, ite_eq_iff_of_ne (Option.some_ne_none _), Bool.not_eq_true', Bool.not_eq_false, Bool.and_eq_true, not_and,
    Bool.not_eq_true]
  cases r.witnesses.getLast? with
  | none => simp only [reduceCtorEq, false_and, exists_false, and_false]
  | some l =>
    simp only [ite_eq_iff_of_ne (Option.some_ne_none _), Option.some.injEq, exists_eq_left', and_true, Bool.or_eq_true,
      Bool.and_eq_true, bne_iff_ne, ne_eq, not_or, not_and, Decidable.not_not]
    rw [Decidable.or_iff_not_imp_left]

theorem expirationErr_eq_none {env : Env} {r : Req} :
    expirationErr env r = none ↔
      r.fbAttrs.length = 3 ∧ r.fbAttrs.count FbAttr.nvb = 1 ∧ env.height < r.nvb := by
  simp only [expirationErr, ite_eq_iff_of_ne (Option.some_ne_none _), bne_iff_ne, ne_eq, Decidable.not_not, and_true, ge_iff_le,
    Nat.not_le]

theorem structureErr_eq_none {env : Env} {r : Req} :
    structureErr env r = none ↔
      r.seen = false ∧ (r.witnesses.length = 3 ∨ r.witnesses.length = 4) ∧ r.fbFromLocal = false ∧
      cosignersErr r.witnesses.length r = none ∧ attrsErr env (r.witnesses.length == 4) r = none ∧
      witnessesErr (r.witnesses.length == 4) r = none ∧ expirationErr env r = none := by
  simp only [structureErr, ite_eq_iff_of_ne (Option.some_ne_none _), Option.orElse_eq_or, Option.or_eq_none_iff, Bool.not_eq_true,
    Bool.and_eq_true, bne_iff_ne, ne_eq, not_and, Decidable.not_not]
  rw [Decidable.or_iff_not_imp_left]

end NeoFS.Notary
