import NeoFS.Lemmas.FSTreeApi
/-! The portable writer (`p#i`, write, close, rename) of the file-tree model, for every oracle. Core Lean only. -/
namespace NeoFS.FSTree

theorem lookup_rename (dir : List (Nat × Nat)) (a j x : Nat) :
    (eraseKey a dir ++ [(a, j)]).lookup x = if x = a then some j else dir.lookup x := by
  rw [lookup_snoc]
  by_cases hx : x = a
  · rw [if_pos hx, if_pos hx, hx, lookup_eraseKey_self]; rfl
  · rw [if_neg hx, if_neg hx, lookup_eraseKey_ne a x dir hx, Option.or_none]

theorem rename_mono (dir : List (Nat × Nat)) (a j x : Nat) (hx : (dir.lookup x).isSome) :
    ((eraseKey a dir ++ [(a, j)]).lookup x).isSome := by
  rw [lookup_rename]
  split
  · rfl
  · exact hx

theorem kinv_rename {P} {inodes : List Bytes} {dir : List (Nat × Nat)} (h : KInv P inodes dir) {a j : Nat} {d : Bytes}
    (ha : IdOK a) (hp : P a d) (hd : DataOK d) (hh : Holds (inodes.getD j []) a d) :
    KInv P inodes (eraseKey a dir ++ [(a, j)]) := by
  intro x i hl
  rw [lookup_rename] at hl
  split at hl
  · cases hl; subst x; exact ⟨ha, d, hp, hd, hh⟩
  · exact h x i hl

theorem genericWrite_cases (o : Oracle) (a : Nat) (d : Bytes) : ∀ (tries i : Nat) (k : K), ∃ k' r,
    genericWrite o tries i k a d = (k', r) ∧ SameProc k k' ∧
    ((r = false ∧ k'.dir = k.dir ∧
        (k'.inodes = k.inodes ∨ ∃ x, k'.inodes = appendAt (k.inodes ++ [[]]) k.inodes.length x)) ∨
     (r = true ∧ k'.dir = eraseKey a k.dir ++ [(a, k.inodes.length)] ∧
        k'.inodes = appendAt (k.inodes ++ [[]]) k.inodes.length d)) := by
  intro tries
  induction tries with
  | zero => exact fun i k => ⟨k, false, rfl, .refl k, .inl ⟨rfl, rfl, .inl rfl⟩⟩
  | succ tries ih =>
    intro i k
    unfold genericWrite
    obtain ⟨k0, r, ino, he, op, od, ⟨hr, oi⟩ | ⟨rfl, rfl, oi⟩⟩ := sysOpenExcl_spec o k (a, i)
    · rw [he]
      cases r with
      | ok => exact absurd rfl hr
      | err => exact ⟨k0, false, rfl, op, .inl ⟨rfl, od, .inl oi⟩⟩
      | eexist =>
        simp only
        split
        · exact ⟨k0, false, rfl, op, .inl ⟨rfl, od, .inl oi⟩⟩
        · obtain ⟨k', r, hg, sp, h⟩ := ih (i + 1) k0
          -- a failed open adds no inode
          rw [oi, od] at h
          exact ⟨k', r, hg, op.trans sp, h⟩
    · obtain ⟨k1, ok, y, hw, wp, wd, wi, hy⟩ := sysWrite_spec o k0 k.inodes.length d
      obtain ⟨k2, rc, hc, cp, ci, cd⟩ := sysSync_spec o k1
      have sp2 : SameProc k k2 := (op.trans wp).trans cp
      have d2 : k2.dir = k.dir := cd.trans (wd.trans od)
      have i2 : k2.inodes = appendAt (k.inodes ++ [[]]) k.inodes.length y := by rw [ci, wi, oi]
      cases ok
      · simp only [he, hw, hc, Bool.not_false, if_true]
        exact ⟨k2, false, rfl, sp2, .inl ⟨rfl, d2, .inr ⟨y, i2⟩⟩⟩
      cases hy rfl
      cases rc with
      | false =>
        simp only [he, hw, hc, Bool.not_true, Bool.not_false, Bool.false_eq_true, if_false, if_true]
        exact ⟨k2, false, rfl, sp2, .inl ⟨rfl, d2, .inr ⟨d, i2⟩⟩⟩
      | true =>
        obtain ⟨k3, r, hren, rp, ri, ⟨rfl, rd⟩ | ⟨rfl, rd⟩⟩ := sysRename_spec o k2 (a, i) k.inodes.length a
        · simp only [he, hw, hc, hren, Bool.not_true, Bool.false_eq_true, if_false]
          exact ⟨k3, false, rfl, sp2.trans rp, .inl ⟨rfl, rd.trans d2, .inr ⟨d, ri.trans i2⟩⟩⟩
        · simp only [he, hw, hc, hren, Bool.not_true, Bool.false_eq_true, if_false]
          exact ⟨k3, true, rfl, sp2.trans rp, .inr ⟨rfl, d2 ▸ rd, ri.trans i2⟩⟩

/-- the portable writer (`p#i`, write, close, rename), for every oracle: names stay safe, other addresses untouched -/
theorem genericWrite_spec {P} (o : Oracle) (a : Nat) (d : Bytes) (ha : IdOK a) (hd : DataOK d) (hpl : PlainOK d) (hp : P a d) :
    ∀ (tries i : Nat) (k : K), KInv P k.inodes k.dir →
    KInv P (genericWrite o tries i k a d).1.inodes (genericWrite o tries i k a d).1.dir ∧
    (∀ x e, x ≠ a → ReadsK k.inodes k.dir x e →
      ReadsK (genericWrite o tries i k a d).1.inodes (genericWrite o tries i k a d).1.dir x e) ∧
    ((genericWrite o tries i k a d).1.dir = k.dir ∨
      ReadsK (genericWrite o tries i k a d).1.inodes (genericWrite o tries i k a d).1.dir a d) ∧
    ((genericWrite o tries i k a d).2 = true →
      ReadsK (genericWrite o tries i k a d).1.inodes (genericWrite o tries i k a d).1.dir a d) ∧
    SameProc k (genericWrite o tries i k a d).1 := by
  intro tries i k hk
  obtain ⟨k', r, he, sp, ⟨rfl, hdir, hi⟩ | ⟨rfl, hdir, hi⟩⟩ := genericWrite_cases o a d tries i k
  · have kk' : Keeps k.dir k.inodes k'.inodes := by
      rcases hi with hi | ⟨x, hi⟩
      · exact hi ▸ .refl _ _
      · exact hi ▸ keeps_new hk x
    rw [he]
    exact ⟨hdir ▸ kk'.kinv hk, fun _ _ _ h => hdir ▸ kk'.readsK hk h, .inl hdir, nofun, sp⟩
  · have hh : Holds (k'.inodes.getD k.inodes.length []) a d := hi ▸ holds_new k.inodes a hpl
    have kk : Keeps k.dir k.inodes k'.inodes := hi ▸ keeps_new hk d
    have rda : ReadsK k'.inodes k'.dir a d := ⟨k.inodes.length, by rw [hdir, lookup_rename, if_pos rfl], hh⟩
    rw [he]
    refine ⟨?_, fun x e hx h => ?_, .inr rda, fun _ => rda, sp⟩
    · rw [hdir]; exact kinv_rename (kk.kinv hk) ha hp hd hh
    · obtain ⟨j, hj, hjh⟩ := kk.readsK hk h
      exact ⟨j, by rw [hdir, lookup_rename, if_neg hx]; exact hj, hjh⟩

end NeoFS.FSTree
