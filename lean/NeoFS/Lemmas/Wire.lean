import NeoFS.Model.Wire
-- Props/C41 needs Mathlib's `^` on `Nat` in its statements and `DecidableEq (Except ε α)` for `decide`
import Mathlib.Tactic.NormNum
/-! C41: varint arithmetic, what a successful parse says about the buffer, safety of the scan loops. -/
namespace NeoFS.Wire

private theorem add_mul_lt {a x p k : Nat} (ha : a < p) (hx : x < k) : a + x * p < k * p :=
  calc a + x * p < p + x * p := Nat.add_lt_add_right ha _
    _ = (x + 1) * p := by rw [Nat.succ_mul, Nat.add_comm]
    _ ≤ k * p := Nat.mul_le_mul_right p hx

private theorem two_pow_seven_succ (i : Nat) : 2 ^ (7 * (i + 1)) = 128 * 2 ^ (7 * i) := by
  rw [Nat.mul_succ, Nat.pow_add, Nat.mul_comm]

theorem varintGo_spec {b : Bytes} {i acc v n : Nat} (hi : i ≤ 9) (hacc : acc < 2 ^ (7 * i))
    (h : varintGo i acc b = .ok (v, n)) : v < 2 ^ 64 ∧ i + 1 ≤ n ∧ n ≤ 10 ∧ n ≤ i + b.length := by
  fun_induction varintGo i acc b with
  | case1 => nomatch h
  | case2 acc x rest hx =>
    cases h
    have := add_mul_lt hacc hx
    simp only [List.length_cons]
    omega
  | case3 => nomatch h
  | case4 i acc x rest h9 hx =>
    cases h
    -- seven more bits on at most 56: still below `128 * 2 ^ 56 = 2 ^ 63`
    have := add_mul_lt hacc hx
    have : 2 ^ (7 * i) ≤ 2 ^ 56 := Nat.pow_le_pow_right (by omega) (by omega)
    simp only [List.length_cons]
    omega
  | case5 i acc x rest h9 hx ih =>
    have hacc' : acc + (x.toNat - 128) * 2 ^ (7 * i) < 2 ^ (7 * (i + 1)) := by
      rw [two_pow_seven_succ]
      exact add_mul_lt hacc (by have := x.toNat_lt; omega)
    have := ih (by omega) hacc' h
    simp only [List.length_cons]
    omega

theorem consumeVarint_bounds {b : Bytes} {v n : Nat} (h : consumeVarint b = .ok (v, n)) :
    v < 2 ^ 64 ∧ 1 ≤ n ∧ n ≤ 10 ∧ n ≤ b.length := by
  have := varintGo_spec (Nat.zero_le 9) Nat.one_pos h
  omega

private theorem low7_add_rest (m p : Nat) : m % 128 * p + m / 128 * (128 * p) = m * p := by
  rw [← Nat.mul_assoc, ← Nat.add_mul, Nat.mod_add_div']

theorem varintGo_encode (rest : Bytes) (m : Nat) : ∀ i acc, m * 2 ^ (7 * i) < 2 ^ 64 →
    varintGo i acc (encodeVarint m ++ rest) = .ok (acc + m * 2 ^ (7 * i), i + (encodeVarint m).length) := by
  induction m using Nat.strongRecOn with | _ m ih => ?_
  intro i acc hm
  rw [encodeVarint]
  split
  · rename_i hlt
    rw [List.singleton_append, varintGo, UInt8.toNat_ofNat_of_lt' (show m < 256 by omega)]
    by_cases h9 : i = 9
    · subst h9
      have : m < 2 := by omega
      simp [this]
    · simp [h9, hlt]
  · rename_i hge
    have hp := two_pow_seven_succ i
    -- `m ≥ 128` still fits when shifted, so this is not the tenth byte
    have hi : 7 * (i + 1) < 64 := by
      refine (Nat.pow_lt_pow_iff_right (by omega : 1 < 2)).mp ?_
      rw [hp]
      exact Nat.lt_of_le_of_lt (Nat.mul_le_mul_right _ (by omega)) hm
    have hrest : m / 128 * 2 ^ (7 * (i + 1)) < 2 ^ 64 := by
      rw [hp, ← Nat.mul_assoc]
      exact Nat.lt_of_le_of_lt (Nat.mul_le_mul_right _ (Nat.div_mul_le_self m 128)) hm
    rw [List.cons_append, varintGo, if_neg (by omega), UInt8.toNat_ofNat_of_lt' (show m % 128 + 128 < 256 by omega),
      if_neg (by omega),
      ih (m / 128) (by omega) _ _ hrest, hp, Nat.add_sub_cancel, Nat.add_assoc, low7_add_rest, List.length_cons,
      Nat.add_assoc i, Nat.add_comm 1]

theorem consumeVarint_encode (n : Nat) (rest : Bytes) (h : n < 2 ^ 64) :
    consumeVarint (encodeVarint n ++ rest) = .ok (n, (encodeVarint n).length) := by
  have := varintGo_encode rest n 0 0 (by simpa using h)
  simpa [consumeVarint] using this

theorem encodeVarint_length_pos (m : Nat) : 1 ≤ (encodeVarint m).length := by
  rw [encodeVarint]; split <;> simp

theorem decodeTag_spec {ok : Nat → Bool} {b : Bytes} {num wt n : Nat} (h : decodeTag ok b = some (num, wt, n)) :
    1 ≤ n ∧ n ≤ b.length ∧ wt < 8 ∧ ok num = true := by
  unfold decodeTag at h
  split at h
  · rename_i v k hv
    have := consumeVarint_bounds hv
    split at h
    · cases h
      exact ⟨by omega, by omega, Nat.mod_lt _ (by omega), by assumption⟩
    · nomatch h
  · nomatch h

theorem decodeTag_of_parseTag {b : Bytes} {num wt n : Nat} (h : parseTag b = .ok (num, wt, n)) :
    decodeTag numOKParse b = some (num, wt, n) := by
  unfold parseTag at h
  split at h
  · cases h; assumption
  · nomatch h

theorem parseTag_error {b : Bytes} {e : Err} (h : parseTag b = .error e) : e = .tag := by
  unfold parseTag at h
  split at h
  · nomatch h
  · exact (Except.error.inj h).symm

theorem consumeBytes_spec {b : Bytes} {m n : Nat} (h : consumeBytes b = some (m, n)) :
    consumeVarint b = .ok (m, n) ∧ 1 ≤ n ∧ n + m ≤ b.length := by
  unfold consumeBytes at h
  split at h
  · rename_i u k hv
    have := consumeVarint_bounds hv
    split at h
    · cases h
      exact ⟨hv, by omega, by omega⟩
    · nomatch h
  · nomatch h

theorem parseLEN_spec {b : Bytes} {ln n : Nat} (h : parseLEN b = some (ln, n)) :
    consumeVarint b = .ok (ln, n) ∧ 1 ≤ n ∧ n + ln ≤ b.length ∧ ln ≤ maxInt := by
  unfold parseLEN at h
  split at h
  · rename_i u k hv
    have := consumeVarint_bounds hv
    split at h
    · nomatch h
    · split at h
      · nomatch h
      · cases h
        exact ⟨hv, by omega, by omega, by omega⟩
  · nomatch h

theorem skipField_spec {wt : Nat} {b : Bytes} {m : Nat} (h : skipField wt b = .ok m) : 1 ≤ m ∧ m ≤ b.length := by
  unfold skipField at h
  split at h
  · split at h
    · rename_i v n hv
      have := consumeVarint_bounds hv
      cases h; omega
    · nomatch h
  · split at h
    · cases h; omega
    · nomatch h
  · split at h
    · rename_i ln n hp
      have := parseLEN_spec hp
      cases h; omega
    · nomatch h
  · nomatch h
  · nomatch h
  · split at h
    · cases h; omega
    · nomatch h
  · nomatch h

theorem skipField_ne_fuel {wt : Nat} {b : Bytes} {e : Err} (h : skipField wt b = .error e) : e ≠ .fuel := by
  rintro rfl
  unfold skipField at h
  split at h <;> (try split at h) <;> nomatch h

/-- `r` does not fail with `fuel`, and what it returns satisfies `P` -/
def Ensures {ε α : Type} (fuel : ε) (P : α → Prop) : Except ε α → Prop
  | .ok x => P x
  | .error e => e ≠ fuel

section
variable {ε α : Type} {fuel e : ε} {P : α → Prop} {r : Except ε α} {x : α}

theorem Ensures.of_ok (h : Ensures fuel P r) (hr : r = .ok x) : P x := by
  rw [hr] at h; exact h

theorem Ensures.of_error (h : Ensures fuel P r) (hr : r = .error e) : e ≠ fuel := by
  rw [hr] at h; exact h

theorem Ensures.elim (h : Ensures fuel P r) : r ≠ .error fuel ∧ ∀ x, r = .ok x → P x :=
  ⟨fun hr => h.of_error hr rfl, fun _ => h.of_ok⟩

end

/-- bounds that are safe to slice a buffer of `n` bytes with -/
def InR (f : FB) (n : Nat) : Prop := f.from_ ≤ f.vfrom ∧ f.vfrom ≤ f.to_ ∧ f.to_ ≤ n

theorem InR.zero (n : Nat) : InR {} n := ⟨Nat.le_refl 0, Nat.le_refl 0, Nat.zero_le n⟩

theorem InR.mono {f : FB} {n m : Nat} (h : InR f n) (hnm : n ≤ m) : InR f m :=
  ⟨h.1, h.2.1, Nat.le_trans h.2.2 hnm⟩

theorem InR.ite {c : Prop} [Decidable c] {a b : FB} {n : Nat} (ha : InR a n) (hb : InR b n) :
    InR (if c then a else b) n := by
  split <;> assumption

def AllInR (n : Nat) (r : FB × FB × FB) : Prop := InR r.1 n ∧ InR r.2.1 n ∧ InR r.2.2 n

theorem AllInR.elim {r : Except Err (FB × FB × FB)} {n : Nat} (h : Ensures .fuel (AllInR n) r) :
    r ≠ .error .fuel ∧ ∀ i s h, r = .ok (i, s, h) → InR i n ∧ InR s n ∧ InR h n :=
  ⟨h.elim.1, fun _ _ _ hr => h.of_ok hr⟩

theorem parseLENFieldBounds_spec {buf : Bytes} {off tagLn wt : Nat} {f : FB} (h : parseLENFieldBounds buf off tagLn wt = .ok f)
    (hoff : off + tagLn ≤ buf.length) :
    wt = 2 ∧ InR f buf.length ∧ f.from_ = off ∧ off + tagLn < f.vfrom ∧
      ∃ ln n, parseLEN (buf.drop (off + tagLn)) = some (ln, n) ∧ f = ⟨off, off + tagLn + n, off + tagLn + n + ln⟩ := by
  unfold parseLENFieldBounds at h
  split at h
  · nomatch h
  · rename_i hwt
    split at h
    · nomatch h
    · rename_i ln n hp
      cases h
      have := parseLEN_spec hp
      rw [List.length_drop] at this
      exact ⟨by omega, ⟨by simp only; omega, by simp only; omega, by simp only; omega⟩, rfl, by simp only; omega,
        ln, n, hp, rfl⟩

theorem parseLENFieldBounds_safe {buf : Bytes} {off tagLn N wt : Nat} (hoff : off + tagLn ≤ buf.length)
    (hN : buf.length ≤ N) : Ensures .fuel (InR · N) (parseLENFieldBounds buf off tagLn wt) := by
  cases h : parseLENFieldBounds buf off tagLn wt with
  | ok f => exact (parseLENFieldBounds_spec h hoff).2.1.mono hN
  | error e =>
    rintro rfl
    unfold parseLENFieldBounds at h
    split at h <;> (try split at h) <;> nomatch h

theorem parseTag_end {buf : Bytes} {off num wt n : Nat} (h : parseTag (buf.drop off) = .ok (num, wt, n)) :
    1 ≤ n ∧ off + n ≤ buf.length := by
  have := decodeTag_spec (decodeTag_of_parseTag h)
  rw [List.length_drop] at this
  omega

theorem boundsLoop_safe {buf : Bytes} {last : Nat} {slot : Nat → Nat} {fuel off prev : Nat} {idf sigf : FB} {N : Nat}
    (hN : buf.length ≤ N) (hi : InR idf N) (hs : InR sigf N) (hprev : prev < last)
    (hfuel : last + 1 ≤ fuel + prev) :
    Ensures .fuel (AllInR N) (boundsLoop buf last slot fuel off prev idf sigf) := by
  fun_induction boundsLoop buf last slot fuel off prev idf sigf with
  | case1 => omega
  | case2 => cases parseTag_error ‹_›; exact nofun
  | case3 => exact ⟨hi, hs, InR.zero _⟩                                        -- a field beyond `last`
  | case6 => exact (parseLENFieldBounds_safe (parseTag_end ‹_›).2 hN).of_error ‹_›
  | case7 =>                                                                   -- field `last`
    exact ⟨hi, hs, (parseLENFieldBounds_safe (parseTag_end ‹_›).2 hN).of_ok ‹_›⟩
  | case8 =>                                                                   -- the buffer ends
    have hf := (parseLENFieldBounds_safe (parseTag_end ‹_›).2 hN).of_ok ‹_›
    exact ⟨hf.ite hi, hf.ite hs, InR.zero _⟩
  | case9 =>
    rename_i ih
    have hf := (parseLENFieldBounds_safe (parseTag_end ‹_›).2 hN).of_ok ‹_›
    exact ih (hf.ite hi) (hf.ite hs) (by omega) (by omega)
  | _ => exact nofun

theorem seekLoop_safe {buf : Bytes} {seek fuel off prev : Nat} (hoff : off < buf.length)
    (hfuel : buf.length + 1 ≤ fuel + off) :
    Ensures .fuel (fun r => ∀ o n wt, r = some (o, n, wt) → o + n ≤ buf.length) (seekLoop buf seek fuel off prev) := by
  fun_induction seekLoop buf seek fuel off prev with
  | case1 => omega
  | case2 => cases parseTag_error ‹_›; exact nofun
  | case3 =>                                                                   -- found
    rintro _ _ _ ⟨⟩
    exact (parseTag_end ‹_›).2
  | case6 => exact skipField_ne_fuel ‹_›
  | case8 =>
    rename_i ih
    have := parseTag_end ‹_›
    have := skipField_spec ‹_›
    rw [List.length_drop] at this
    exact ih (by omega) (by omega)
  | _ => exact nofun

theorem seekFieldByNumber_safe {buf : Bytes} {seek : Nat} :
    Ensures .fuel (fun r => ∀ o n wt, r = some (o, n, wt) → o + n ≤ buf.length) (seekFieldByNumber buf seek) := by
  unfold seekFieldByNumber
  split
  · exact nofun
  split
  · exact nofun
  · rename_i hne
    exact seekLoop_safe (List.length_pos_iff.mpr hne) (Nat.le_refl _)

theorem getLENFieldBounds_safe {buf : Bytes} {num : Nat} : Ensures .fuel (InR · buf.length) (getLENFieldBounds buf num) := by
  unfold getLENFieldBounds
  split
  · exact seekFieldByNumber_safe.of_error ‹_›
  · exact InR.zero _
  · rename_i off tagLn wt he
    exact parseLENFieldBounds_safe (seekFieldByNumber_safe.of_ok he off tagLn wt rfl) (Nat.le_refl _)

theorem getParentIn_safe {buf : Bytes} {hdrFrom hdrTo : Nat} :
    Ensures .fuel (AllInR buf.length) (getParentIn buf hdrFrom hdrTo) := by
  unfold getParentIn
  split
  · exact getLENFieldBounds_safe.of_error ‹_›
  split
  · exact ⟨InR.zero _, InR.zero _, InR.zero _⟩
  · exact boundsLoop_safe (List.length_take_le' _ _) (InR.zero _) (InR.zero _) (by decide) (by decide)

theorem getUint64Field_safe {buf : Bytes} {num : Nat} : Ensures .fuel (fun _ => True) (getUint64Field buf num) := by
  unfold getUint64Field
  split
  · exact seekFieldByNumber_safe.of_error ‹_›
  · trivial
  · split
    · exact nofun
    · split
      · trivial
      · exact nofun

theorem getEnumField_safe {buf : Bytes} {num : Nat} : Ensures .fuel (fun _ => True) (getEnumField buf num) := by
  unfold getEnumField
  split
  · exact seekFieldByNumber_safe.of_error ‹_›
  · trivial
  · split
    · exact nofun
    · split
      · split
        · exact nofun
        · trivial
      · exact nofun

def EHP.InR (r : EHP) (n : Nat) : Prop :=
  (∀ a b, r.id = some (a, b) → a ≤ b ∧ b ≤ n) ∧ (∀ a b, r.sig = some (a, b) → a ≤ b ∧ b ≤ n) ∧
  (∀ a b, r.hdr = some (a, b) → a ≤ b ∧ b ≤ n)

section
variable {r : EHP} {n a b : Nat} (h : r.InR n) (hab : a ≤ b ∧ b ≤ n)
include h hab

theorem EHP.InR.setId : EHP.InR { r with id := some (a, b) } n :=
  ⟨by rintro _ _ ⟨⟩; exact hab, h.2.1, h.2.2⟩

theorem EHP.InR.setSig : EHP.InR { r with sig := some (a, b) } n :=
  ⟨h.1, by rintro _ _ ⟨⟩; exact hab, h.2.2⟩

theorem EHP.InR.setHdr : EHP.InR { r with hdr := some (a, b) } n :=
  ⟨h.1, h.2.1, by rintro _ _ ⟨⟩; exact hab⟩

end

theorem lenField_range {ok : Nat → Bool} {data : Bytes} {off num wt n m n2 : Nat}
    (ht : decodeTag ok (data.drop off) = some (num, wt, n))
    (hb : consumeBytes (data.drop (off + n)) = some (m, n2)) :
    off < off + n + n2 + m ∧ off + n + n2 ≤ off + n + n2 + m ∧ off + n + n2 + m ≤ data.length := by
  have := decodeTag_spec ht
  have := consumeBytes_spec hb
  simp only [List.length_drop] at *
  omega

theorem ehpLoop_safe {data : Bytes} {unm : Nat → Nat → Nat → Bool} {fuel off : Nat} {r : EHP}
    (hoff : off ≤ data.length) (hfuel : data.length + 1 ≤ fuel + off) (hr : r.InR data.length) :
    Ensures .fuel (fun r' => r'.poff ≤ data.length ∧ r'.InR data.length) (ehpLoop data unm fuel off r) := by
  fun_induction ehpLoop data unm fuel off r with
  | case1 => omega
  | case2 => exact ⟨hoff, hr⟩                                                  -- end of the buffer
  | case6 =>                                                                   -- the payload field
    have := decodeTag_spec ‹_›
    have := consumeVarint_bounds ‹_›
    simp only [List.length_drop] at *
    exact ⟨by simp only; omega, hr⟩
  | case8 =>                                                                   -- id
    rename_i ih
    have hv := lenField_range ‹_› ‹_›
    exact ih hv.2.2 (by omega) (hr.setId hv.2)
  | case10 =>                                                                  -- signature
    rename_i ih
    have hv := lenField_range ‹_› ‹_›
    exact ih hv.2.2 (by omega) (hr.setSig hv.2)
  | case12 =>                                                                  -- header
    rename_i ih
    have hv := lenField_range ‹_› ‹_›
    exact ih hv.2.2 (by omega) (hr.setHdr hv.2)
  | _ => exact nofun

end NeoFS.Wire
