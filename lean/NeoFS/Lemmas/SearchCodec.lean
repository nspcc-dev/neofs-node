import NeoFS.Lemmas.SearchOrder
/-!
Codec facts for C04: byte strings as Go strings; hex and the canonical UUID string preserve the byte order and are
inverted by their decoders; Base58 over an explicit alphabet, for evaluation.
-/
namespace NeoFS.SearchMerge
open NeoFS.Int256

def Bytes (l : List Nat) : Prop := ∀ b ∈ l, b < 256

theorem Bytes.tail {x : Nat} {l : List Nat} (h : Bytes (x :: l)) : Bytes l := fun b hb => h b (List.mem_cons_of_mem _ hb)
theorem Bytes.head {x : Nat} {l : List Nat} (h : Bytes (x :: l)) : x < 256 := h x (by simp)
theorem Bytes.take {l : List Nat} (h : Bytes l) (n : Nat) : Bytes (l.take n) := fun b hb => h b (List.mem_of_mem_take hb)
theorem Bytes.drop {l : List Nat} (h : Bytes l) (n : Nat) : Bytes (l.drop n) := fun b hb => h b (List.mem_of_mem_drop hb)

theorem char_byte (n : Nat) (h : n < 256) : (Char.ofNat n).toNat = n := by
  have hv : n.isValidChar := Or.inl (by omega)
  rw [Char.ofNat, dif_pos hv]
  simp [Char.ofNatAux, Char.toNat]

theorem strBytes_bytesStr (l : List Nat) (h : Bytes l) : strBytes (bytesStr l) = l := by
  induction l with
  | nil => rfl
  | cons x xs ih =>
    simp only [strBytes, bytesStr, List.map_cons, List.map_map] at ih ⊢
    rw [char_byte x h.head]
    congr 1
    exact ih h.tail

theorem lexCmpChars_bytesStr {r1 r2 : List Nat} (h1 : Bytes r1) (h2 : Bytes r2) : lexCmpChars (bytesStr r1) (bytesStr r2) = lexCmp r1 r2 := by
  have e1 := strBytes_bytesStr r1 h1
  have e2 := strBytes_bytesStr r2 h2
  unfold strBytes at e1 e2
  rw [lexCmpChars, e1, e2]

theorem bytes_of_pos {l : List Nat} (h : ∀ b ∈ l, 0 < b ∧ b < 256) : Bytes l := fun b hb => (h b hb).2

theorem lexCmpChars_cons (c d : Char) (a b : Str) :
    lexCmpChars (c :: a) (d :: b) = (compare c.toNat d.toNat).then (lexCmpChars a b) :=
  lexCmp_cons _ _ _ _

/-! ### hex -/

theorem hexVal_hexChar : ∀ n : Fin 16, hexVal (hexChar n.val) = some n.val := by decide

theorem hexChar_toNat (n : Nat) (h : n < 16) : (hexChar n).toNat = if n < 10 then 48 + n else 87 + n := by
  unfold hexChar
  split <;> exact char_byte _ (by omega)

theorem hexChar_lt {a b : Nat} (ha : a < 16) (hb : b < 16) : (hexChar a).toNat < (hexChar b).toNat ↔ a < b := by
  rw [hexChar_toNat a ha, hexChar_toNat b hb]
  split <;> split <;> omega

theorem compare_hexChar {a b : Nat} (ha : a < 16) (hb : b < 16) :
    compare (hexChar a).toNat (hexChar b).toNat = compare a b := by
  simp only [Nat.compare_eq_ite_lt, hexChar_lt ha hb, hexChar_lt hb ha]

theorem compare_nibbles (x y : Nat) :
    (compare (x / 16) (y / 16)).then (compare (x % 16) (y % 16)) = compare x y := by
  rcases Nat.lt_trichotomy x y with h | rfl | h
  · rw [Nat.compare_eq_lt.mpr h, Ordering.then_eq_lt, Nat.compare_eq_lt, Nat.compare_eq_eq, Nat.compare_eq_lt]
    omega
  · simp
  · rw [Nat.compare_eq_gt.mpr h, Ordering.then_eq_gt, Nat.compare_eq_gt, Nat.compare_eq_eq, Nat.compare_eq_gt]
    omega

theorem hexEnc_cons (x : Nat) (xs : List Nat) :
    hexEnc (x :: xs) = hexChar (x / 16) :: hexChar (x % 16) :: hexEnc xs := rfl

theorem hexDec_hexEnc (l : List Nat) (h : Bytes l) : hexDec (hexEnc l) = some l := by
  induction l with
  | nil => rfl
  | cons x xs ih =>
    have hx := h.head
    have h1 := hexVal_hexChar ⟨x / 16, Nat.div_lt_of_lt_mul hx⟩
    have h2 := hexVal_hexChar ⟨x % 16, Nat.mod_lt _ (by decide)⟩
    simp only at h1 h2
    rw [hexEnc_cons, hexDec, h1, h2, ih h.tail]
    show some ((x / 16 * 16 + x % 16) :: xs) = _
    rw [Nat.div_add_mod']

theorem hexEnc_length (l : List Nat) : (hexEnc l).length = 2 * l.length := by
  induction l with
  | nil => rfl
  | cons x xs ih => rw [hexEnc_cons, List.length_cons, List.length_cons, List.length_cons, ih]; omega

theorem hexEnc_append (a b : List Nat) : hexEnc (a ++ b) = hexEnc a ++ hexEnc b := by simp [hexEnc]

/-- **lower-case hex preserves the byte order** (for byte strings of any lengths) -/
theorem hexEnc_order : ∀ (a b : List Nat), Bytes a → Bytes b → lexCmpChars (hexEnc a) (hexEnc b) = lexCmp a b := by
  intro a
  induction a with
  | nil =>
    intro b _ _
    cases b <;> rfl
  | cons x xs ih =>
    intro b ha hb
    cases b with
    | nil => rfl
    | cons y ys =>
      have hx := ha.head
      have hy := hb.head
      rw [hexEnc_cons, hexEnc_cons, lexCmpChars_cons, lexCmpChars_cons, ih ys ha.tail hb.tail, lexCmp_cons,
        compare_hexChar (Nat.div_lt_of_lt_mul hx) (Nat.div_lt_of_lt_mul hy), compare_hexChar (Nat.mod_lt _ (by decide)) (Nat.mod_lt _ (by decide)),
        ← Ordering.then_assoc, compare_nibbles]

/-! ### the canonical UUID string -/

theorem lexCmpChars_cons_same (c : Char) (a b : Str) : lexCmpChars (c :: a) (c :: b) = lexCmpChars a b := by
  rw [lexCmpChars_cons, Nat.compare_eq_eq.mpr rfl]; rfl

theorem lexCmpChars_append_eqlen {a1 a2 b1 b2 : Str} (h : a1.length = a2.length) :
    lexCmpChars (a1 ++ b1) (a2 ++ b2) = (lexCmpChars a1 a2).then (lexCmpChars b1 b2) := by
  unfold lexCmpChars
  rw [List.map_append, List.map_append, lexCmp_fixed _ _ _ _ (by simpa using h), thenCmp_eq_then]

theorem field_order {a1 a2 : List Nat} {r1 r2 : Str} (h1 : Bytes a1) (h2 : Bytes a2) (hl : a1.length = a2.length) :
    lexCmpChars (hexEnc a1 ++ '-' :: r1) (hexEnc a2 ++ '-' :: r2) = (lexCmp a1 a2).then (lexCmpChars r1 r2) := by
  rw [lexCmpChars_append_eqlen (by rw [hexEnc_length, hexEnc_length, hl]), hexEnc_order a1 a2 h1 h2,
    lexCmpChars_cons_same]

theorem then_assoc (a b c : Ordering) : (a.then b).then c = a.then (b.then c) := Ordering.then_assoc a b c

/-- **the canonical UUID string preserves the byte order of 16-byte values** -/
theorem uuidStr_order (a b : List Nat) (ha : Bytes a) (hb : Bytes b) (la : a.length = 16) (lb : b.length = 16) :
    lexCmpChars (uuidStr a) (uuidStr b) = lexCmp a b := by
  have hd : ∀ k, (a.drop k).length = (b.drop k).length := fun k => by rw [List.length_drop, List.length_drop, la, lb]
  have ht : ∀ k n, ((a.drop k).take n).length = ((b.drop k).take n).length := fun k n => by
    rw [List.length_take, List.length_take, hd]
  unfold uuidStr
  rw [field_order (ha.take 4) (hb.take 4) (ht 0 4), field_order ((ha.drop 4).take 2) ((hb.drop 4).take 2) (ht 4 2),
    field_order ((ha.drop 6).take 2) ((hb.drop 6).take 2) (ht 6 2),
    field_order ((ha.drop 8).take 2) ((hb.drop 8).take 2) (ht 8 2), hexEnc_order _ _ (ha.drop 10) (hb.drop 10)]
  rw [lexCmp_split 4 (la.trans lb.symm), lexCmp_split 2 (hd 4), List.drop_drop, List.drop_drop, lexCmp_split 2 (hd 6),
    List.drop_drop, List.drop_drop, lexCmp_split 2 (hd 8), List.drop_drop, List.drop_drop]

theorem seg_take (a r : Str) (c : Char) (n : Nat) (h : a.length = n) : (a ++ c :: r).take n = a := by
  subst h; simp

theorem seg_drop (a r : Str) (c : Char) (n : Nat) (h : a.length = n) : (a ++ c :: r).drop (n + 1) = r := by
  subst h
  rw [← List.drop_drop, List.drop_left]
  rfl

theorem getElem?_mid {α : Type} (a : List α) (x : α) (r : List α) : (a ++ x :: r)[a.length]? = some x := by
  rw [List.getElem?_append_right (Nat.le_refl _), Nat.sub_self]; rfl

theorem seg_get (a r : Str) (c : Char) (n : Nat) (h : a.length = n) : (a ++ c :: r)[n]? = some c :=
  h ▸ getElem?_mid a c r

theorem uuidParse_fields {h1 h2 h3 h4 h5 : Str} (l1 : h1.length = 8) (l2 : h2.length = 4) (l3 : h3.length = 4)
    (l4 : h4.length = 4) (l5 : h5.length = 12) :
    uuidParse (h1 ++ '-' :: (h2 ++ '-' :: (h3 ++ '-' :: (h4 ++ '-' :: h5)))) =
      match hexDec h1, hexDec h2, hexDec h3, hexDec h4, hexDec h5 with
      | some a, some b, some c, some d, some e => some (a ++ b ++ c ++ d ++ e)
      | _, _, _, _, _ => none := by
  have hlen : (h1 ++ '-' :: (h2 ++ '-' :: (h3 ++ '-' :: (h4 ++ '-' :: h5)))).length = 36 := by
    simp [l1, l2, l3, l4, l5]
  -- `s2`, `s3`, `s4`: what follows the first, second, third dash
  generalize e4 : h4 ++ '-' :: h5 = s4 at hlen
  generalize e3 : h3 ++ '-' :: s4 = s3 at hlen
  generalize e2 : h2 ++ '-' :: s3 = s2 at hlen
  generalize e1 : h1 ++ '-' :: s2 = s at hlen
  have d9 : s.drop 9 = s2 := e1 ▸ seg_drop h1 s2 '-' 8 l1
  have d14 : s.drop 14 = s3 := by
    rw [show 14 = 9 + 5 from rfl, ← List.drop_drop, d9, ← e2]; exact seg_drop h2 s3 '-' 4 l2
  have d19 : s.drop 19 = s4 := by
    rw [show 19 = 14 + 5 from rfl, ← List.drop_drop, d14, ← e3]; exact seg_drop h3 s4 '-' 4 l3
  have d24 : s.drop 24 = h5 := by
    rw [show 24 = 19 + 5 from rfl, ← List.drop_drop, d19, ← e4]; exact seg_drop h4 h5 '-' 4 l4
  have g8 : s[8]? = some '-' := e1 ▸ seg_get h1 s2 '-' 8 l1
  have g13 : s[13]? = some '-' := by
    rw [show 13 = 9 + 4 from rfl, ← List.getElem?_drop, d9, ← e2]; exact seg_get h2 s3 '-' 4 l2
  have g18 : s[18]? = some '-' := by
    rw [show 18 = 14 + 4 from rfl, ← List.getElem?_drop, d14, ← e3]; exact seg_get h3 s4 '-' 4 l3
  have g23 : s[23]? = some '-' := by
    rw [show 23 = 19 + 4 from rfl, ← List.getElem?_drop, d19, ← e4]; exact seg_get h4 h5 '-' 4 l4
  have t1 : s.take 8 = h1 := e1 ▸ seg_take h1 s2 '-' 8 l1
  have t2 : s2.take 4 = h2 := e2 ▸ seg_take h2 s3 '-' 4 l2
  have t3 : s3.take 4 = h3 := e3 ▸ seg_take h3 s4 '-' 4 l3
  have t4 : s4.take 4 = h4 := e4 ▸ seg_take h4 h5 '-' 4 l4
  simp only [uuidParse, hlen, g8, g13, g18, g23, d9, d14, d19, d24, t1, t2, t3, t4, ne_eq, not_true_eq_false, or_self,
    if_false]
  rfl

theorem uuid_fields (b : List Nat) :
    b.take 4 ++ (b.drop 4).take 2 ++ (b.drop 6).take 2 ++ (b.drop 8).take 2 ++ b.drop 10 = b := by
  rw [show b.drop 6 = (b.drop 4).drop 2 by simp, show b.drop 8 = ((b.drop 4).drop 2).drop 2 by simp,
    show b.drop 10 = (((b.drop 4).drop 2).drop 2).drop 2 by simp]
  simp only [List.append_assoc, List.take_append_drop]

/-- **`uuid.Parse` inverts `UUID.String`** on 16-byte values -/
theorem uuidParse_uuidStr (b : List Nat) (hb : Bytes b) (lb : b.length = 16) : uuidParse (uuidStr b) = some b := by
  have hl : ∀ k n m, min n (16 - k) = m → (hexEnc ((b.drop k).take n)).length = 2 * m := fun k n m h => by
    rw [hexEnc_length, List.length_take, List.length_drop, lb, h]
  rw [uuidStr, uuidParse_fields (by rw [hexEnc_length, List.length_take, lb]; rfl) (hl 4 2 2 rfl) (hl 6 2 2 rfl) (hl 8 2 2 rfl)
    (by rw [hexEnc_length, List.length_drop, lb]), hexDec_hexEnc _ (hb.take 4), hexDec_hexEnc _ ((hb.drop 4).take 2),
    hexDec_hexEnc _ ((hb.drop 6).take 2), hexDec_hexEnc _ ((hb.drop 8).take 2), hexDec_hexEnc _ (hb.drop 10)]
  exact congrArg some (uuid_fields b)

/-! ### Base58 over an explicit alphabet

The kernel is slow on `String.toList` of the 58-character literal `b58Alphabet`; these equations avoid it. -/

def b58Chars : List Char :=
  ['1', '2', '3', '4', '5', '6', '7', '8', '9', 'A', 'B', 'C', 'D', 'E', 'F', 'G', 'H', 'J', 'K', 'L', 'M', 'N', 'P', 'Q',
   'R', 'S', 'T', 'U', 'V', 'W', 'X', 'Y', 'Z', 'a', 'b', 'c', 'd', 'e', 'f', 'g', 'h', 'i', 'j', 'k', 'm', 'n', 'o', 'p',
   'q', 'r', 's', 't', 'u', 'v', 'w', 'x', 'y', 'z']

theorem b58Alphabet_eq : b58Alphabet = b58Chars := String.toList_ofList

theorem b58DigitChar_eq : b58DigitChar = fun d => b58Chars.getD d '1' := by
  funext d; rw [b58DigitChar, b58Alphabet_eq]

theorem b58DigitVal_eq : b58DigitVal = fun c => b58Chars.findIdx? (· == c) := by
  funext c; rw [b58DigitVal, b58Alphabet_eq]

theorem b58Encode_eq (bs : List Nat) : b58Encode bs =
    List.replicate (bs.takeWhile (· == 0)).length '1' ++
      (digitsAux 58 (2 * bs.length + 1) (fromBE bs) []).map fun d => b58Chars.getD d '1' := by
  rw [b58Encode, b58DigitChar_eq]

theorem b58Decode_eq (s : Str) : b58Decode s =
    if s.isEmpty then none
    else match s.mapM fun c => b58Chars.findIdx? (· == c) with
      | none => none
      | some ds =>
        some (List.replicate (s.takeWhile (· == '1')).length 0 ++
          digitsAux 256 (s.length + 1) (ds.foldl (fun a d => a * 58 + d) 0) []) := by
  rw [b58Decode, b58DigitVal_eq]
  rfl

end NeoFS.SearchMerge
