import NeoFS.Model.IRNetmap
/-! Model/IRNetmap.lean: the composite validator as `List.findIdx?`; what one event does. -/
namespace NeoFS.IRNetmap

-- by `rfl`: `rw [firstError]` first derives all its equation lemmas, which is slow
theorem firstError_cons (n : Node) (v : V) (r : List V) (i : Nat) :
    firstError n (v :: r) i = if v.ok n then firstError n r (i + 1) else some i := rfl

theorem firstError_eq_findIdx? (n : Node) (vs : List V) (i : Nat) :
    firstError n vs i = (vs.findIdx? (fun v => !v.ok n)).map (· + i) := by
  induction vs generalizing i with
  | nil => rfl
  | cons v r ih =>
    rw [firstError_cons, List.findIdx?_cons, ih]
    cases v.ok n with
    | true =>
      cases r.findIdx? (fun v => !v.ok n) with
      | none => rfl
      | some j => exact congrArg some (Nat.add_right_comm j i 1)
    | false => exact congrArg some (Nat.zero_add i).symm

theorem firstError_none_iff (n : Node) (vs : List V) (i : Nat) :
    firstError n vs i = none ↔ ∀ v ∈ vs, v.ok n = true := by
  simp only [firstError_eq_findIdx?, Option.map_eq_none_iff, List.findIdx?_eq_none_iff, Bool.not_eq_false']

theorem calledCount_cons (n : Node) (v : V) (r : List V) :
    calledCount n (v :: r) = if v.ok n then 1 + calledCount n r else 1 := rfl

theorem calledCount_eq_findIdx? (n : Node) (vs : List V) :
    calledCount n vs = match vs.findIdx? (fun v => !v.ok n) with
      | some j => j + 1
      | none => vs.length := by
  induction vs with
  | nil => rfl
  | cons v r ih =>
    rw [calledCount_cons, List.findIdx?_cons, ih]
    cases v.ok n with
    | false => rfl
    | true =>
      cases r.findIdx? (fun v => !v.ok n) <;> exact Nat.add_comm _ _

theorem run_cons (s : St) (e : Ev) (r : List Ev) :
    run s (e :: r) = ((run (step s e).1 r).1, (step s e).2 ++ (run (step s e).1 r).2) := rfl

theorem run_append (s : St) (a b : List Ev) :
    run s (a ++ b) = ((run (run s a).1 b).1, (run s a).2 ++ (run (run s a).1 b).2) := by
  induction a generalizing s with
  | nil => rfl
  | cons e r ih => rw [List.cons_append, run_cons, run_cons, ih, List.append_assoc]

theorem mem_step_requests {s : St} {ev : Ev} {e : Nat} (h : e ∈ (step s ev).2) :
    ev = .tick ∧ s.alphabet = true ∧ e = s.counter + 1 := by
  cases ev with
  | tick =>
    rw [step] at h
    split at h
    · rename_i ha; exact ⟨rfl, ha, List.mem_singleton.mp h⟩
    · cases h
  | newEpoch k => cases h
  | setAlphabet b => cases h

theorem hrun_cons (s : HSt) (e : HEv) (r : List HEv) :
    hrun s (e :: r) = ((hrun (hstep s e).1 r).1, (hstep s e).2 :: (hrun (hstep s e).1 r).2) := rfl

theorem hstep_vs (s : HSt) (e : HEv) : (hstep s e).1.vs = s.vs := by
  cases e with
  | newEpoch k => rw [hstep]; split <;> rfl
  | _ => rfl

/-- on the epoch state and the requests a history event acts as its epoch part does under `step` -/
theorem hstep_epoch (s : HSt) (e : HEv) :
    (hstep s e).1.ep = (match e.toEv with | some ev => (step s.ep ev).1 | none => s.ep) ∧
    (hstep s e).2.reqs = (match e.toEv with | some ev => (step s.ep ev).2 | none => []) := by
  cases e with
  | newEpoch k => rw [hstep]; split <;> exact ⟨rfl, rfl⟩
  | _ => exact ⟨rfl, rfl⟩

end NeoFS.IRNetmap
