/-
C03: pagination.  If every page (from the start or from the cursor of any result) returns the first `count` of the
remaining hits and a cursor iff more remain, then following the cursors with ANY page sizes ≥ 1 lists every hit
exactly once, in order, and ends with an empty cursor.
-/
import NeoFS.Lemmas.SearchScan
namespace NeoFS.Search

/-- the cursor that resumes after the first `i` hits. -/
def curAt (H : List (Bytes × Item)) (i : Nat) : Option Bytes :=
  if i = 0 then none else (H[i - 1]?).map (fun x => x.1.drop 1)

def pageItems : Except PErr Res → List Item
  | .ok r => r.items
  | .error _ => []

/-- every page is a proper answer, every page but the last carries a cursor, the last does not. -/
def chainClean : List (Except PErr Res) → Bool
  | [] => false
  | [.ok r] => !r.err && r.cursor.isNone
  | .ok r :: rest => !r.err && r.cursor.isSome && chainClean rest
  | .error _ :: _ => false

theorem pagesB_step {b : List Bytes} {avail : Nat → Bool} {fs : List Filter} {attrs : List Bytes} {cur : Option Bytes}
    {n : Nat} {r : Res} (fuel : Nat) (ns : List Nat) (hp : pageB b avail fs attrs cur n = .ok r) (he : r.err = false) :
    pagesB b avail fs attrs (fuel + 1) (n :: ns) cur = .ok r ::
      match r.cursor with
      | none => []
      | some c => pagesB b avail fs attrs fuel (if ns.isEmpty then [n] else ns) (some c) := by
  rw [pagesB, hp]
  simp only [he, Bool.false_eq_true, if_false]
  cases r.cursor <;> rfl

theorem chainClean_cons {r : Res} {rest : List (Except PErr Res)} (h : rest ≠ []) :
    chainClean (.ok r :: rest) = (!r.err && r.cursor.isSome && chainClean rest) := by
  cases rest with
  | nil => exact absurd rfl h
  | cons x xs => rfl

theorem curAt_add {H : List (Bytes × Item)} {i n : Nat} (hn : 0 < n) (h : i + n < H.length) :
    some ((((List.take n (List.drop i H)).getLast?.map (·.1)).getD []).drop 1) = curAt H (i + n) := by
  have hlast : ((H.drop i).take n).getLast? = H[i + n - 1]? := by
    rw [List.getLast?_eq_getElem?, List.length_take, List.length_drop, Nat.min_eq_left (by omega),
      List.getElem?_take_of_lt (by omega), List.getElem?_drop]
    congr 1; omega
  unfold curAt
  rw [if_neg (by omega), hlast, List.getElem?_eq_getElem (by omega)]
  rfl

theorem pages_exact (b : List Bytes) (avail : Nat → Bool) (fs : List Filter) (attrs : List Bytes)
    (H : List (Bytes × Item))
    (hpage : ∀ i n, i ≤ H.length → 1 ≤ n →
      pageB b avail fs attrs (curAt H i) n = .ok (scanResult (H.drop i) n [] [])) :
    ∀ (fuel i : Nat) (sizes : List Nat), sizes ≠ [] → (∀ n ∈ sizes, 1 ≤ n) → H.length - i < fuel → i ≤ H.length →
      ((pagesB b avail fs attrs fuel sizes (curAt H i)).flatMap pageItems = (H.drop i).map (·.2)) ∧
      chainClean (pagesB b avail fs attrs fuel sizes (curAt H i)) = true := by
  intro fuel
  induction fuel with
  | zero => intro i sizes _ _ hf _; omega
  | succ fuel ih =>
    intro i sizes hne hpos hf hi
    cases sizes with
    | nil => exact absurd rfl hne
    | cons n ns =>
      have hn : 1 ≤ n := hpos n List.mem_cons_self
      have hp := hpage i n hi hn
      rw [scanResult_nil_acc, List.length_drop] at hp
      rw [pagesB_step fuel ns hp rfl]
      by_cases hmore : H.length - i > n
      · -- a full page; the rest is the chain from `i + n`
        have hcur := curAt_add hn (show i + n < H.length by omega)
        have hsz : (if ns.isEmpty = true then [n] else ns) ≠ [] ∧
            ∀ m ∈ (if ns.isEmpty = true then [n] else ns), 1 ≤ m := by
          cases ns with
          | nil => exact ⟨List.cons_ne_nil _ _, fun m hm => by rw [List.mem_singleton.1 hm]; exact hn⟩
          | cons a t => exact ⟨List.cons_ne_nil _ _, fun m hm => hpos m (List.mem_cons_of_mem _ hm)⟩
        obtain ⟨h1, h2⟩ := ih (i + n) _ hsz.1 hsz.2 (by omega) (by omega)
        rw [← hcur] at h1 h2
        simp only [if_pos hmore]
        constructor
        · rw [List.flatMap_cons, h1]
          show List.map (·.2) (List.take n (List.drop i H)) ++ _ = _
          rw [← List.map_append, ← List.drop_drop, List.take_append_drop]
        · rw [chainClean_cons (by intro e; rw [e] at h2; cases h2), h2]
          rfl
      · simp only [if_neg hmore]
        refine ⟨?_, rfl⟩
        show List.map (·.2) (List.take n (List.drop i H)) ++ [] = _
        rw [List.append_nil, List.take_of_length_le (by rw [List.length_drop]; omega)]

end NeoFS.Search
