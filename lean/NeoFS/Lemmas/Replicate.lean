import NeoFS.Model.SigChain
import NeoFS.Lemmas.GuardChain
namespace NeoFS.SigChain

theorem Sel.any_iff (s : Sel) (p : Nat → Bool) : s.any p = true ↔ ∃ ks, s = .nodes ks ∧ ∃ k ∈ ks, p k = true := by
  cases s with
  | policyErr => simp [Sel.any]
  | nodes ks => simp [Sel.any]

theorem some_any_iff (o : Option Sel) (p : Nat → Bool) :
    (∃ c, o = some c ∧ c.any p = true) ↔ ∃ ks, o = some (.nodes ks) ∧ ∃ k ∈ ks, p k = true := by
  constructor
  · rintro ⟨c, rfl, h⟩
    obtain ⟨ks, rfl, hk⟩ := (Sel.any_iff c p).mp h
    exact ⟨ks, rfl, hk⟩
  · rintro ⟨ks, rfl, hk⟩
    exact ⟨_, rfl, (Sel.any_iff _ p).mpr ⟨ks, rfl, hk⟩⟩

theorem forEachNode_notFound (env : RepEnv) (wp : Bool) (p : Nat → Bool)
    (h : forEachNode env wp p = .notFound) : env.cnrFound = false := by
  unfold forEachNode at h
  by_cases he : env.epochFails = true
  · rw [if_pos he] at h; cases h
  · rw [if_neg he] at h
    by_cases hc : (!env.cnrFound) = true
    · simpa using hc
    · rw [if_neg hc] at h
      -- past the two lookups every answer is `otherErr` or `done _`
      exfalso
      revert h
      cases env.cur with
      | none => nofun
      | some c =>
        refine ite_ne_of_ne nofun (ite_ne_of_ne (ite_ne_of_ne nofun nofun) ?_)
        cases env.prev with
        | none => nofun
        | some pv => exact ite_ne_of_ne nofun (ite_ne_of_ne nofun nofun)

theorem finish_storeCalled (env : RepEnv) (r : RepReq) : (finish env r).storeCalled = r.objDecodes := by
  unfold finish
  cases r.objDecodes with
  | false => rfl
  | true =>
    cases env.store with
    | busy => rfl
    | fail => rfl
    | ok => cases r.signObject <;> cases env.signFails <;> rfl

theorem finish_status (env : RepEnv) (r : RepReq) :
    (r.objDecodes = false ∧ (finish env r).status = .badObject) ∨
    (r.objDecodes = true ∧ ((finish env r).status = .ok ∨ (finish env r).status = .busy ∨
      (finish env r).status = .internalStore ∨ (finish env r).status = .internalSign)) := by
  unfold finish
  cases r.objDecodes with
  | false => simp [refuse]
  | true =>
    cases env.store with
    | busy => simp
    | fail => simp
    | ok => cases r.signObject <;> cases env.signFails <;> simp

theorem finish_status_ok_iff (env : RepEnv) (r : RepReq) :
    (finish env r).status = .ok ↔
      r.objDecodes = true ∧ env.store = .ok ∧ (r.signObject = true → env.signFails = false) := by
  unfold finish
  cases r.objDecodes with
  | false => simp [refuse]
  | true =>
    cases env.store with
    | busy => simp
    | fail => simp
    | ok => cases r.signObject <;> cases env.signFails <;> simp

theorem finish_signed (env : RepEnv) (r : RepReq) (h : (finish env r).signed = true) :
    (finish env r).status = .ok ∧ r.objDecodes = true ∧ r.signObject = true := by
  revert h
  unfold finish
  cases r.objDecodes with
  | false => simp [refuse]
  | true =>
    cases env.store with
    | busy => simp
    | fail => simp
    | ok => cases r.signObject <;> cases env.signFails <;> simp

end NeoFS.SigChain
