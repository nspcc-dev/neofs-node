import NeoFS.Model.ListMerge
import NeoFS.Lemmas.Listing
/-!
`mergeGo` (the loop of `mergeListResults`): for a sorted accumulated result and a sorted page it yields a sorted,
duplicate-free list of at most `n` items that loses nothing it had room for and records the page's shard on
exactly the addresses the page contains.
-/
namespace NeoFS.EngList

def keys (l : List Item) : List Addr := l.map (·.addr)

def Sorted (l : List Addr) : Prop := l.Pairwise fun a b => lt a b = true

theorem lt_irrefl (a : Addr) : lt a a = false := Meta.addrLt_irrefl a

theorem lt_trans {a b c : Addr} (h1 : lt a b = true) (h2 : lt b c = true) : lt a c = true := Meta.addrLt_trans h1 h2

theorem lt_total {a b : Addr} (h1 : lt a b = false) (h2 : a ≠ b) : lt b a = true := Meta.addrLt_total h1 h2

theorem sorted_cons_iff (x : Addr) (l : List Addr) : Sorted (x :: l) ↔ (∀ y ∈ l, lt x y = true) ∧ Sorted l := by
  unfold Sorted; exact List.pairwise_cons

theorem sorted_nodup (l : List Addr) (h : Sorted l) : l.Nodup := by
  unfold Sorted at h
  exact h.imp (fun {a b} hab heq => by subst heq; rw [lt_irrefl] at hab; exact Bool.false_ne_true hab)

theorem sorted_take (l : List Addr) (n : Nat) (h : Sorted l) : Sorted (l.take n) :=
  List.Pairwise.sublist (List.take_sublist n l) h

theorem take_lt_drop (l : List Addr) (n : Nat) (h : Sorted l) : ∀ y ∈ l.take n, ∀ x ∈ l.drop n, lt y x = true := by
  have : Sorted (l.take n ++ l.drop n) := by rw [List.take_append_drop]; exact h
  unfold Sorted at this
  rw [List.pairwise_append] at this
  exact this.2.2

theorem le_getLast_of_sorted {l : List Addr} (h : Sorted l) {x : Addr} (hl : l.getLast? = some x) :
    ∀ y ∈ l, y = x ∨ lt y x = true := by
  obtain ⟨pre, rfl⟩ := List.getLast?_eq_some_iff.mp hl
  intro y hy
  rcases List.mem_append.mp hy with hy | hy
  · exact Or.inr ((List.pairwise_append.mp h).2.2 y hy x (List.mem_singleton_self x))
  · exact Or.inl (List.mem_singleton.mp hy)

theorem length_take_of_mem_drop {l : List Addr} {n : Nat} {x : Addr} (h : x ∈ l.drop n) : (l.take n).length = n := by
  have : n < l.length := Nat.lt_of_not_le fun hle => by rw [List.drop_of_length_le hle] at h; cases h
  rw [List.length_take]
  omega

theorem mem_keys_cons (x : Item) (xs : List Item) (y : Addr) : y ∈ keys (x :: xs) ↔ y = x.addr ∨ y ∈ keys xs := by
  unfold keys; simp

theorem keys_subset_of_full_subset {l : List Addr} {R : List Item} {count : Nat} (hnd : l.Nodup) (hlen : l.length = count)
    (hR : R.length ≤ count) (hsub : ∀ p ∈ l, p ∈ keys R) : R.length = count ∧ ∀ y ∈ keys R, y ∈ l := by
  have hk : (keys R).length = R.length := List.length_map _
  refine ⟨Nat.le_antisymm hR ?_, fun y hy => Classical.byContradiction fun hyl => ?_⟩
  · have := hnd.length_le_of_subset hsub
    omega
  · have := (List.nodup_cons.mpr ⟨hyl, hnd⟩).length_le_of_subset (List.forall_mem_cons.mpr ⟨hy, hsub⟩)
    rw [List.length_cons] at this
    omega

theorem full_before {l : List Addr} {R : List Item} {count : Nat} (hl : Sorted l) (hlen : l.length = count)
    (hR : R.length ≤ count)
    (hc : ∀ p ∈ l, p ∈ keys R ∨ (R.length = count ∧ ∀ y ∈ keys R, lt y p = true))
    (x : Addr) (hx : ∀ p ∈ l, lt p x = true) : R.length = count ∧ ∀ y ∈ keys R, lt y x = true := by
  by_cases hall : ∀ p ∈ l, p ∈ keys R
  · obtain ⟨h1, h2⟩ := keys_subset_of_full_subset (sorted_nodup _ hl) hlen hR hall
    exact ⟨h1, fun y hy => hx y (h2 y hy)⟩
  · obtain ⟨p, hp, hpn⟩ := Classical.not_forall.mp hall |>.imp fun p h => Classical.not_imp.mp h
    obtain ⟨hf, hb⟩ := (hc p hp).resolve_left hpn
    exact ⟨hf, fun y hy => lt_trans (hb y hy) (hx p hp)⟩

def HoldersOK (a : List Item) (b : List Addr) (sh : Nat) (it : Item) : Prop :=
  (∃ i ∈ a, i.addr = it.addr ∧ it.holders = i.holders ++ (if it.addr ∈ b then [sh] else []))
    ∨ ((∀ i ∈ a, i.addr ≠ it.addr) ∧ it.addr ∈ b ∧ it.holders = [sh])

/-- what `mergeGo` guarantees -/
structure MergeSpec (n : Nat) (a : List Item) (b : List Addr) (sh : Nat) (r : List Item) : Prop where
  len : r.length ≤ n
  sorted : Sorted (keys r)
  /-- nothing appears from nowhere -/
  src : ∀ y ∈ keys r, y ∈ keys a ∨ y ∈ b
  /-- nothing is skipped: an input address is in the result or lies after a full result -/
  complete : ∀ x, (x ∈ keys a ∨ x ∈ b) → x ∈ keys r ∨ (r.length = n ∧ ∀ y ∈ keys r, lt y x = true)
  /-- holders: an old item keeps its holders and gets the shard iff the page has the address; a new item has just the shard -/
  holders : ∀ it ∈ r, (∃ i ∈ a, i.addr = it.addr ∧ it.holders = i.holders ++ (if it.addr ∈ b then [sh] else []))
      ∨ ((∀ i ∈ a, i.addr ≠ it.addr) ∧ it.addr ∈ b ∧ it.holders = [sh])

theorem HoldersOK.cons_page {a : List Item} {b : List Addr} {sh : Nat} {it : Item} (y : Addr)
    (h : HoldersOK a b sh it) (hne : it.addr ≠ y) : HoldersOK a (y :: b) sh it := by
  rcases h with ⟨i, hi, h1, h2⟩ | ⟨h1, h2, h3⟩
  · exact Or.inl ⟨i, hi, h1, by rw [h2]; simp [hne]⟩
  · exact Or.inr ⟨h1, List.mem_cons_of_mem _ h2, h3⟩

theorem HoldersOK.cons_acc {a : List Item} {b : List Addr} {sh : Nat} {it : Item} (x : Item)
    (h : HoldersOK a b sh it) (hne : it.addr ≠ x.addr) : HoldersOK (x :: a) b sh it := by
  rcases h with ⟨i, hi, h1, h2⟩ | ⟨h1, h2, h3⟩
  · exact Or.inl ⟨i, List.mem_cons_of_mem _ hi, h1, h2⟩
  · exact Or.inr ⟨List.forall_mem_cons.mpr ⟨fun e => hne e.symm, h1⟩, h2, h3⟩

theorem MergeSpec.nil {n : Nat} {a : List Item} {b : List Addr} (sh : Nat) (h : n = 0 ∨ (a = [] ∧ b = [])) :
    MergeSpec n a b sh [] where
  len := Nat.zero_le n
  sorted := List.Pairwise.nil
  src := nofun
  complete := fun x hx => by
    rcases h with rfl | ⟨rfl, rfl⟩
    · exact Or.inr ⟨rfl, nofun⟩
    · rcases hx with hx | hx <;> cases hx
  holders := nofun

/-- prepend the smallest address to a recursive result -/
theorem MergeSpec.cons {n : Nat} {a' : List Item} {b' : List Addr} {sh : Nat} {r : List Item}
    (hd : Item) (a : List Item) (b : List Addr) (rcs : MergeSpec n a' b' sh r)
    (hmin : ∀ y, (y ∈ keys a' ∨ y ∈ b') → lt hd.addr y = true)
    (hcov : ∀ x, (x ∈ keys a ∨ x ∈ b) ↔ x = hd.addr ∨ x ∈ keys a' ∨ x ∈ b')
    (hhd : HoldersOK a b sh hd)
    (hrec : ∀ it, it.addr ≠ hd.addr → HoldersOK a' b' sh it → HoldersOK a b sh it) :
    MergeSpec (n + 1) a b sh (hd :: r) where
  len := Nat.succ_le_succ rcs.len
  sorted := (sorted_cons_iff _ _).mpr ⟨fun y hy => hmin y (rcs.src y hy), rcs.sorted⟩
  src := fun y hy => by
    rcases (mem_keys_cons hd r y).mp hy with rfl | hy
    · exact (hcov _).mpr (Or.inl rfl)
    · exact (hcov y).mpr (Or.inr (rcs.src y hy))
  complete := fun x hx => by
    rcases (hcov x).mp hx with rfl | hx'
    · exact Or.inl ((mem_keys_cons hd r _).mpr (Or.inl rfl))
    · rcases rcs.complete x hx' with h | ⟨h1, h2⟩
      · exact Or.inl ((mem_keys_cons hd r x).mpr (Or.inr h))
      · refine Or.inr ⟨congrArg (· + 1) h1, fun y hy => ?_⟩
        rcases (mem_keys_cons hd r y).mp hy with rfl | hy
        · exact hmin x hx'
        · exact h2 y hy
  holders := fun it hit => by
    rcases List.mem_cons.mp hit with rfl | hit
    · exact hhd
    · refine hrec it (fun e => ?_) (rcs.holders it hit)
      have := hmin it.addr (rcs.src _ (List.mem_map_of_mem hit))
      rw [e, lt_irrefl] at this
      cases this

theorem mergeGo_nil_right (sh : Nat) : ∀ (n : Nat) (a : List Item), a.length ≤ n → mergeGo n a [] sh = a := by
  intro n
  induction n with
  | zero => intro a h; cases a with
    | nil => rfl
    | cons _ _ => simp at h
  | succ n ih => intro a h; cases a with
    | nil => rfl
    | cons x xs => simp only [mergeGo]; rw [ih xs (by simpa using h)]

theorem mergeGo_nil_left (sh : Nat) : ∀ (n : Nat) (b : List Addr),
    mergeGo n [] b sh = (b.take n).map fun y => ⟨y, [sh]⟩ := by
  intro n
  induction n with
  | zero => intro b; cases b <;> rfl
  | succ n ih => intro b; cases b with
    | nil => rfl
    | cons y ys => simp only [mergeGo, List.take_succ_cons, List.map_cons]; rw [ih ys]

theorem mergeGo_spec : ∀ (n : Nat) (a : List Item) (b : List Addr) (sh : Nat),
    Sorted (keys a) → Sorted b → MergeSpec n a b sh (mergeGo n a b sh)
  | 0, a, b, sh, _, _ => by
    have : mergeGo 0 a b sh = [] := by cases a <;> cases b <;> rfl
    rw [this]; exact MergeSpec.nil sh (Or.inl rfl)
  | _ + 1, [], [], sh, _, _ => MergeSpec.nil sh (Or.inr ⟨rfl, rfl⟩)
  | n + 1, [], y :: ys, sh, ha, hb => by
    have hb' := (sorted_cons_iff y ys).mp hb
    exact MergeSpec.cons ⟨y, [sh]⟩ [] (y :: ys) (mergeGo_spec n [] ys sh ha hb'.2)
      (fun z hz => hz.elim nofun (hb'.1 z)) (fun z => by rw [List.mem_cons]; exact or_left_comm)
      (Or.inr ⟨nofun, List.mem_cons_self, rfl⟩) (fun it hne h => h.cons_page y hne)
  | n + 1, x :: xs, [], sh, ha, hb => by
    have ha' := (sorted_cons_iff x.addr (keys xs)).mp ha
    exact MergeSpec.cons x (x :: xs) [] (mergeGo_spec n xs [] sh ha'.2 hb)
      (fun z hz => hz.elim (ha'.1 z) nofun) (fun z => by rw [mem_keys_cons]; exact or_assoc)
      (Or.inl ⟨x, List.mem_cons_self, rfl, by simp⟩) (fun it hne h => h.cons_acc x hne)
  | n + 1, x :: xs, y :: ys, sh, ha, hb => by
    have ha' := (sorted_cons_iff x.addr (keys xs)).mp ha
    have hb' := (sorted_cons_iff y ys).mp hb
    unfold mergeGo
    by_cases hyx : lt y x.addr = true
    · -- the page's head is smaller: a new item
      rw [if_pos hyx]
      have hy_lt_a : ∀ z ∈ keys (x :: xs), lt y z = true := by
        intro z hz
        rcases (mem_keys_cons x xs z).mp hz with rfl | hz
        · exact hyx
        · exact lt_trans hyx (ha'.1 z hz)
      have hy_notin : ∀ i ∈ x :: xs, i.addr ≠ y := by
        intro i hi heq
        have := hy_lt_a i.addr (List.mem_map_of_mem hi)
        rw [heq, lt_irrefl] at this
        cases this
      exact MergeSpec.cons ⟨y, [sh]⟩ (x :: xs) (y :: ys) (mergeGo_spec n (x :: xs) ys sh ha hb'.2)
        (fun z hz => hz.elim (hy_lt_a z) (hb'.1 z)) (fun z => by rw [List.mem_cons]; exact or_left_comm)
        (Or.inr ⟨hy_notin, List.mem_cons_self, rfl⟩) (fun it hne h => h.cons_page y hne)
    · rw [if_neg hyx]
      by_cases heq : x.addr = y
      · -- the same address: the shard joins the holders
        rw [if_pos (by simpa using heq)]
        exact MergeSpec.cons { x with holders := x.holders ++ [sh] } (x :: xs) (y :: ys)
          (mergeGo_spec n xs ys sh ha'.2 hb'.2)
          (fun z hz => hz.elim (ha'.1 z) (fun hz => heq ▸ hb'.1 z hz))
          (fun z => by rw [mem_keys_cons, List.mem_cons, ← heq]; exact or_or_distrib_left.symm)
          (Or.inl ⟨x, List.mem_cons_self, rfl, by simp [heq]⟩)
          (fun it hne h => (h.cons_page y (heq ▸ hne)).cons_acc x hne)
      · -- the accumulated head is smaller
        rw [if_neg (by simpa using heq)]
        have hxy : lt x.addr y = true := lt_total (by simpa using hyx) (fun h => heq h.symm)
        have hx_lt_b : ∀ z ∈ y :: ys, lt x.addr z = true := by
          intro z hz
          rcases List.mem_cons.mp hz with rfl | hz
          · exact hxy
          · exact lt_trans hxy (hb'.1 z hz)
        have hx_notin : x.addr ∉ y :: ys := by
          intro h
          have := hx_lt_b x.addr h
          rw [lt_irrefl] at this
          cases this
        exact MergeSpec.cons x (x :: xs) (y :: ys) (mergeGo_spec n xs (y :: ys) sh ha'.2 hb)
          (fun z hz => hz.elim (ha'.1 z) (hx_lt_b z)) (fun z => by rw [mem_keys_cons]; exact or_assoc)
          (Or.inl ⟨x, List.mem_cons_self, rfl, by simp [hx_notin]⟩) (fun it hne h => h.cons_acc x hne)

theorem full_stays_full {n : Nat} {a : List Item} {b : List Addr} {sh : Nat} {r : List Item}
    (m : MergeSpec n a b sh r) (ha : Sorted (keys a)) (hfull : a.length = n) (x : Addr)
    (hx : ∀ y ∈ keys a, lt y x = true) : r.length = n ∧ ∀ y ∈ keys r, lt y x = true :=
  full_before ha ((List.length_map _).trans hfull) m.len (fun p hp => m.complete p (Or.inl hp)) x hx

end NeoFS.EngList
