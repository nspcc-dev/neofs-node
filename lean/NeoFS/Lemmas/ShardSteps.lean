import NeoFS.Model.ShardSteps
/-!
Invariant of the shard step model and its preservation by every atomic step that is *safe* in the state in
which it executes; every operation's step list is safe from every state that satisfies the invariant.
-/
namespace NeoFS.ShardSteps

/-- every stored value is the object of its address (ids are content hashes) -/
def RightIn (content : Nat → Body) (m : Nat → Option Body) : Prop := ∀ a b, m a = some b → b = content a

/-- the crash-consistency invariant: whatever is indexed and not exempt (marked for removal with the default
mark, or expired) has its bytes in the main storage or in the write-cache -/
structure Inv (content : Nat → Body) (s : St) : Prop where
  blobRight : RightIn content s.blob
  wcRight : RightIn content s.wc
  data : ∀ a, indexed s a = true → s.garb a = some .dflt ∨ expiredNow s a = true ∨ hasData s a = true
  tomb : ∀ a, indexed s a = true → tombstoned s a = true → s.garb a = some .dflt
  bkt : s.hasBkt = false → ∀ a, s.idx a = none

/-- the metabase does not (or no longer) present `a` as available, whatever the stores hold -/
def exempt (s : St) (a : Nat) : Prop := indexed s a = false ∨ s.garb a = some .dflt ∨ expiredNow s a = true

/-- when a step may be executed without endangering the invariant (last case: `metaDelete`, `metaMark`, `flushCopy`,
`metaReset`, `resyncBatch` always may) -/
def Safe (content : Nat → Body) (s : St) : Step → Prop
  | .blobPut a b => b = content a
  | .wcPut a b => b = content a
  | .metaPut a _ => hasData s a = true
  | .wcDel a => exempt s a ∨ (s.blob a).isSome = true
  | .blobDel a => exempt s a ∨ (s.wc a).isSome = true
  | _ => True

def SafeList (content : Nat → Body) : St → List Step → Prop
  | _, [] => True
  | s, x :: xs => Safe content s x ∧ SafeList content (applyStep s x) xs

@[simp] theorem upd_same {β : Type} (f : Nat → β) (a : Nat) (v : β) : upd f a v a = v := if_pos rfl
theorem upd_other {β : Type} (f : Nat → β) {a x : Nat} (v : β) (h : x ≠ a) : upd f a v x = f x := if_neg h

theorem tombstoned_iff {s : St} {a : Nat} : tombstoned s a = true ↔ ∃ t, t < U ∧ tsTargets (s.idx t) a = true := by
  simp [tombstoned]

theorem tombstoned_mono {s s' : St} {a : Nat}
    (h : ∀ t, tsTargets (s'.idx t) a = true → tsTargets (s.idx t) a = true) :
    tombstoned s' a = true → tombstoned s a = true :=
  fun h' => tombstoned_iff.mpr ((tombstoned_iff.mp h').imp fun t ht => ⟨ht.1, h t ht.2⟩)

theorem status_spec (s : St) (a : Nat) :
    match status s a with
    | .expired => expiredNow s a = true
    | .tombstoned => expiredNow s a = false ∧ tombstoned s a = true
    | .gcMarked => expiredNow s a = false ∧ tombstoned s a = false ∧ s.garb a = some .dflt
    | .available => expiredNow s a = false ∧ tombstoned s a = false ∧ s.garb a ≠ some .dflt := by
  unfold status
  by_cases he : expiredNow s a = true
  · rw [if_pos he]; exact he
  · have he' := Bool.eq_false_iff.mpr he
    rw [if_neg he]
    by_cases ht : tombstoned s a = true
    · rw [if_pos ht]; exact ⟨he', ht⟩
    · have ht' := Bool.eq_false_iff.mpr ht
      rw [if_neg ht]
      by_cases hg : s.garb a = some .dflt
      · rw [if_pos hg]; exact ⟨he', ht', hg⟩
      · rw [if_neg hg]; exact ⟨he', ht', hg⟩

theorem expiredNow_congr {s s' : St} {a : Nat} (hi : s'.idx a = s.idx a) (he : s'.epoch = s.epoch) :
    expiredNow s' a = expiredNow s a := by
  unfold expiredNow; rw [hi, he]

theorem expiredNow_mono {s s' : St} {a : Nat} (hi : s'.idx = s.idx) (he : s.epoch ≤ s'.epoch)
    (h : expiredNow s a = true) : expiredNow s' a = true := by
  unfold expiredNow at h ⊢
  rw [hi]
  split at h
  · simp only [decide_eq_true_eq] at h ⊢
    omega
  · cases h

theorem exempt_congr {s s' : St} (hi : s'.idx = s.idx) (hg : s'.garb = s.garb) (he : s'.epoch = s.epoch) (a : Nat) :
    exempt s' a ↔ exempt s a := by
  unfold exempt indexed
  rw [expiredNow_congr (congrFun hi a) he, hi, hg]

theorem rightIn_upd {content : Nat → Body} {m : Nat → Option Body} (h : RightIn content m) (a : Nat) (v : Option Body)
    (hv : ∀ b, v = some b → b = content a) : RightIn content (upd m a v) := by
  intro x y hxy
  by_cases hx : x = a
  · subst hx; rw [upd_same] at hxy; exact hv y hxy
  · rw [upd_other _ _ hx] at hxy; exact h x y hxy

theorem isSome_upd {β : Type} {m : Nat → Option β} {a x : Nat} (v : Option β) (hv : x = a → v.isSome = true)
    (h : (m x).isSome = true) : (upd m a v x).isSome = true := by
  by_cases hx : x = a
  · subst hx; rw [upd_same]; exact hv rfl
  · rwa [upd_other _ _ hx]

theorem hasData_iff {s : St} {a : Nat} : hasData s a = true ↔ (s.blob a).isSome = true ∨ (s.wc a).isSome = true :=
  Bool.or_eq_true_iff

/-- The frame of the invariant: metabase unchanged (the epoch may advance), stores right, data kept where not exempt. -/
theorem inv_of_meta_eq {content : Nat → Body} {s s' : St} (hI : Inv content s)
    (hi : s'.idx = s.idx) (hg : s'.garb = s.garb) (hk : s'.hasBkt = s.hasBkt) (he : s.epoch ≤ s'.epoch)
    (hb : RightIn content s'.blob) (hw : RightIn content s'.wc)
    (hd : ∀ a, hasData s a = true → exempt s a ∨ hasData s' a = true) : Inv content s' := by
  have hidx : ∀ a, indexed s' a = indexed s a := fun a => by unfold indexed; rw [hi]
  refine ⟨hb, hw, fun a ha => ?_, fun a ha ht => ?_, fun h a => hi ▸ hI.bkt (hk ▸ h) a⟩
  · rw [hidx] at ha
    rw [hg]
    rcases hI.data a ha with h | h | h
    · exact Or.inl h
    · exact Or.inr (Or.inl (expiredNow_mono hi he h))
    · rcases hd a h with (hx | hx | hx) | hx
      · exact absurd (hx.symm.trans ha) nofun
      · exact Or.inl hx
      · exact Or.inr (Or.inl (expiredNow_mono hi he hx))
      · exact Or.inr (Or.inr hx)
  · rw [hidx] at ha
    exact hg ▸ hI.tomb a ha (tombstoned_mono (fun t h => hi ▸ h) ht)

/-- the four ways of `db.put`: the object has expired, is removed, is known already, or gets indexed -/
theorem metaPut_cases {P : St × Err → Prop} (s : St) (a : Nat) (k : Kind)
    (expired : expiredNow s a = true → P (s, .expired))
    (removed : expiredNow s a = false → tombstoned s a = true → P (s, .alreadyRemoved))
    (known : indexed s a = true → P (s, .ok))
    (new : expiredNow s a = false → tombstoned s a = false → indexed s a = false → P (insertObj s a k)) :
    P (metaPut s a k) := by
  have fresh : expiredNow s a = false → tombstoned s a = false →
      P (if indexed s a then (s, .ok) else insertObj s a k) := by
    intro he ht
    by_cases h : indexed s a = true
    · rw [if_pos h]; exact known h
    · rw [if_neg h]; exact new he ht (Bool.eq_false_iff.mpr h)
  have hs := status_spec s a
  cases hst : status s a <;> rw [hst] at hs <;> simp only [metaPut, hst, reduceCtorEq, if_false, if_true]
  · exact fresh hs.1 hs.2.1
  · exact fresh hs.1 hs.2.1
  · exact removed hs.1 hs.2
  · exact expired hs

theorem metaPut_stores (s : St) (a : Nat) (k : Kind) : (metaPut s a k).1.blob = s.blob ∧ (metaPut s a k).1.wc = s.wc :=
  metaPut_cases (P := fun r => r.1.blob = s.blob ∧ r.1.wc = s.wc) s a k
    (fun _ => ⟨rfl, rfl⟩) (fun _ _ => ⟨rfl, rfl⟩) (fun _ => ⟨rfl, rfl⟩) fun _ _ _ => by
      cases k with
      | reg => exact ⟨rfl, rfl⟩
      | ts tg x => simp only [insertObj]; split <;> exact ⟨rfl, rfl⟩

theorem metaPut_wc (s : St) (a : Nat) (k : Kind) : (metaPut s a k).1.wc = s.wc := (metaPut_stores s a k).2

theorem inv_insert {content : Nat → Body} {s s' : St} (a : Nat) (k : Kind) (hI : Inv content s)
    (hd : hasData s a = true) (hnt : tombstoned s a = false)
    (hb : s'.blob = s.blob) (hw : s'.wc = s.wc) (hi : s'.idx = upd s.idx a (some k)) (he : s'.epoch = s.epoch)
    (hbk : s'.hasBkt = true) (hg : ∀ x, s.garb x = some .dflt → s'.garb x = some .dflt)
    (hk : ∀ x, tsTargets (some k) x = true → s'.garb x = some .dflt) : Inv content s' := by
  have hidx : ∀ {x}, x ≠ a → s'.idx x = s.idx x := fun hx => hi ▸ upd_other _ _ hx
  have hix : ∀ {x}, x ≠ a → indexed s' x = true → indexed s x = true := fun hx h =>
    (congrArg Option.isSome (hidx hx)).symm.trans h
  refine ⟨hb ▸ hI.blobRight, hw ▸ hI.wcRight, fun x hx => ?_, fun x hx ht => ?_, fun h => absurd (h.symm.trans hbk) nofun⟩
  · by_cases hxa : x = a
    · subst hxa; exact Or.inr (Or.inr (by unfold hasData; rw [hb, hw]; exact hd))
    · rcases hI.data x (hix hxa hx) with h | h | h
      · exact Or.inl (hg x h)
      · exact Or.inr (Or.inl ((expiredNow_congr (hidx hxa) he).trans h))
      · exact Or.inr (Or.inr (by unfold hasData; rw [hb, hw]; exact h))
  · obtain ⟨t, htU, htx⟩ := tombstoned_iff.mp ht
    by_cases hta : t = a
    · subst hta
      rw [hi, upd_same] at htx
      exact hk x htx
    · rw [hidx hta] at htx
      have htm : tombstoned s x = true := tombstoned_iff.mpr ⟨t, htU, htx⟩
      by_cases hxa : x = a
      · subst hxa; exact absurd (htm.symm.trans hnt) nofun
      · exact hg x (hI.tomb x (hix hxa hx) htm)

theorem insertObj_inv {content : Nat → Body} {s : St} (a : Nat) (k : Kind) (hI : Inv content s)
    (hd : hasData s a = true) (hnt : tombstoned s a = false) : Inv content (insertObj s a k).1 := by
  cases k with
  | reg => exact inv_insert a .reg hI hd hnt rfl rfl rfl rfl rfl (fun _ => id) nofun
  | ts tg x0 =>
    simp only [insertObj]
    split
    · exact hI
    · refine inv_insert a (.ts tg x0) hI hd hnt rfl rfl rfl rfl rfl (fun x h => ?_) (fun x h => ?_)
      · by_cases hx : x = tg
        · subst hx; exact upd_same _ _ _
        · exact (upd_other _ _ hx).trans h
      · have : tg = x := by simpa [tsTargets] using h
        subst this; exact upd_same _ _ _

theorem metaPut_inv {content : Nat → Body} {s : St} (a : Nat) (k : Kind) (hI : Inv content s)
    (hd : hasData s a = true) : Inv content (metaPut s a k).1 :=
  metaPut_cases (P := fun r => Inv content r.1) s a k (fun _ => hI) (fun _ _ => hI) (fun _ => hI)
    (fun _ ht _ => insertObj_inv a k hI hd ht)

theorem markOne_keeps_dflt (m : Mark) (g : Nat → Option Mark) (a x : Nat) (h : g x = some .dflt) :
    markOne m g a x = some .dflt := by
  unfold markOne
  split
  · exact h
  · rename_i hn
    exact (upd_other _ _ fun hx => hn (by subst hx; exact h)).trans h

theorem foldl_markOne_keeps_dflt (m : Mark) (ids : List Nat) (g : Nat → Option Mark) (x : Nat)
    (h : g x = some .dflt) : ids.foldl (markOne m) g x = some .dflt :=
  List.foldlRecOn (motive := fun g' => g' x = some .dflt) ids _ h fun g' hg a _ => markOne_keeps_dflt m g' a x hg

theorem markOne_sets_dflt (g : Nat → Option Mark) (a : Nat) : markOne .dflt g a a = some .dflt := by
  unfold markOne
  split
  · assumption
  · exact upd_same _ _ _

theorem foldl_markOne_sets_dflt (ids : List Nat) : ∀ (g : Nat → Option Mark) (x : Nat),
    x ∈ ids → ids.foldl (markOne .dflt) g x = some .dflt := by
  induction ids with
  | nil => intro g x h; cases h
  | cons a rest ih =>
    intro g x h
    rw [List.foldl_cons]
    rcases List.mem_cons.mp h with rfl | h
    · exact foldl_markOne_keeps_dflt _ _ _ _ (markOne_sets_dflt g x)
    · exact ih _ x h

theorem putBatch_ind {P : St → Prop} (blob0 : Nat → Option Body)
    (h : ∀ s a b, blob0 a = some b → P s → P (metaPut s a b.kind).1) (order : List Nat) :
    ∀ s s', P s → putBatch s blob0 order = some s' → P s' := by
  induction order with
  | nil => intro s s' hP hp; cases hp; exact hP
  | cons a rest ih =>
    intro s s' hP hp
    unfold putBatch at hp
    split at hp
    · exact ih s s' hP hp
    · split at hp
      · cases hp
      · exact ih _ s' (h s a _ ‹_› hP) hp

/-- every safe step preserves the invariant -/
theorem inv_step {content : Nat → Body} {s : St} (st : Step) (hI : Inv content s) (hs : Safe content s st) :
    Inv content (applyStep s st) := by
  cases st with
  | blobPut a b =>
    exact inv_of_meta_eq hI rfl rfl rfl (Nat.le_refl _) (rightIn_upd hI.blobRight a _ fun _ e => Option.some.inj e ▸ hs)
      hI.wcRight fun x h => Or.inr (hasData_iff.mpr ((hasData_iff.mp h).imp_left (isSome_upd _ fun _ => rfl)))
  | wcPut a b =>
    exact inv_of_meta_eq hI rfl rfl rfl (Nat.le_refl _) hI.blobRight
      (rightIn_upd hI.wcRight a _ fun _ e => Option.some.inj e ▸ hs)
      fun x h => Or.inr (hasData_iff.mpr ((hasData_iff.mp h).imp_right (isSome_upd _ fun _ => rfl)))
  | flushCopy a =>
    simp only [applyStep]
    split
    · rename_i b hb
      exact inv_of_meta_eq hI rfl rfl rfl (Nat.le_refl _)
        (rightIn_upd hI.blobRight a _ fun _ e => Option.some.inj e ▸ hI.wcRight a b hb) hI.wcRight
        fun x h => Or.inr (hasData_iff.mpr ((hasData_iff.mp h).imp_left (isSome_upd _ fun _ => rfl)))
    · exact hI
  | wcDel a =>
    refine inv_of_meta_eq hI rfl rfl rfl (Nat.le_refl _) hI.blobRight (rightIn_upd hI.wcRight a none nofun) fun x h => ?_
    by_cases hx : x = a
    · subst hx; exact hs.imp_right fun h => hasData_iff.mpr (Or.inl h)
    · exact Or.inr (hasData_iff.mpr ((hasData_iff.mp h).imp_right (isSome_upd _ fun e => absurd e hx)))
  | blobDel a =>
    refine inv_of_meta_eq hI rfl rfl rfl (Nat.le_refl _) (rightIn_upd hI.blobRight a none nofun) hI.wcRight fun x h => ?_
    by_cases hx : x = a
    · subst hx; exact hs.imp_right fun h => hasData_iff.mpr (Or.inr h)
    · exact Or.inr (hasData_iff.mpr ((hasData_iff.mp h).imp_left (isSome_upd _ fun e => absurd e hx)))
  | metaPut a k => exact metaPut_inv a k hI hs
  | metaDelete ids =>
    have hi : ∀ x, (applyStep s (.metaDelete ids)).idx x = if x ∈ ids then none else s.idx x := fun _ => rfl
    have hg : ∀ x, (applyStep s (.metaDelete ids)).garb x = if x ∈ ids then none else s.garb x := fun _ => rfl
    have hidx : ∀ {x}, indexed (applyStep s (.metaDelete ids)) x = true → x ∉ ids ∧ indexed s x = true := by
      intro x hx
      unfold indexed at hx
      rw [hi] at hx
      by_cases hm : x ∈ ids
      · rw [if_pos hm] at hx; cases hx
      · rw [if_neg hm] at hx; exact ⟨hm, hx⟩
    refine ⟨hI.blobRight, hI.wcRight, fun x hx => ?_, fun x hx ht => ?_, fun _ x => ?_⟩
    · obtain ⟨hm, hix⟩ := hidx hx
      rw [hg, if_neg hm, expiredNow_congr ((hi x).trans (if_neg hm)) rfl]
      exact hI.data x hix
    · obtain ⟨hm, hix⟩ := hidx hx
      rw [hg, if_neg hm]
      refine hI.tomb x hix (tombstoned_mono (fun t h => ?_) ht)
      rw [hi] at h
      by_cases hmt : t ∈ ids
      · rw [if_pos hmt] at h; cases h
      · rwa [if_neg hmt] at h
    · rw [hi]
      by_cases hm : x ∈ ids
      · exact if_pos hm
      · exact (if_neg hm).trans (hI.bkt ‹_› x)
  | metaMark ids m =>
    simp only [applyStep]
    split
    · exact ⟨hI.blobRight, hI.wcRight, fun x hx => (hI.data x hx).imp_left (foldl_markOne_keeps_dflt m ids s.garb x),
        fun x hx ht => foldl_markOne_keeps_dflt m ids s.garb x (hI.tomb x hx ht), hI.bkt⟩
    · exact hI
  | metaReset => exact ⟨hI.blobRight, hI.wcRight, nofun, nofun, fun _ _ => rfl⟩
  | resyncBatch order =>
    simp only [applyStep]
    cases h : putBatch s s.blob order with
    | none => exact hI
    | some s' =>
      exact (putBatch_ind (P := fun s' => Inv content s' ∧ s'.blob = s.blob) s.blob (fun s' a b hab h =>
        ⟨metaPut_inv a b.kind h.1 (hasData_iff.mpr (Or.inl (by rw [h.2, hab]; rfl))), (metaPut_stores ..).1.trans h.2⟩)
        order s s' ⟨hI, rfl⟩ h).1

theorem applySteps_append (s : St) (l1 l2 : List Step) :
    applySteps s (l1 ++ l2) = applySteps (applySteps s l1) l2 :=
  List.foldl_append

theorem safeList_append {content : Nat → Body} (l1 l2 : List Step) : ∀ (s : St),
    SafeList content s l1 → SafeList content (applySteps s l1) l2 → SafeList content s (l1 ++ l2) := by
  induction l1 with
  | nil => exact fun _ _ h => h
  | cons x xs ih => exact fun s h1 h2 => ⟨h1.1, ih _ h1.2 h2⟩

theorem safeList_take {content : Nat → Body} (l : List Step) : ∀ (s : St) (k : Nat),
    SafeList content s l → SafeList content s (l.take k) := by
  induction l with
  | nil => intro s k h; rw [List.take_nil]; exact h
  | cons x xs ih =>
    intro s k h
    cases k with
    | zero => trivial
    | succ k => exact ⟨h.1, ih _ k h.2⟩

theorem inv_steps {content : Nat → Body} (l : List Step) : ∀ (s : St),
    Inv content s → SafeList content s l → Inv content (applySteps s l) := by
  induction l with
  | nil => exact fun _ hI _ => hI
  | cons x xs ih => exact fun s hI hS => ih (applyStep s x) (inv_step x hI hS.1) hS.2

def IsDelOf (P : Nat → Prop) : Step → Prop
  | .wcDel a => P a
  | .blobDel a => P a
  | _ => False

theorem IsDelOf.imp {P Q : Nat → Prop} (h : ∀ a, P a → Q a) {x : Step} (hx : IsDelOf P x) : IsDelOf Q x := by
  cases x with
  | wcDel a => exact h a hx
  | blobDel a => exact h a hx
  | _ => exact hx

/-- cache and blob deletions of addresses the metabase does not present: safe in any order, however many -/
theorem safeList_dels {content : Nat → Body} (l : List Step) : ∀ (s : St),
    (∀ x ∈ l, IsDelOf (exempt s) x) → SafeList content s l := by
  induction l with
  | nil => exact fun _ _ => trivial
  | cons x xs ih =>
    intro s h
    have hx := h x List.mem_cons_self
    -- a deletion leaves the metabase, hence what is exempt, as it is
    have hxs : ∀ s', (∀ a, exempt s' a ↔ exempt s a) → SafeList content s' xs := fun s' he =>
      ih s' fun y hy => (h y (List.mem_cons_of_mem _ hy)).imp fun a => (he a).mpr
    cases x with
    | wcDel b => exact ⟨Or.inl hx, hxs _ (exempt_congr rfl rfl rfl)⟩
    | blobDel b => exact ⟨Or.inl hx, hxs _ (exempt_congr rfl rfl rfl)⟩
    | _ => exact hx.elim

/-- ids are content hashes: what is handed to `Put` under an address is the object of that address -/
def WFOp (content : Nat → Body) : Op → Prop
  | .put a b => b = content a
  | _ => True

def WFHist (content : Nat → Body) (h : List (Op × Option Nat)) : Prop := ∀ p ∈ h, WFOp content p.1

theorem inv_init (content : Nat → Body) (wc : Bool) : Inv content { hasWC := wc } :=
  ⟨nofun, nofun, nofun, nofun, fun _ _ => rfl⟩

theorem status_congr {s s' : St} (hi : s'.idx = s.idx) (hg : s'.garb = s.garb) (he : s'.epoch = s.epoch) (a : Nat) :
    status s' a = status s a := by
  unfold status tombstoned
  rw [expiredNow_congr (congrFun hi a) he, hi, hg]

theorem metaPut_err_congr {s s' : St} (hi : s'.idx = s.idx) (hg : s'.garb = s.garb) (he : s'.epoch = s.epoch)
    (a : Nat) (k : Kind) : (metaPut s' a k).2 = (metaPut s a k).2 := by
  have hs := status_congr hi hg he a
  by_cases h1 : status s a = .expired
  · simp [metaPut, hs, h1]
  by_cases h2 : status s a = .tombstoned
  · simp [metaPut, hs, h2]
  by_cases h3 : (s.idx a).isSome = true
  · simp [metaPut, hs, h1, h2, indexed, hi, h3]
  · simp only [metaPut, hs, h1, h2, indexed, hi, h3, if_false]
    cases k with
    | reg => rfl
    | ts tg x =>
      by_cases h4 : isTS (s.idx tg) = true
      · simp [insertObj, hi, h4]
      · simp [insertObj, hi, h4]

theorem metaPut_refused {content : Nat → Body} {s : St} {a : Nat} {k : Kind} (hI : Inv content s)
    (h : (metaPut s a k).2 ≠ .ok) : (metaPut s a k).1 = s ∧ exempt s a := by
  refine metaPut_cases (P := fun r => r.2 ≠ .ok → r.1 = s ∧ exempt s a) s a k (fun he _ => ⟨rfl, Or.inr (Or.inr he)⟩)
    (fun _ ht _ => ⟨rfl, ?_⟩) (fun _ h => absurd rfl h) (fun _ _ hni h => ⟨?_, Or.inl hni⟩) h
  · cases hi : indexed s a
    · exact Or.inl hi
    · exact Or.inr (Or.inl (hI.tomb a hi ht))
  · cases k with
    | reg => exact absurd rfl h
    | ts tg x =>
      simp only [insertObj] at h ⊢
      split
      · rfl
      · rename_i hts; rw [if_neg hts] at h; exact absurd rfl h

/-- `deleteObjs`: the metabase transaction first, then nothing but cache and main-storage deletions of the same ids -/
theorem deleteSteps_spec (s : St) (ids : List Nat) :
    deleteSteps s ids = [] ∨ ∃ dels, deleteSteps s ids = .metaDelete ids :: dels ∧ ∀ x ∈ dels, IsDelOf (· ∈ ids) x := by
  unfold deleteSteps
  by_cases he : ids.isEmpty = true
  · exact Or.inl (if_pos he)
  · rw [if_neg he]
    refine Or.inr ⟨_, rfl, ?_⟩
    split
    · refine List.forall_mem_append.mpr ⟨?_, List.forall_mem_map.mpr fun _ h => h⟩
      split
      · exact List.forall_mem_map.mpr fun _ h => h
      · exact List.forall_mem_nil _
    · exact List.forall_mem_nil _

theorem deleteSteps_safe {content : Nat → Body} (s0 s : St) (ids : List Nat) :
    SafeList content s (deleteSteps s0 ids) := by
  rcases deleteSteps_spec s0 ids with h | ⟨dels, h, hd⟩
  · rw [h]; trivial
  · rw [h]
    exact ⟨trivial, safeList_dels _ _ fun x hx => (hd x hx).imp fun a ha => Or.inl (by simp [indexed, applyStep, ha])⟩

theorem flushSteps_safe {content : Nat → Body} (s : St) (a : Nat) : SafeList content s (flushSteps s a) := by
  unfold flushSteps
  split
  · rename_i b hb
    refine ⟨trivial, Or.inr ?_, trivial⟩
    simp [applyStep, hb]
  · trivial

theorem flushAllSteps_safe {content : Nat → Body} : ∀ (order : List Nat) (s : St),
    SafeList content s (flushAllSteps s order) := by
  intro order
  induction order with
  | nil => intro s; trivial
  | cons a rest ih =>
    intro s
    simp only [flushAllSteps]
    exact safeList_append _ _ s (flushSteps_safe s a) (ih _)

theorem opSteps_safe {content : Nat → Body} {s : St} (o : Op) (hI : Inv content s) (hw : WFOp content o) :
    SafeList content s (opSteps s o) := by
  cases o with
  | put a b =>
    have hb : b = content a := hw
    simp only [opSteps, putSteps]
    have hS1 : Safe content s (if s.hasWC then Step.wcPut a b else Step.blobPut a b) := by
      split <;> exact hb
    refine ⟨hS1, ?_⟩
    have hI1 := inv_step _ hI hS1
    generalize hs1 : applyStep s (if s.hasWC then Step.wcPut a b else Step.blobPut a b) = s1 at hI1 ⊢
    have hmeta : s1.idx = s.idx ∧ s1.garb = s.garb ∧ s1.epoch = s.epoch ∧ hasData s1 a = true := by
      rw [← hs1]; split <;> simp [applyStep, hasData]
    refine ⟨hmeta.2.2.2, ?_⟩
    split
    · rename_i href
      have href1 : (metaPut s1 a b.kind).2 ≠ .ok := by
        rw [metaPut_err_congr hmeta.1 hmeta.2.1 hmeta.2.2.1]; simpa using href
      have hr := metaPut_refused hI1 href1
      rw [show applyStep s1 (.metaPut a b.kind) = s1 from hr.1]
      refine safeList_dels _ _ (List.forall_mem_append.mpr ⟨?_, List.forall_mem_singleton.mpr hr.2⟩)
      split
      · exact List.forall_mem_singleton.mpr hr.2
      · exact List.forall_mem_nil _
    · trivial
  | delete ids => exact deleteSteps_safe s s ids
  | mark ids m =>
    simp only [opSteps]
    refine ⟨trivial, ?_⟩
    split
    · rename_i hm
      have hm' : m = .dflt := by
        cases m <;> simp at hm ⊢
      subst hm'
      refine safeList_dels _ _ (List.forall_mem_map.mpr fun a ha => ?_)
      simp only [IsDelOf, applyStep]
      cases hb : s.hasBkt
      · exact Or.inl (by simp [indexed, hI.bkt hb a])
      · exact Or.inr (Or.inl (by simpa using foldl_markOne_sets_dflt ids s.garb a ha))
    · trivial
  | gc =>
    simp only [opSteps]
    apply safeList_append
    · unfold expirySteps; split
      · exact deleteSteps_safe s s _
      · trivial
    · unfold garbageSteps; exact deleteSteps_safe _ _ _
  | flush a => exact flushSteps_safe s a
  | flushAll order => exact flushAllSteps_safe order s
  | flushRace a =>
    simp only [opSteps, flushRaceSteps]
    split
    · rename_i b hb
      refine safeList_append _ _ s (deleteSteps_safe s s [a]) ⟨?_, Or.inr ?_, trivial⟩
      · exact hI.wcRight a b hb
      · simp [applyStep]
    · trivial
  | epoch e => trivial
  | reopen => trivial
  | resync order => exact ⟨trivial, trivial, trivial⟩

theorem inv_of_persistent_eq {content : Nat → Body} {s s' : St} (hI : Inv content s)
    (hb : s'.blob = s.blob) (hw : s'.wc = s.wc) (hi : s'.idx = s.idx) (hg : s'.garb = s.garb)
    (hk : s'.hasBkt = s.hasBkt) (he : s.epoch ≤ s'.epoch) : Inv content s' :=
  inv_of_meta_eq hI hi hg hk he (hb ▸ hI.blobRight) (hw ▸ hI.wcRight) fun a h =>
    Or.inr (by unfold hasData at h ⊢; rwa [hb, hw])

theorem crash_inv {content : Nat → Body} {s : St} (hI : Inv content s) : Inv content (crash s) :=
  inv_of_persistent_eq hI rfl rfl rfl rfl rfl (Nat.le_refl _)

theorem opPost_persistent (s0 s : St) (o : Op) :
    (opPost s0 s o).blob = s.blob ∧ (opPost s0 s o).wc = s.wc ∧ (opPost s0 s o).idx = s.idx ∧
      (opPost s0 s o).garb = s.garb ∧ (opPost s0 s o).hasBkt = s.hasBkt ∧ s.epoch ≤ (opPost s0 s o).epoch := by
  unfold opPost
  split
  · split
    · exact ⟨rfl, rfl, rfl, rfl, rfl, Nat.le_refl _⟩
    · split <;> exact ⟨rfl, rfl, rfl, rfl, rfl, Nat.le_refl _⟩
  · exact ⟨rfl, rfl, rfl, rfl, rfl, Nat.le_max_left _ _⟩
  · exact ⟨rfl, rfl, rfl, rfl, rfl, Nat.le_refl _⟩
  · exact ⟨rfl, rfl, rfl, rfl, rfl, Nat.le_refl _⟩

theorem opPost_inv {content : Nat → Body} {s0 s : St} (o : Op) (hI : Inv content s) : Inv content (opPost s0 s o) :=
  have h := opPost_persistent s0 s o
  inv_of_persistent_eq hI h.1 h.2.1 h.2.2.1 h.2.2.2.1 h.2.2.2.2.1 h.2.2.2.2.2

theorem runOp_inv {content : Nat → Body} {s : St} (o : Op) (hI : Inv content s) (hw : WFOp content o) :
    Inv content (runOp s o) :=
  opPost_inv o (inv_steps _ s hI (opSteps_safe o hI hw))

/-- the invariant holds at EVERY crash point of every operation -/
theorem crashOp_inv {content : Nat → Body} {s : St} (o : Op) (k : Nat) (hI : Inv content s) (hw : WFOp content o) :
    Inv content (crashOp s o k) :=
  crash_inv (inv_steps _ s hI (safeList_take _ s k (opSteps_safe o hI hw)))

theorem runHist_ind {P : St → Prop} {Q : Op → Prop} (hrun : ∀ s o, Q o → P s → P (runOp s o))
    (hcrash : ∀ s o k, Q o → P s → P (crashOp s o k)) (h : List (Op × Option Nat)) :
    ∀ s, (∀ p ∈ h, Q p.1) → P s → P (runHist s h) := by
  induction h with
  | nil => exact fun _ _ hP => hP
  | cons p rest ih =>
    intro s hq hP
    obtain ⟨o, c⟩ := p
    have hqo : Q o := hq (o, c) List.mem_cons_self
    have hqr := fun q hq' => hq q (List.mem_cons_of_mem _ hq')
    cases c with
    | none => exact ih _ hqr (hrun s o hqo hP)
    | some k => exact ih _ hqr (hcrash s o k hqo hP)

theorem runHist_inv {content : Nat → Body} : ∀ (h : List (Op × Option Nat)) (s : St),
    Inv content s → WFHist content h → Inv content (runHist s h) :=
  fun h s hI hw => runHist_ind (fun _ o hq hI => runOp_inv o hI hq) (fun _ o k hq hI => crashOp_inv o k hI hq) h s hw hI

/-- what the invariant gives a reader: available ⇒ `Get` returns the stored bytes -/
theorem available_readable {content : Nat → Body} {s : St} (hI : Inv content s) (a : Nat)
    (h : available s a = true) : get s a = (.ok, some (content a)) := by
  simp only [available, Bool.and_eq_true, beq_iff_eq] at h
  obtain ⟨hst, hidx⟩ := h
  have hs := status_spec s a
  rw [hst] at hs
  simp only [get, hst, hidx, if_true]
  cases hw : s.wc a with
  | some b => simp [hI.wcRight a b hw]
  | none =>
    rcases hI.data a hidx with h | h | h
    · exact absurd h hs.2.2
    · exact absurd (h.symm.trans hs.1) nofun
    · cases hb : s.blob a with
      | none => simp [hasData, hw, hb] at h
      | some b => simp [hI.blobRight a b hb]

end NeoFS.ShardSteps
