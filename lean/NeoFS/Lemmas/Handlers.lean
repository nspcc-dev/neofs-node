import NeoFS.Model.Handlers
/-!
Proofs about the control-skeleton model (C29, C32, C45).

Soundness of the checker of `Model/Handlers.lean`, proved once for every term, policy and run (`post_sound`,
`checker_sound`): loop invariants found with fuel are verified (`explore_closed`), so the fuel is not trusted.

The packed natural-number state is a faithful finite map from checks to outcomes, so a state reached by a
history is exactly "the latest outcome of every check in that history" (`get_runEv`), and the checker's soundness
can be read over that obviously-correct view (`checker_sound_view`); and the checker is monotone in the policy.
-/
namespace NeoFS.Handlers

/-! ## Soundness of the checker -/

theorem runEv_append (s : St) (a b : List Event) : runEv s (a ++ b) = runEv (runEv s a) b := by
  simp [runEv, List.foldl_append]

theorem safeFrom_append (π : Policy) (s : St) (a b : List Event) :
    safeFrom π s (a ++ b) = (safeFrom π s a && safeFrom π (runEv s a) b) := by
  induction a generalizing s with
  | nil => simp [safeFrom, runEv]
  | cons ev r ih => simp [safeFrom, runEv, ih, Bool.and_assoc]

/-- The readable form: an effect anywhere in the sequence is allowed in the state built by what precedes it. -/
theorem safeFrom_effect {π : Policy} {s : St} {evs pre post : List Event} {e : Eff}
    (h : safeFrom π s evs = true) (hs : evs = pre ++ Event.effect e :: post) : π e (runEv s pre) = true := by
  subst hs
  rw [safeFrom_append] at h
  simp [safeFrom] at h
  exact h.2.1

theorem memN_iff {a : Nat} {l : List Nat} : memN a l = true ↔ a ∈ l := by
  induction l with
  | nil => simp [memN]
  | cons b r ih =>
    simp only [memN, Bool.or_eq_true, ih, List.mem_cons]
    constructor
    · intro h
      rcases h with h | h
      · exact Or.inl (Nat.eq_of_beq_eq_true h)
      · exact Or.inr h
    · intro h
      rcases h with h | h
      · subst h; exact Or.inl (Nat.beq_refl a)
      · exact Or.inr h

theorem mem_insertN {a x : Nat} {l : List Nat} : x ∈ insertN a l ↔ x = a ∨ x ∈ l := by
  unfold insertN
  split
  · rename_i h
    have := memN_iff.mp h
    constructor
    · intro h; exact Or.inr h
    · intro h; cases h with
      | inl h => subst h; assumption
      | inr h => exact h
  · simp

theorem mem_unionN {x : Nat} {a b : List Nat} : x ∈ unionN a b ↔ x ∈ a ∨ x ∈ b := by
  unfold unionN
  induction b generalizing a with
  | nil => simp
  | cons y r ih =>
    simp only [List.foldl_cons, List.mem_cons]
    rw [ih, mem_insertN]
    constructor
    · intro h
      rcases h with (h | h) | h
      · exact Or.inr (Or.inl h)
      · exact Or.inl h
      · exact Or.inr (Or.inr h)
    · intro h
      rcases h with h | h | h
      · exact Or.inl (Or.inr h)
      · exact Or.inl (Or.inl h)
      · exact Or.inr h

theorem memOut_of_mem {o : Out} {l : List Out} (h : o ∈ l) : memOut o l = true := by
  induction l with
  | nil => cases h
  | cons x r ih =>
    simp only [memOut, Bool.or_eq_true]
    rcases List.mem_cons.mp h with h | h
    · subst h; exact Or.inl (Nat.beq_refl _)
    · exact Or.inr (ih h)

theorem cfg_none (s : St) : cfg none s = s * 64 := by simp [cfg]

theorem cfg_mod_none (s : St) : cfg none s % 64 = 0 := by simp [cfg]

theorem cfg_div_none (s : St) : cfg none s / 64 = s := by simp [cfg]

theorem cfg_mod_some {k : Nat} (s : St) (hk : k < 63) : cfg (some k) s % 64 ≠ 0 := by
  simp only [cfg]; omega

theorem bindCfgs_sound {f : St → Option (List Nat)} {cs out : List Nat} (h : bindCfgs f cs = some out) :
    (∀ s, cfg none s ∈ cs → ∃ a, f s = some a ∧ ∀ c ∈ a, c ∈ out) ∧
    (∀ k s, k < 63 → cfg (some k) s ∈ cs → cfg (some k) s ∈ out) := by
  induction cs generalizing out with
  | nil => simp
  | cons c r ih =>
    simp only [bindCfgs] at h
    split at h
    · rename_i hc
      split at h
      · rename_i a b ha hb
        injection h with h; subst h
        obtain ⟨ih1, ih2⟩ := ih hb
        constructor
        · intro s hs
          rcases List.mem_cons.mp hs with hs | hs
          · subst hs
            rw [cfg_div_none] at ha
            exact ⟨a, ha, fun c hc => mem_unionN.mpr (Or.inl hc)⟩
          · obtain ⟨a', ha', hsub⟩ := ih1 s hs
            exact ⟨a', ha', fun c hc => mem_unionN.mpr (Or.inr (hsub c hc))⟩
        · intro k s hk hs
          rcases List.mem_cons.mp hs with hs | hs
          · subst hs; exact absurd hc (cfg_mod_some s hk)
          · exact mem_unionN.mpr (Or.inr (ih2 k s hk hs))
      · exact absurd h (by simp)
    · rename_i hc
      split at h
      · rename_i b hb
        injection h with h; subst h
        obtain ⟨ih1, ih2⟩ := ih hb
        constructor
        · intro s hs
          rcases List.mem_cons.mp hs with hs | hs
          · subst hs; exact absurd (cfg_mod_none s) hc
          · obtain ⟨a', ha', hsub⟩ := ih1 s hs
            exact ⟨a', ha', fun c hc => mem_insertN.mpr (Or.inr (hsub c hc))⟩
        · intro k s _ hs
          rcases List.mem_cons.mp hs with hs | hs
          · exact mem_insertN.mpr (Or.inl hs)
          · exact mem_insertN.mpr (Or.inr (ih2 k s ‹_› hs))
      · exact absurd h (by simp)

theorem mem_normals {s : St} {cs : List Nat} (h : cfg none s ∈ cs) : s ∈ normals cs := by
  induction cs with
  | nil => cases h
  | cons c r ih =>
    simp only [normals]
    rcases List.mem_cons.mp h with h | h
    · subst h
      rw [if_pos (cfg_mod_none s), cfg_div_none]
      exact List.mem_cons_self
    · split
      · exact List.mem_cons_of_mem _ (ih h)
      · exact ih h

theorem mem_exits {k : Nat} {s : St} {cs : List Nat} (hk : k < 63) (h : cfg (some k) s ∈ cs) :
    cfg (some k) s ∈ exits cs := by
  induction cs with
  | nil => cases h
  | cons c r ih =>
    simp only [exits]
    rcases List.mem_cons.mp h with h | h
    · subst h
      rw [if_neg (cfg_mod_some s hk)]
      exact List.mem_cons_self
    · split
      · exact ih h
      · exact List.mem_cons_of_mem _ (ih h)

theorem allMem_spec {l I : List Nat} (h : allMem l I = true) {s : Nat} (hs : s ∈ l) : s ∈ I := by
  unfold allMem at h
  rw [List.all_eq_true] at h
  exact memN_iff.mp (h s hs)

theorem explore_closed {f : St → Option (List Nat)} :
    ∀ (n : Nat) (seen todo : List St) (ex : List Nat) (I : List St) (E : List Nat),
      explore f n seen todo ex = some (I, E) →
      (∀ s ∈ seen, ∃ cs, f s = some cs ∧ (∀ s', cfg none s' ∈ cs → s' ∈ seen ∨ s' ∈ todo) ∧
        (∀ k s', k < 63 → cfg (some k) s' ∈ cs → cfg (some k) s' ∈ ex)) →
      (∀ x ∈ seen, x ∈ I) ∧ (∀ x ∈ todo, x ∈ I) ∧ (∀ x ∈ ex, x ∈ E) ∧ Closed f I E := by
  intro n
  induction n with
  | zero => intro seen todo ex I E h; simp [explore] at h
  | succ n ih =>
    intro seen todo ex I E h hinv
    cases todo with
    | nil =>
      simp only [explore] at h
      injection h with h; injection h with h1 h2; subst h1; subst h2
      refine ⟨fun x hx => hx, ?_, fun x hx => hx, ?_⟩
      · intro x hx; cases hx
      intro s hs
      obtain ⟨cs, hcs, hn, hx⟩ := hinv s hs
      refine ⟨cs, hcs, ?_, hx⟩
      intro s' hm
      rcases hn s' hm with h | h
      · exact h
      · cases h
    | cons s todo =>
      simp only [explore] at h
      split at h
      · rename_i hseen
        have hsSeen : s ∈ seen := memN_iff.mp hseen
        have hinv' : ∀ x ∈ seen, ∃ cs, f x = some cs ∧ (∀ s', cfg none s' ∈ cs → s' ∈ seen ∨ s' ∈ todo) ∧
            (∀ k s', k < 63 → cfg (some k) s' ∈ cs → cfg (some k) s' ∈ ex) := by
          intro x hx
          obtain ⟨cs, hcs, hn, hxx⟩ := hinv x hx
          refine ⟨cs, hcs, ?_, hxx⟩
          intro s' hm
          rcases hn s' hm with h | h
          · exact Or.inl h
          · rcases List.mem_cons.mp h with h | h
            · subst h; exact Or.inl hsSeen
            · exact Or.inr h
        obtain ⟨h1, h2, h3, h4⟩ := ih seen todo ex I E h hinv'
        refine ⟨h1, ?_, h3, h4⟩
        intro x hx
        rcases List.mem_cons.mp hx with hx | hx
        · subst hx; exact h1 _ hsSeen
        · exact h2 _ hx
      · split at h
        · exact absurd h (by simp)
        · rename_i cs hcs
          have hinv' : ∀ x ∈ s :: seen, ∃ cs', f x = some cs' ∧
              (∀ s', cfg none s' ∈ cs' → s' ∈ s :: seen ∨ s' ∈ normals cs ++ todo) ∧
              (∀ k s', k < 63 → cfg (some k) s' ∈ cs' → cfg (some k) s' ∈ unionN ex (exits cs)) := by
            intro x hx
            rcases List.mem_cons.mp hx with hx | hx
            · subst hx
              refine ⟨cs, hcs, ?_, ?_⟩
              · intro s' hm
                exact Or.inr (List.mem_append.mpr (Or.inl (mem_normals hm)))
              · intro k s' hk hm
                exact mem_unionN.mpr (Or.inr (mem_exits hk hm))
            · obtain ⟨cs', hcs', hn, hxx⟩ := hinv x hx
              refine ⟨cs', hcs', ?_, ?_⟩
              · intro s' hm
                rcases hn s' hm with h | h
                · exact Or.inl (List.mem_cons_of_mem _ h)
                · rcases List.mem_cons.mp h with h | h
                  · subst h; exact Or.inl List.mem_cons_self
                  · exact Or.inr (List.mem_append.mpr (Or.inr h))
              · intro k s' hk hm
                exact mem_unionN.mpr (Or.inl (hxx k s' hk hm))
          obtain ⟨h1, h2, h3, h4⟩ := ih (s :: seen) (normals cs ++ todo) (unionN ex (exits cs)) I E h hinv'
          refine ⟨fun x hx => h1 x (List.mem_cons_of_mem _ hx), ?_, fun x hx => h3 x (mem_unionN.mpr (Or.inl hx)), h4⟩
          intro x hx
          rcases List.mem_cons.mp hx with hx | hx
          · subst hx; exact h1 _ List.mem_cons_self
          · exact h2 _ (List.mem_append.mpr (Or.inr hx))

theorem loop_inv {ω : Tag → List Out} {π : Policy} {b : Prog} {f : St → Option (List Nat)} (hb : SoundF ω π b f)
    {I : List St} {E : List Nat} (hcl : Closed f I E) :
    ∀ q s evs x, Run ω q s evs x → q = .loop b → s ∈ I →
      safeFrom π s evs = true ∧ okExit x ∧
      (match x with
       | none => runEv s evs ∈ I
       | some k => cfg (some k) (runEv s evs) ∈ E) := by
  intro q s evs x h
  induction h with
  | loopDone => intro _ hs; simpa [safeFrom, runEv, okExit] using hs
  | @loopStep b' s e1 e2 x h1 _ _ ih2 =>
    intro hq hs
    injection hq with hq; subst hq
    obtain ⟨cs, hcs, hn, _⟩ := hcl s hs
    obtain ⟨hsafe1, hmem1, _⟩ := hb s e1 none h1 cs hcs
    have hI := hn _ hmem1
    obtain ⟨hsafe2, hok, hres⟩ := ih2 rfl hI
    refine ⟨?_, hok, ?_⟩
    · rw [safeFrom_append, hsafe1, hsafe2]; rfl
    · rw [runEv_append]; exact hres
  | @loopExit b' s e1 k h1 _ =>
    intro hq hs
    injection hq with hq; subst hq
    obtain ⟨cs, hcs, _, hx⟩ := hcl s hs
    obtain ⟨hsafe1, hmem1, hok⟩ := hb s e1 (some k) h1 cs hcs
    have hk : k < 62 := hok
    exact ⟨hsafe1, hok, hx _ _ (by omega) hmem1⟩
  | _ => intro hq; cases hq

theorem loopPost_sound {ω : Tag → List Out} {π : Policy} {b : Prog} {f : St → Option (List Nat)}
    (hb : SoundF ω π b f) : SoundF ω π (.loop b) (loopPost f) := by
  intro s evs x h cs hp
  unfold loopPost at hp
  split at hp
  · exact absurd hp (by simp)
  · rename_i cb hcb
    split at hp
    · rename_i hfast
      injection hp with hp; subst hp
      have hcl : Closed f [s] (exits cb) := by
        intro s0 hs0
        have : s0 = s := by simpa using hs0
        subst this
        refine ⟨cb, hcb, ?_, ?_⟩
        · intro s' hm; exact allMem_spec hfast (mem_normals hm)
        · intro k s' hk hm; exact mem_exits hk hm
      obtain ⟨hsafe, hok, hres⟩ := loop_inv hb hcl _ _ _ _ h rfl List.mem_cons_self
      refine ⟨hsafe, ?_, hok⟩
      cases x with
      | none =>
        simp only at hres
        have : runEv s evs = s := by simpa using hres
        rw [cfg_none, this]
        exact mem_insertN.mpr (Or.inl rfl)
      | some k =>
        simp only at hres
        exact mem_insertN.mpr (Or.inr hres)
    · split at hp
      · exact absurd hp (by simp)
      · rename_i I E hex
        injection hp with hp; subst hp
        obtain ⟨_, htodo, _, hcl⟩ := explore_closed loopFuel [] [s] [] I E hex (by intro x hx; cases hx)
        have hsI : s ∈ I := htodo s List.mem_cons_self
        obtain ⟨hsafe, hok, hres⟩ := loop_inv hb hcl _ _ _ _ h rfl hsI
        refine ⟨hsafe, ?_, hok⟩
        cases x with
        | none =>
          simp only at hres
          rw [cfg_none]
          exact List.mem_append.mpr (Or.inl (List.mem_map.mpr ⟨_, hres, rfl⟩))
        | some k =>
          simp only at hres
          exact List.mem_append.mpr (Or.inr hres)

theorem descope_none (s : St) : descope (cfg none s) = cfg none s := by
  simp [descope, cfg]

theorem descope_zero (s : St) : descope (cfg (some 0) s) = cfg none s := by
  have h : cfg (some 0) s % 64 ≠ 0 := cfg_mod_some s (by omega)
  unfold descope
  rw [if_neg h]
  simp only [cfg]; omega

theorem descope_succ (k : Nat) (s : St) (hk : k + 1 < 62) : descope (cfg (some (k + 1)) s) = cfg (some k) s := by
  have h : cfg (some (k + 1)) s % 64 ≠ 0 := cfg_mod_some s (by omega)
  unfold descope
  rw [if_neg h]
  simp only [cfg]; omega

theorem post_sound (ω : Tag → List Out) (π : Policy) : ∀ p, SoundF ω π p (post ω π p) := by
  intro p
  induction p with
  | skip | set _ _ | copy _ _ | forget _ =>
    intro s evs x h cs hp
    cases h
    simp only [post] at hp; injection hp with hp; subst hp
    simp [safeFrom, runEv, applyEv, cfg, okExit]
  | chk t =>
    intro s evs x h cs hp
    cases h with
    | chk ho =>
      simp only [post] at hp; injection hp with hp; subst hp
      refine ⟨by simp [safeFrom], ?_, trivial⟩
      simp only [runEv, List.foldl, applyEv, cfg_none]
      exact List.mem_map.mpr ⟨_, ho, rfl⟩
  | asm t al =>
    intro s evs x h cs hp
    cases h with
    | asm hal =>
      simp only [post] at hp
      split at hp
      · rename_i o ho
        have := memOut_of_mem (hal o ho)
        simp only [this, if_true] at hp
        injection hp with hp; subst hp
        simp [safeFrom, runEv, cfg, okExit]
      · injection hp with hp; subst hp
        simp [safeFrom, runEv, cfg, okExit]
  | eff e =>
    intro s evs x h cs hp
    cases h
    simp only [post] at hp
    split at hp
    · rename_i hπ
      injection hp with hp; subst hp
      simp [safeFrom, runEv, applyEv, hπ, cfg, okExit]
    · exact absurd hp (by simp)
  | seq a b iha ihb =>
    intro s evs x h cs hp
    simp only [post] at hp
    split at hp
    · rename_i ca hca
      obtain ⟨hn, hx⟩ := bindCfgs_sound hp
      cases h with
      | seqN h1 h2 =>
        obtain ⟨hs1, hm1, _⟩ := iha _ _ _ h1 ca hca
        obtain ⟨a', ha', hsub⟩ := hn _ hm1
        obtain ⟨hs2, hm2, hok2⟩ := ihb _ _ _ h2 a' ha'
        refine ⟨?_, ?_, hok2⟩
        · rw [safeFrom_append, hs1, hs2]; rfl
        · rw [runEv_append]; exact hsub _ hm2
      | seqX h1 =>
        obtain ⟨hs1, hm1, hok⟩ := iha _ _ _ h1 ca hca
        have hk : _ < 62 := hok
        exact ⟨hs1, hx _ _ (by omega) hm1, hok⟩
    · exact absurd hp (by simp)
  | alt a b iha ihb =>
    intro s evs x h cs hp
    simp only [post] at hp
    split at hp
    · rename_i ca cb hca hcb
      injection hp with hp; subst hp
      cases h with
      | altL h1 =>
        obtain ⟨hs1, hm1, hok⟩ := iha _ _ _ h1 ca hca
        exact ⟨hs1, mem_unionN.mpr (Or.inl hm1), hok⟩
      | altR h1 =>
        obtain ⟨hs1, hm1, hok⟩ := ihb _ _ _ h1 cb hcb
        exact ⟨hs1, mem_unionN.mpr (Or.inr hm1), hok⟩
    · exact absurd hp (by simp)
  | loop b ihb =>
    intro s evs x h cs hp
    simp only [post] at hp
    exact loopPost_sound ihb s evs x h cs hp
  | scope b ihb =>
    intro s evs x h cs hp
    simp only [post] at hp
    split at hp
    · rename_i cb hcb
      injection hp with hp; subst hp
      cases h with
      | scopeN h1 =>
        obtain ⟨hs1, hm1, _⟩ := ihb _ _ _ h1 cb hcb
        exact ⟨hs1, List.mem_map.mpr ⟨_, hm1, descope_none _⟩, trivial⟩
      | scope0 h1 =>
        obtain ⟨hs1, hm1, _⟩ := ihb _ _ _ h1 cb hcb
        exact ⟨hs1, List.mem_map.mpr ⟨_, hm1, descope_zero _⟩, trivial⟩
      | @scopeS _ _ _ k h1 =>
        obtain ⟨hs1, hm1, hok⟩ := ihb _ _ _ h1 cb hcb
        have hk : k + 1 < 62 := hok
        exact ⟨hs1, List.mem_map.mpr ⟨_, hm1, descope_succ k _ hk⟩, (by show k < 62; omega)⟩
    · exact absurd hp (by simp)
  | exit k =>
    intro s evs x h cs hp
    cases h
    simp only [post] at hp
    split at hp
    · rename_i hk
      injection hp with hp; subst hp
      simp [safeFrom, runEv, cfg, okExit, hk]
    · exact absurd hp (by simp)

/-- **Soundness of the checker** (proved once, for every term, every policy, every run): if the checker
accepts `p` under `π`, then on every run of `p` from the initial state — any outcomes of the checks, any branch
decisions consistent with them, any number of loop iterations — every effect event is preceded by a history
whose latest check outcomes satisfy `π`. -/
theorem checker_sound {π : Policy} {p : Prog} (h : checker π p = true)
    {evs : List Event} {x : Option Nat} (hr : Run allOuts p St.init evs x)
    {pre post' : List Event} {e : Eff} (hs : evs = pre ++ Event.effect e :: post') :
    π e (runEv St.init pre) = true := by
  unfold checker at h
  rw [Option.isSome_iff_exists] at h
  obtain ⟨cs, hcs⟩ := h
  exact safeFrom_effect (post_sound allOuts π p St.init evs x hr cs hcs).1 hs

/-- No run of a term that does not mention `t` ever emits a call event of `t`. -/
theorem not_mentions_no_check {ω : Tag → List Out} {t : Tag} {p : Prog} {s : St} {evs : List Event} {x : Option Nat}
    (h : Run ω p s evs x) (hm : mentions t p = false) : ∀ o, Event.check t o ∉ evs := by
  induction h with
  | skip => simp
  | @chk s t' o' _ =>
    intro o
    simp only [mentions, decide_eq_false_iff_not] at hm
    simp only [List.mem_singleton]
    intro he; injection he with h1 _; exact hm h1.symm
  | set => simp
  | copy => simp
  | forget => simp
  | asm _ => simp
  | eff => simp
  | seqN _ _ ih1 ih2 =>
    simp only [mentions, Bool.or_eq_false_iff] at hm
    intro o hmem
    rcases List.mem_append.mp hmem with h | h
    · exact ih1 hm.1 o h
    · exact ih2 hm.2 o h
  | seqX _ ih1 =>
    simp only [mentions, Bool.or_eq_false_iff] at hm
    exact ih1 hm.1
  | altL _ ih =>
    simp only [mentions, Bool.or_eq_false_iff] at hm
    exact ih hm.1
  | altR _ ih =>
    simp only [mentions, Bool.or_eq_false_iff] at hm
    exact ih hm.2
  | loopDone => simp
  | @loopStep b' _ _ _ _ _ _ ih1 ih2 =>
    have hm' : mentions t b' = false := by simpa [mentions] using hm
    intro o hmem
    rcases List.mem_append.mp hmem with h | h
    · exact ih1 hm' o h
    · exact ih2 hm o h
  | loopExit _ ih => exact ih (by simpa [mentions] using hm)
  | scopeN _ ih => exact ih (by simpa [mentions] using hm)
  | scope0 _ ih => exact ih (by simpa [mentions] using hm)
  | scopeS _ ih => exact ih (by simpa [mentions] using hm)
  | exit => simp

/-! ## The packed state as a finite map -/

/-- digit `i` (base 4) of `s` -/
def dig (s i : Nat) : Nat := (s / 4 ^ i) % 4

theorem shiftRight_mod_four (s i : Nat) : (s >>> (2 * i)) % 4 = dig s i := by
  unfold dig
  rw [Nat.shiftRight_eq_div_pow, Nat.pow_mul]

theorem shiftLeft_two_mul (x i : Nat) : x <<< (2 * i) = x * 4 ^ i := by
  rw [Nat.shiftLeft_eq, Nat.pow_mul]

/-- replacing digit `i` by `v` -/
def setDig (s i v : Nat) : Nat := s - dig s i * 4 ^ i + v * 4 ^ i

theorem four_pow_pos (i : Nat) : 0 < 4 ^ i := Nat.pow_pos (Nat.succ_pos 3)

theorem dig_add_lo (m r : Nat) {i j : Nat} (h : j < i) : dig (4 ^ i * m + r) j = dig r j := by
  obtain ⟨k, rfl⟩ := Nat.exists_eq_add_of_lt h
  unfold dig
  rw [Nat.pow_succ, Nat.pow_add, Nat.mul_assoc (4 ^ j), Nat.mul_assoc (4 ^ j), Nat.mul_add_div (four_pow_pos j),
    Nat.mul_comm (4 ^ k) 4, Nat.mul_assoc 4, Nat.mul_add_mod]

theorem dig_add_hi (m : Nat) {r i j : Nat} (h : i ≤ j) (hr : r < 4 ^ i) : dig (4 ^ i * m + r) j = dig m (j - i) := by
  obtain ⟨k, rfl⟩ := Nat.exists_eq_add_of_le h
  unfold dig
  rw [Nat.add_sub_cancel_left, Nat.pow_add, ← Nat.div_div_eq_div_mul, Nat.mul_add_div (four_pow_pos i),
    Nat.div_eq_of_lt hr, Nat.add_zero]

theorem dig_zero (q : Nat) {v : Nat} (hv : v < 4) : dig (4 * q + v) 0 = v := by
  unfold dig
  rw [Nat.pow_zero, Nat.div_one, Nat.mul_add_mod, Nat.mod_eq_of_lt hv]

theorem dig_succ (q : Nat) {v : Nat} (hv : v < 4) (k : Nat) : dig (4 * q + v) (k + 1) = dig q k := by
  simpa using dig_add_hi q (i := 1) (j := k + 1) (Nat.le_add_left 1 k) hv

theorem setDig_eq (s i v : Nat) : setDig s i v = 4 ^ i * (4 * (s / 4 ^ i / 4) + v) + s % 4 ^ i := by
  unfold setDig dig
  have h : 4 ^ i * (4 * (s / 4 ^ i / 4) + s / 4 ^ i % 4) + s % 4 ^ i = s := by
    rw [Nat.div_add_mod, Nat.div_add_mod]
  generalize s / 4 ^ i / 4 = q at h ⊢
  generalize s / 4 ^ i % 4 = d at h ⊢
  generalize s % 4 ^ i = r at h ⊢
  generalize 4 ^ i = P at h ⊢
  subst h
  rw [Nat.mul_add, Nat.mul_add, Nat.mul_comm d P, Nat.mul_comm v P]
  omega

theorem dig_setDig_same (s i v : Nat) (hv : v < 4) : dig (setDig s i v) i = v := by
  rw [setDig_eq, dig_add_hi _ (Nat.le_refl i) (Nat.mod_lt _ (four_pow_pos i)), Nat.sub_self, dig_zero _ hv]

theorem dig_setDig_other (s i j v : Nat) (hv : v < 4) (hij : j ≠ i) : dig (setDig s i v) j = dig s j := by
  have hr := Nat.mod_lt s (four_pow_pos i)
  -- `s` and `setDig s i v` have the same parts above and below digit `i`
  rw [setDig_eq]
  conv => rhs; rw [← Nat.div_add_mod s (4 ^ i), ← Nat.div_add_mod (s / 4 ^ i) 4]
  rcases Nat.lt_or_gt_of_ne hij with h | h
  · rw [dig_add_lo _ _ h, dig_add_lo _ _ h]
  · obtain ⟨k, rfl⟩ := Nat.exists_eq_add_of_lt h
    rw [dig_add_hi _ (Nat.le_of_lt h) hr, dig_add_hi _ (Nat.le_of_lt h) hr, show i + k + 1 - i = k + 1 by omega,
      dig_succ _ hv, dig_succ _ (Nat.mod_lt _ (Nat.succ_pos 3))]

def tagOfIdx : Nat → Tag
  | 0 => .sig | 1 => .maint | 2 => .token | 3 => .reqInfo | 4 => .basic | 5 => .sticky | 6 => .eacl
  | 7 => .objSig | 8 => .cnrSrv | 9 => .cnrCli | 10 => .ctlSig | n + 11 => .aux n

theorem tagOfIdx_idx (t : Tag) : tagOfIdx t.idx = t := by
  cases t with
  | aux n => rw [Tag.idx, Nat.add_comm]; rfl
  | _ => rfl

theorem idx_inj {t t' : Tag} (h : t.idx = t'.idx) : t = t' := by
  rw [← tagOfIdx_idx t, h, tagOfIdx_idx]

def decode : Nat → Option Out
  | 0 => none
  | 1 => some .pass
  | 2 => some .soft
  | _ => some .deny

theorem get_eq_decode_dig (s : St) (t : Tag) : St.get s t = decode (dig s t.idx) := by
  unfold St.get
  rw [shiftRight_mod_four]
  rfl

theorem erase_eq_setDig (s : St) (t : Tag) : St.erase s t = setDig s t.idx 0 := by
  unfold St.erase setDig
  rw [shiftRight_mod_four, shiftLeft_two_mul]; simp

theorem put_eq_setDig (s : St) (t : Tag) (o : Out) : St.put s t o = setDig s t.idx o.code := by
  unfold St.put St.erase setDig
  rw [shiftRight_mod_four, shiftLeft_two_mul, shiftLeft_two_mul]

theorem code_lt_four (o : Out) : o.code < 4 := by cases o <;> simp [Out.code]

theorem decode_code (o : Out) : decode o.code = some o := by cases o <;> rfl

theorem decode_dig_setDig (s : St) (t t' : Tag) {v : Nat} (hv : v < 4) :
    decode (dig (setDig s t.idx v) t'.idx) = if t' = t then decode v else decode (dig s t'.idx) := by
  split
  · next h => rw [h, dig_setDig_same _ _ _ hv]
  · next h => rw [dig_setDig_other _ _ _ _ hv (fun e => h (idx_inj e))]

theorem get_put (s : St) (t : Tag) (o : Out) (t' : Tag) :
    (St.put s t o).get t' = if t' = t then some o else s.get t' := by
  rw [get_eq_decode_dig, get_eq_decode_dig, put_eq_setDig, decode_dig_setDig _ _ _ (code_lt_four o), decode_code]

theorem get_erase (s : St) (t t' : Tag) : (St.erase s t).get t' = if t' = t then none else s.get t' := by
  rw [get_eq_decode_dig, get_eq_decode_dig, erase_eq_setDig, decode_dig_setDig _ _ _ (Nat.succ_pos 3)]
  rfl

theorem get_init (t : Tag) : St.init.get t = none := by
  rw [get_eq_decode_dig]; simp [St.init, dig, decode]

/-- The obviously-correct reading of a history: for every check, the outcome of its latest call (or the
latest value a helper result was given), `none` if there was none. -/
abbrev View := Tag → Option Out

def View.set (f : View) (t : Tag) (v : Option Out) : View := fun t' => if t' = t then v else f t'

def viewStep (f : View) : Event → View
  | .check t o => f.set t (some o)
  | .assign t v => f.set t v
  | .effect _ => f

def lastOutcomes (evs : List Event) : View := evs.foldl viewStep (fun _ => none)

theorem get_applyEv (s : St) (f : View) (h : ∀ t, s.get t = f t) (ev : Event) (t' : Tag) :
    (applyEv s ev).get t' = viewStep f ev t' := by
  cases ev with
  | check t o => simp only [applyEv, viewStep, View.set, get_put, h]
  | assign t v => cases v <;> simp only [applyEv, viewStep, View.set, get_put, get_erase, h]
  | effect e => exact h t'

theorem get_runEv_from (evs : List Event) : ∀ (s : St) (f : View), (∀ t, s.get t = f t) →
    ∀ t, (runEv s evs).get t = (evs.foldl viewStep f) t := by
  induction evs with
  | nil => intro s f h t; simpa [runEv] using h t
  | cons ev r ih =>
    intro s f h t
    simp only [runEv, List.foldl_cons]
    exact ih (applyEv s ev) (viewStep f ev) (get_applyEv s f h ev) t

theorem get_runEv (evs : List Event) (t : Tag) : (runEv St.init evs).get t = lastOutcomes evs t :=
  get_runEv_from evs St.init (fun _ => none) get_init t

/-- `checker_sound` for any oracle and any start state. -/
theorem post_sound_effect {ω : Tag → List Out} {π : Policy} {p : Prog} {s : St} (h : (post ω π p s).isSome = true)
    {evs : List Event} {x : Option Nat} (hr : Run ω p s evs x)
    {pre post' : List Event} {e : Eff} (hs : evs = pre ++ Event.effect e :: post') :
    π e (runEv s pre) = true := by
  obtain ⟨cs, hcs⟩ := Option.isSome_iff_exists.mp h
  exact safeFrom_effect (post_sound ω π p s evs x hr cs hcs).1 hs

/-- Soundness of the checker, read over the history: if the checker accepts `p` under a policy written over
"latest outcome of each check", then on every run of `p` every effect happens after a history whose latest
check outcomes satisfy the policy. -/
theorem checker_sound_view {πv : Eff → (Tag → Option Out) → Bool} {p : Prog}
    (h : checker (Policy.ofView πv) p = true)
    {evs : List Event} {x : Option Nat} (hr : Run allOuts p St.init evs x)
    {pre post' : List Event} {e : Eff} (hs : evs = pre ++ Event.effect e :: post') :
    πv e (lastOutcomes pre) = true := by
  have h1 := checker_sound h hr hs
  rw [Policy.ofView, funext (get_runEv pre)] at h1
  exact h1

/-! ### A policy that allows more accepts more

One evaluation of the checker under a conjunction settles every conjunct (`Props/C29.lean`). -/

def Below (f g : St → Option (List Nat)) : Prop := ∀ s cs, f s = some cs → g s = some cs

theorem bindCfgs_mono {f g : St → Option (List Nat)} (hfg : Below f g) (l out : List Nat)
    (h : bindCfgs f l = some out) : bindCfgs g l = some out := by
  -- 2, 4: all results `some`; 3, 5: a `none`
  fun_induction bindCfgs f l generalizing out with
  | case1 => exact h
  | case2 c r hc a b hb ha ih => rw [bindCfgs, if_pos hc, hfg _ _ ha, ih _ hb]; exact h
  | case4 c r hc b hb ih => rw [bindCfgs, if_neg hc, ih _ hb]; exact h
  | case3 | case5 => cases h

theorem explore_mono {f g : St → Option (List Nat)} (hfg : Below f g) (n : Nat) (seen todo : List St) (ex : List Nat)
    (r : List St × List Nat) (h : explore f n seen todo ex = some r) : explore g n seen todo ex = some r := by
  -- 1: no fuel; 2: worklist empty; 3: head seen; 4, 5: body gives `none`, `some cs`
  fun_induction explore f n seen todo ex with
  | case1 | case4 => cases h
  | case2 => exact h
  | case3 n seen s todo ex hs ih => rw [explore, if_pos hs]; exact ih h
  | case5 n seen s todo ex hs cs hcs ih => rw [explore, if_neg hs, hfg _ _ hcs]; exact ih h

theorem loopPost_mono {f g : St → Option (List Nat)} (hfg : Below f g) : Below (loopPost f) (loopPost g) := by
  intro s cs
  -- 2: body comes back to `s` only; 4: exploration succeeds; 1, 3: `none`
  fun_cases loopPost f s with
  | case1 | case3 => exact nofun
  | case2 cb hcb hfast =>
    intro h
    rw [loopPost, hfg _ _ hcb]
    simp only [hfast, if_true]
    exact h
  | case4 cb hcb hfast I E hex =>
    intro h
    rw [loopPost, hfg _ _ hcb]
    simp only [hfast, explore_mono hfg _ _ _ _ _ hex]
    exact h

theorem post_mono (ω : Tag → List Out) {π π' : Policy} (hπ : ∀ e s, π e s = true → π' e s = true) :
    ∀ p, Below (post ω π p) (post ω π' p) := by
  intro p
  induction p with
  | eff e =>
    intro s cs h
    simp only [post] at h ⊢
    split at h
    · rename_i he
      rw [if_pos (hπ e s he)]; exact h
    · cases h
  | seq a b iha ihb =>
    intro s cs h
    simp only [post] at h ⊢
    split at h
    · rename_i ca hca
      rw [iha _ _ hca]; exact bindCfgs_mono ihb _ _ h
    · cases h
  | alt a b iha ihb =>
    intro s cs h
    simp only [post] at h ⊢
    split at h
    · rename_i x y hx hy
      rw [iha _ _ hx, ihb _ _ hy]; exact h
    · cases h
  | loop b ihb => exact loopPost_mono ihb
  | scope b ihb =>
    intro s cs h
    simp only [post] at h ⊢
    split at h
    · rename_i cb hcb
      rw [ihb _ _ hcb]; exact h
    · cases h
  | _ => exact fun _ _ h => h

theorem checker_mono {π π' : Policy} (hπ : ∀ e s, π e s = true → π' e s = true) {p : Prog}
    (h : checker π p = true) : checker π' p = true := by
  unfold checker at h ⊢
  obtain ⟨cs, hcs⟩ := Option.isSome_iff_exists.mp h
  rw [post_mono allOuts hπ p _ _ hcs]; rfl

end NeoFS.Handlers
