import NeoFS.Model.EC
import Mathlib.Data.List.Nodup
/-! For `Props/C22.lean`: the inner loop lists one residue class, the shifts reach each class once. -/
namespace NeoFS.EC

theorem eq_of_mod_eq_of_sub_lt {a b t : Nat} (h : a % t = b % t) (hab : a ≤ b) (hlt : b - a < t) : a = b := by
  have hz : (b - a) % t = 0 := Nat.sub_mod_eq_zero_of_mod_eq h.symm
  rw [Nat.mod_eq_of_lt hlt] at hz
  exact Nat.le_antisymm hab (Nat.le_of_sub_eq_zero hz)

theorem innerLoop_mem (step nodes : Nat) (hs : 1 ≤ step) :
    ∀ (fuel i j : Nat), nodes ≤ fuel + i →
      (j ∈ innerLoop step nodes fuel i ↔ (j < nodes ∧ i ≤ j ∧ j % step = i % step)) := by
  intro fuel
  induction fuel with
  | zero =>
    intro i j h
    simp only [innerLoop, List.not_mem_nil, false_iff]
    omega
  | succ f ih =>
    intro i j h
    unfold innerLoop
    by_cases hi : i < nodes
    · rw [if_pos hi, List.mem_cons, ih (i + step) j (by omega), Nat.add_mod_right]
      constructor
      · rintro (rfl | ⟨h1, h2, h3⟩)
        · exact ⟨hi, Nat.le_refl _, rfl⟩
        · exact ⟨h1, Nat.le_trans (Nat.le_add_right _ _) h2, h3⟩
      · rintro ⟨h1, h2, h3⟩
        by_cases hlt : j - i < step
        · exact Or.inl (eq_of_mod_eq_of_sub_lt h3.symm h2 hlt).symm
        · exact Or.inr ⟨h1, by omega, h3⟩
    · rw [if_neg hi]
      simp only [List.not_mem_nil, false_iff]
      omega

theorem innerLoop_mem_residue (step nodes r j : Nat) (hr : r < step) :
    j ∈ innerLoop step nodes nodes r ↔ (j < nodes ∧ j % step = r) := by
  rw [innerLoop_mem step nodes (by omega) nodes r j (Nat.le_add_right _ _), Nat.mod_eq_of_lt hr]
  exact ⟨fun ⟨h1, _, h3⟩ => ⟨h1, h3⟩, fun ⟨h1, h3⟩ => ⟨h1, h3 ▸ Nat.mod_le _ _, h3⟩⟩

theorem innerLoop_ge (step nodes : Nat) :
    ∀ (fuel i j : Nat), j ∈ innerLoop step nodes fuel i → i ≤ j := by
  intro fuel
  induction fuel with
  | zero => intro i j h; simp [innerLoop] at h
  | succ f ih =>
    intro i j h
    unfold innerLoop at h
    by_cases hi : i < nodes
    · rw [if_pos hi, List.mem_cons] at h
      rcases h with rfl | h
      · exact Nat.le_refl _
      · exact Nat.le_trans (Nat.le_add_right _ _) (ih _ _ h)
    · rw [if_neg hi] at h; cases h

theorem innerLoop_nodup (step nodes : Nat) (hs : 1 ≤ step) :
    ∀ (fuel i : Nat), (innerLoop step nodes fuel i).Nodup := by
  intro fuel
  induction fuel with
  | zero => intro i; simp [innerLoop]
  | succ f ih =>
    intro i
    unfold innerLoop
    by_cases hi : i < nodes
    · rw [if_pos hi, List.nodup_cons]
      refine ⟨fun hmem => ?_, ih _⟩
      have := innerLoop_ge step nodes f (i + step) i hmem
      omega
    · rw [if_neg hi]; exact List.nodup_nil

theorem residue_inj (part total s1 s2 : Nat) (h1 : s1 < total) (h2 : s2 < total)
    (h : (part + s1) % total = (part + s2) % total) : s1 = s2 := by
  rcases Nat.le_total s1 s2 with hle | hle
  · refine Nat.add_left_cancel (eq_of_mod_eq_of_sub_lt h (Nat.add_le_add_left hle _) ?_)
    rw [Nat.add_sub_add_left]
    exact Nat.lt_of_le_of_lt (Nat.sub_le _ _) h2
  · refine (Nat.add_left_cancel (eq_of_mod_eq_of_sub_lt h.symm (Nat.add_le_add_left hle _) ?_)).symm
    rw [Nat.add_sub_add_left]
    exact Nat.lt_of_le_of_lt (Nat.sub_le _ _) h1

theorem residue_surj (part total r : Nat) (hr : r < total) :
    ∃ s, s < total ∧ (part + s) % total = r := by
  have ha : part % total < total := Nat.mod_lt _ (by omega)
  refine ⟨(r + (total - part % total)) % total, Nat.mod_lt _ (by omega), ?_⟩
  rw [Nat.add_mod, Nat.mod_mod, Nat.add_mod_mod, show part % total + (r + (total - part % total)) = r + total by omega,
    Nat.add_mod_right, Nat.mod_eq_of_lt hr]

theorem nodeSeq_lt {part total nodes i : Nat} (h : i ∈ nodeSeq part total nodes) : i < nodes := by
  obtain ⟨s, hs, hm⟩ := List.mem_flatMap.mp h
  have ht : 0 < total := Nat.zero_lt_of_lt (List.mem_range.mp hs)
  exact ((innerLoop_mem_residue total nodes _ i (Nat.mod_lt _ ht)).mp hm).1

theorem mem_nodeSeq {part total nodes i : Nat} (ht : 1 ≤ total) : i ∈ nodeSeq part total nodes ↔ i < nodes := by
  refine ⟨nodeSeq_lt, fun hi => ?_⟩
  obtain ⟨s, hs, hres⟩ := residue_surj part total (i % total) (Nat.mod_lt _ ht)
  refine List.mem_flatMap.mpr ⟨s, List.mem_range.mpr hs, ?_⟩
  rw [innerLoop_mem_residue total nodes _ i (Nat.mod_lt _ ht)]
  exact ⟨hi, hres.symm⟩

theorem nodeSeq_nodup {part total nodes : Nat} (ht : 1 ≤ total) : (nodeSeq part total nodes).Nodup := by
  unfold nodeSeq
  rw [List.nodup_flatMap]
  refine ⟨fun s _ => innerLoop_nodup total nodes ht _ _, ?_⟩
  refine List.Pairwise.imp_of_mem ?_ (List.nodup_range (n := total))
  intro s1 s2 h1 h2 hne j hj1 hj2
  rw [innerLoop_mem_residue total nodes _ j (Nat.mod_lt _ ht)] at hj1 hj2
  exact hne (residue_inj part total s1 s2 (List.mem_range.mp h1) (List.mem_range.mp h2) (hj1.2.symm.trans hj2.2))

end NeoFS.EC
