import NeoFS.Props.C20
/-! C20 for split objects: with consistent reports the read returns what the merged split information denotes. -/
namespace NeoFS.Engine

/-- what shard `i` answers in the first pass (none: no such shard) -/
def ansOf (ans : Nat → Shard → Bool → GetR) (e : Eng) (i : Nat) : Option GetR :=
  (e.shards[i]?).map fun s => ans i s s.mode.noMeta

def anySplit (ans : Nat → Shard → Bool → GetR) (e : Eng) (ord : List Nat) : Bool :=
  ord.any fun i => match ansOf ans e i with | some (.err (.split _ _)) => true | _ => false
def anyLink (ans : Nat → Shard → Bool → GetR) (e : Eng) (ord : List Nat) : Bool :=
  ord.any fun i => match ansOf ans e i with | some (.err (.split l _)) => l != 0 | _ => false
def anyLast (ans : Nat → Shard → Bool → GetR) (e : Eng) (ord : List Nat) : Bool :=
  ord.any fun i => match ansOf ans e i with | some (.err (.split _ p)) => p != 0 | _ => false

/-- every shard either does not know the object or reports split information consistent with link `L` and
last part `P` (a field is unset or has THE value) -/
def SplitConsistent (ans : Nat → Shard → Bool → GetR) (e : Eng) (ord : List Nat) (L P : Nat) : Prop :=
  ∀ i ∈ ord, ∀ r, ansOf ans e i = some r →
    r = .err .notFound ∨ ∃ l p, r = .err (.split l p) ∧ (l = 0 ∨ l = L) ∧ (p = 0 ∨ p = P)

/-- the result the merged split information denotes -/
def splitSpec (ans : Nat → Shard → Bool → GetR) (e : Eng) (ord : List Nat) (L P : Nat) : GetR :=
  if anySplit ans e ord then
    .err (.split (if anyLink ans e ord then L else 0) (if anyLast ans e ord then P else 0))
  else .err .notFound

/-! A split field consistent with `L ≠ 0` is `if q then L else 0` (`q`: it is set); merging is disjunction of the `q`s. -/

theorem field_ne_zero {L : Nat} (hL : L ≠ 0) (q : Prop) [Decidable q] : (if q then L else 0) ≠ 0 ↔ q := by
  by_cases h : q <;> simp [h, hL]

theorem field_cases {L : Nat} (q : Prop) [Decidable q] :
    (if q then L else 0) = 0 ∨ (if q then L else 0) = L := by
  by_cases h : q
  · exact Or.inr (if_pos h)
  · exact Or.inl (if_neg h)

theorem field_eq {L a : Nat} (hL : L ≠ 0) (ha : a = 0 ∨ a = L) : a = if a ≠ 0 then L else 0 := by
  rcases ha with rfl | rfl
  · rfl
  · rw [if_pos hL]

theorem mergeSplit_field {L l a : Nat} (hL : L ≠ 0) (hl : l = 0 ∨ l = L) (ha : a = 0 ∨ a = L) :
    (if l ≠ 0 then l else a) = if a ≠ 0 ∨ l ≠ 0 then L else 0 := by
  rcases hl with rfl | rfl
  · simpa using field_eq hL ha
  · simp [hL]

theorem pass1_split (ans : Nat → Shard → Bool → GetR) (e : Eng) (L P : Nat) (hL : L ≠ 0) (hP : P ≠ 0) :
    ∀ (ord : List Nat) (st : P1) (a b : Nat) (started : Bool),
      SplitConsistent ans e ord L P → st.metaSh = none →
      st.split = (if started then some (a, b) else none) → (a = 0 ∨ a = L) → (b = 0 ∨ b = P) →
      ¬ (a ≠ 0 ∧ b ≠ 0) → (started = false → a = 0 ∧ b = 0) →
      let a' := if a ≠ 0 ∨ anyLink ans e ord = true then L else 0
      let b' := if b ≠ 0 ∨ anyLast ans e ord = true then P else 0
      (pass1 ans ord e st).1 = e ∧
      (a' ≠ 0 ∧ b' ≠ 0 → (pass1 ans ord e st).2.1 = some (.err (.split L P))) ∧
      (¬ (a' ≠ 0 ∧ b' ≠ 0) → (pass1 ans ord e st).2.1 = none ∧ (pass1 ans ord e st).2.2.metaSh = none ∧
        (pass1 ans ord e st).2.2.split = (if started || anySplit ans e ord then some (a', b') else none)) := by
  intro ord
  induction ord with
  | nil =>
    intro st a b started _ hm hs ha hb hnc _
    simp only [anyLink, anyLast, anySplit, List.any_nil, Bool.false_eq_true, or_false, Bool.or_false, pass1,
      ← field_eq hL ha, ← field_eq hP hb]
    exact ⟨trivial, fun hc => absurd hc hnc, fun _ => ⟨trivial, hm, hs⟩⟩
  | cons i rest ih =>
    intro st a b started hcons hm hs ha hb hnc hst
    have hcons' : SplitConsistent ans e rest L P := fun j hj r hr => hcons j (List.mem_cons_of_mem i hj) r hr
    cases hsh : e.shards[i]? with
    | none =>
      have hno : ansOf ans e i = none := by rw [ansOf, hsh]; rfl
      rw [pass1, hsh]
      simp only [anyLink, anyLast, anySplit, List.any_cons, hno, Bool.false_or]
      exact ih st a b started hcons' hm hs ha hb hnc hst
    | some s =>
      have hans : ansOf ans e i = some (ans i s s.mode.noMeta) := by rw [ansOf, hsh]; rfl
      rcases hcons i List.mem_cons_self _ hans with hr | ⟨l, p, hr, hl, hp⟩
      · -- not found here: only `hasDeg` moves
        rw [hr] at hans
        have heq : pass1 ans (i :: rest) e st = pass1 ans rest e { st with hasDeg := st.hasDeg || s.mode.noMeta } := by
          rw [pass1, hsh]
          simp only [hr, classify, noteMeta_of_ne _ i .notFound nofun nofun]
        rw [heq]
        simp only [anyLink, anyLast, anySplit, List.any_cons, hans, Bool.false_or]
        exact ih _ a b started hcons' hm hs ha hb hnc hst
      · rw [hr] at hans
        have hacc : st.split.getD (0, 0) = (a, b) := by
          rw [hs]
          cases started with
          | true => rfl
          | false => rw [(hst rfl).1, (hst rfl).2]; rfl
        -- the accumulator becomes `(A, B)`
        generalize hA : (if a ≠ 0 ∨ l ≠ 0 then L else 0) = A
        generalize hB : (if b ≠ 0 ∨ p ≠ 0 then P else 0) = B
        have heq : pass1 ans (i :: rest) e st =
            if A ≠ 0 ∧ B ≠ 0 then (e, some (.err (.split A B)), { st with hasDeg := st.hasDeg || s.mode.noMeta })
            else pass1 ans rest e { st with hasDeg := st.hasDeg || s.mode.noMeta, split := some (A, B) } := by
          rw [pass1, hsh]
          simp only [hr, noteMeta_of_ne _ i (.split l p) nofun nofun, classify, hacc, mergeSplit, bne_iff_ne,
            mergeSplit_field hL hl ha, mergeSplit_field hP hp hb, hA, hB, Bool.and_eq_true]
        have hA0 : A ≠ 0 ↔ a ≠ 0 ∨ l ≠ 0 := hA ▸ field_ne_zero hL _
        have hB0 : B ≠ 0 ↔ b ≠ 0 ∨ p ≠ 0 := hB ▸ field_ne_zero hP _
        rw [heq]
        simp only [anyLink, anyLast, anySplit, List.any_cons, hans, Bool.or_eq_true, bne_iff_ne, Bool.true_or,
          Bool.or_true, ← or_assoc, ← hA0, ← hB0]
        by_cases hcomp : A ≠ 0 ∧ B ≠ 0
        · rw [if_pos hcomp]
          have hAL : A = L := (hA ▸ field_cases _ : A = 0 ∨ A = L).resolve_left hcomp.1
          have hBP : B = P := (hB ▸ field_cases _ : B = 0 ∨ B = P).resolve_left hcomp.2
          refine ⟨rfl, fun _ => by rw [hAL, hBP], fun hn => absurd ?_ hn⟩
          exact ⟨(field_ne_zero hL _).mpr (Or.inl hcomp.1), (field_ne_zero hP _).mpr (Or.inl hcomp.2)⟩
        · rw [if_neg hcomp]
          exact ih _ A B true hcons' hm rfl (hA ▸ field_cases _) (hB ▸ field_cases _)
            hcomp (fun h => nomatch h)

theorem anySplit_of_anyLink {ans : Nat → Shard → Bool → GetR} {e : Eng} {ord : List Nat}
    (h : anyLink ans e ord = true) : anySplit ans e ord = true := by
  obtain ⟨i, hi, hx⟩ := List.any_eq_true.mp h
  refine List.any_eq_true.mpr ⟨i, hi, ?_⟩
  split at hx
  · rfl
  · cases hx

theorem getWith_split_spec (ans : Nat → Shard → Bool → GetR) (e : Eng) (ord : List Nat) (L P : Nat)
    (hL : L ≠ 0) (hP : P ≠ 0) (hc : SplitConsistent ans e ord L P) :
    (getWith ans e ord).2 = splitSpec ans e ord L P := by
  have h := pass1_split ans e L P hL hP ord {} 0 0 false hc rfl rfl (Or.inl rfl) (Or.inl rfl)
    (fun h => h.1 rfl) (fun _ => ⟨rfl, rfl⟩)
  simp only [ne_eq, not_true_eq_false, false_or, Bool.false_or, field_ne_zero hL, field_ne_zero hP] at h
  unfold getWith splitSpec
  generalize pass1 ans ord e {} = r at h
  obtain ⟨e1, r1, st1⟩ := r
  simp only at h
  by_cases hcomp : anyLink ans e ord = true ∧ anyLast ans e ord = true
  · -- complete information: the pass stops with it
    obtain rfl : r1 = _ := h.2.1 hcomp
    simp only [anySplit_of_anyLink hcomp.1, hcomp.1, hcomp.2, if_true]
  · -- the pass runs to the end, no shard had metadata without object, the accumulator is the answer
    obtain ⟨rfl, hm, hsp⟩ : r1 = none ∧ st1.metaSh = none ∧ _ := h.2.2 hcomp
    simp only [hsp, hm]
    cases anySplit ans e ord <;> rfl

/-- **Split-info merging is order-independent**: when every shard either does not know the object or reports
split information consistent with one link and one last part, every two orders that visit the same shards
give the same answer (the early stop on complete information included). -/
theorem split_merge_order_independent (ans : Nat → Shard → Bool → GetR) (e : Eng) (ord1 ord2 : List Nat)
    (L P : Nat) (hL : L ≠ 0) (hP : P ≠ 0) (hperm : ord1.Perm ord2) (hc : SplitConsistent ans e ord1 L P) :
    (getWith ans e ord1).2 = (getWith ans e ord2).2 := by
  have hc2 : SplitConsistent ans e ord2 L P := fun i hi r hr => hc i (hperm.mem_iff.mpr hi) r hr
  rw [getWith_split_spec ans e ord1 L P hL hP hc, getWith_split_spec ans e ord2 L P hL hP hc2]
  unfold splitSpec anySplit anyLink anyLast
  rw [hperm.any_eq, hperm.any_eq, hperm.any_eq]

/-- non-vacuity: link known to shard 0, last part to shard 2, shard 1 knows nothing: both orders merge to the
complete information -/
example :
    let ans : Nat → Shard → Bool → GetR := fun i _ _ =>
      if i == 0 then .err (.split 9 0) else if i == 2 then .err (.split 0 8) else .err .notFound
    let e : Eng := { shards := [{}, {}, {}] }
    (getWith ans e [0, 1, 2]).2 = .err (.split 9 8) ∧ (getWith ans e [2, 1, 0]).2 = .err (.split 9 8) := by
  decide

end NeoFS.Engine
