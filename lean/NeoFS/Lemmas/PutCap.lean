import NeoFS.Lemmas.PutLoop
/-! The rule loop of `saveObject` under a total cap (`MaxReplicas > 0`), for `Props/C25.lean`. -/
namespace NeoFS.Put

def sumStored (s : LS) : Nat := (s.stored.map Prod.snd).sum

theorem sumStored_push {s s' : LS} {x : Nat × Nat} (h : s'.stored = x :: s.stored) :
    sumStored s' = sumStored s + x.2 := by
  unfold sumStored; rw [h, List.map_cons, List.sum_cons, Nat.add_comm]

/-- every counted `(rule, st)` is within the rule's limit and its list's acknowledging nodes -/
def PerRule (e : Env) (s : LS) : Prop :=
  ∀ x ∈ s.stored, x.2 ≤ e.rep.getD x.1 0 ∧ x.2 ≤ ackCount s.g.acks (e.lists.getD x.1 [])

theorem PerRule.push {e : Env} {s s' : LS} (h : PerRule e s) {i st : Nat} (hst : s'.stored = (i, st) :: s.stored)
    (ha : s.g.acks ⊆ s'.g.acks) (h1 : st ≤ e.rep.getD i 0) (h2 : st ≤ ackCount s'.g.acks (e.lists.getD i [])) :
    PerRule e s' := by
  intro x hx
  rw [hst] at hx
  rcases List.mem_cons.mp hx with rfl | hx
  · exact ⟨h1, h2⟩
  · exact ⟨(h x hx).1, Nat.le_trans (h x hx).2 (ackCount_mono ha _)⟩

/-- invariant of the capped rule loop while it goes on -/
structure CapInv (e : Env) (s : LS) : Prop where
  inv : Inv (e.ans .main) s.g
  total : sumStored s + s.applied.length + s.left = e.maxReplicas
  pos : 0 < s.left
  acksLe : s.g.acks.length ≤ sumStored s
  perRule : PerRule e s

/-- what holds when the loop has ended (normally or by `break`) -/
structure CapEnd (e : Env) (s : LS) : Prop where
  good : ∀ n ∈ s.g.acks, e.ans .main n = true
  totalLe : sumStored s + s.applied.length ≤ e.maxReplicas
  acksLe : s.g.acks.length ≤ sumStored s
  perRule : PerRule e s

theorem CapInv.toEnd {e : Env} {s : LS} (h : CapInv e s) : CapEnd e s :=
  ⟨h.inv.acked_good, by have := h.total; omega, h.acksLe, h.perRule⟩

theorem CapInv.next {e : Env} {s s' : LS} (hc : CapInv e s) {st a : Nat} (hi : Inv (e.ans .main) s'.g)
    (hS : sumStored s' = sumStored s + st) (hA : s'.applied.length = s.applied.length + a)
    (hL : s'.left + st + a = s.left) (hpos : 0 < s'.left) (hK : s'.g.acks.length ≤ s.g.acks.length + st)
    (hper : PerRule e s') :
    CapInv e s' :=
  ⟨hi, by have := hc.total; omega, hpos, by have := hc.acksLe; omega, hper⟩

theorem CapInv.last {e : Env} {s s' : LS} (hc : CapInv e s) {st a : Nat} (hg : ∀ n ∈ s'.g.acks, e.ans .main n = true)
    (hS : sumStored s' = sumStored s + st) (hA : s'.applied.length = s.applied.length + a)
    (hL : st + a = s.left) (hK : s'.g.acks.length ≤ s.g.acks.length + st)
    (hper : PerRule e s') :
    CapEnd e s' ∧ sumStored s' + s'.applied.length = e.maxReplicas := by
  have := hc.total
  have := hc.acksLe
  exact ⟨⟨hg, by omega, by omega, hper⟩, by omega⟩

theorem sumLimits_cons (rep : List Nat) (ecl : Option (List Nat)) (i : Nat) (todo : List Nat) :
    sumLimits rep ecl (i :: todo) = limitOf rep ecl i + sumLimits rep ecl todo := by
  simp [sumLimits]

theorem limitOf_rep {rep : List Nat} {ecl : Option (List Nat)} {i : Nat} (h : i < rep.length) :
    limitOf rep ecl i = rep.getD i 0 := by
  unfold limitOf; rw [if_pos h]

theorem limitOf_ecDisabled {rep : List Nat} {ecl : Option (List Nat)} {i : Nat} (h : rep.length ≤ i)
    (hd : ecDisabled ecl (i - rep.length) = true) : limitOf rep ecl i = 0 := by
  unfold limitOf
  rw [if_neg (by omega)]
  cases ecl with
  | none => simp [ecDisabled] at hd
  | some l => simpa [ecDisabled] using hd

/-- a capped step keeps `CapInv` and the reach of the limits, or breaks with the total reached -/
def CapStep (e : Env) (i : Nat) (todo : List Nat) (s : LS) (x : LS × Option (Option Res)) : Prop :=
  (x.2 = none → CapInv e x.1 ∧
    ((e.rep.length ≤ i → limitOf e.rep e.ecLimits i ≤ 1) → s.left ≤ sumLimits e.rep e.ecLimits (i :: todo) →
      x.1.left ≤ sumLimits e.rep e.ecLimits todo)) ∧
  (x.2 = some none → CapEnd e x.1 ∧ sumStored x.1 + x.1.applied.length = e.maxReplicas)

/-- `minReps = left - rest` or `maxReps = min r left` was reached -/
theorem left_sub_le {left st r rest : Nat} (hl : left ≤ r + rest) (h : min r left ≤ st ∨ left - rest ≤ st)
    (hlt : st < left) : left - st ≤ rest := by
  omega

theorem repRuleStep_capped (e : Env) (hM : e.maxReplicas > 0) (hs : ∀ l, (e.sched l).Perm l)
    (i : Nat) (hlt : i < e.rep.length) (todo : List Nat) (s : LS)
    (hc : CapInv e s) (hnd : (e.lists.getD i []).Nodup) : CapStep e i todo s (repRuleStep e i todo s) := by
  generalize h : repRuleStep e i todo s = x
  obtain ⟨s1, o⟩ := x
  unfold repRuleStep at h
  dsimp only at h
  have hlim := limitOf_rep (ecl := e.ecLimits) hlt
  by_cases h0 : e.rep.getD i 0 = 0
  · rw [if_pos h0] at h
    obtain ⟨rfl, rfl⟩ := Prod.mk.inj h
    refine ⟨fun _ => ⟨hc, fun _ hl => ?_⟩, nofun⟩
    rwa [sumLimits_cons, hlim, h0, Nat.zero_add] at hl
  rw [if_neg h0, if_pos hM, if_pos hM] at h
  generalize hr : repRule _ _ _ _ _ _ = r at h
  obtain ⟨g1, st, failed⟩ := r
  dsimp only at h
  obtain ⟨r1, r2, r3, r4, r5, _⟩ := repRule_sound _ _ hs _ _ _ _ g1 st failed hnd hc.inv hr
  have hK := repRule_acks_len hr
  have hstl : st ≤ s.left := Nat.le_trans r3 (Nat.min_le_right _ _)
  have hper : ∀ l, PerRule e { s with g := g1, stored := (i, st) :: s.stored, left := l } := fun _ =>
    hc.perRule.push rfl r4 (Nat.le_trans r3 (Nat.min_le_left _ _)) r2
  cases failed with
  | true =>
    rw [if_pos rfl, if_pos hM] at h
    obtain ⟨_, rfl⟩ := Prod.mk.inj h
    exact ⟨nofun, nofun⟩
  | false =>
    rw [if_neg (by simp), if_pos hM] at h
    by_cases hle : s.left ≤ st
    · rw [if_pos hle] at h
      obtain ⟨rfl, rfl⟩ := Prod.mk.inj h
      exact ⟨nofun, fun _ => hc.last (st := st) (a := 0) r1.acked_good (sumStored_push (x := (i, st)) rfl) rfl
        (Nat.le_antisymm hstl hle) hK (hper _)⟩
    · rw [if_neg hle] at h
      obtain ⟨rfl, rfl⟩ := Prod.mk.inj h
      have hlt' := Nat.lt_of_not_le hle
      refine ⟨fun _ => ⟨hc.next (st := st) (a := 0) r1 (sumStored_push (x := (i, st)) rfl) rfl
        (Nat.sub_add_cancel hstl) (Nat.sub_pos_of_lt hlt') hK (hper _), fun _ hl => ?_⟩, nofun⟩
      rw [sumLimits_cons, hlim] at hl
      exact left_sub_le hl (r5 rfl) hlt'

theorem ecRuleStep_capped (e : Env) (hM : e.maxReplicas > 0) (i : Nat) (hge : e.rep.length ≤ i)
    (todo : List Nat) (s : LS) (hc : CapInv e s) : CapStep e i todo s (ecRuleStep e i todo s) := by
  generalize h : ecRuleStep e i todo s = x
  obtain ⟨s1, o⟩ := x
  unfold ecRuleStep at h
  dsimp only at h
  by_cases hd : ecDisabled e.ecLimits (i - e.rep.length) = true
  · rw [if_pos hd] at h
    obtain ⟨rfl, rfl⟩ := Prod.mk.inj h
    refine ⟨fun _ => ⟨hc, fun _ hl => ?_⟩, nofun⟩
    rwa [sumLimits_cons, limitOf_ecDisabled hge hd, Nat.zero_add] at hl
  rw [if_neg hd] at h
  generalize applyEC _ _ _ _ _ = r at h
  obtain ⟨okAll, acks⟩ := r
  have hpos := hc.pos
  cases okAll with
  | false =>
    rw [if_pos (by rfl), if_neg (Nat.ne_of_gt hM)] at h
    by_cases hgt : s.left > sumLimits e.rep e.ecLimits todo
    · rw [if_pos hgt] at h
      obtain ⟨_, rfl⟩ := Prod.mk.inj h
      exact ⟨nofun, nofun⟩
    · rw [if_neg hgt] at h
      obtain ⟨rfl, rfl⟩ := Prod.mk.inj h
      exact ⟨fun _ => ⟨hc.next (st := 0) (a := 0) (hc.inv.congr rfl rfl) rfl rfl rfl hpos (Nat.le_refl _) hc.perRule,
        fun _ _ => Nat.le_of_not_gt hgt⟩, nofun⟩
  | true =>
    rw [if_neg (by simp), if_pos hM] at h
    by_cases hz : s.left - 1 = 0
    · rw [if_pos hz] at h
      obtain ⟨rfl, rfl⟩ := Prod.mk.inj h
      exact ⟨nofun, fun _ => hc.last (st := 0) (a := 1) hc.inv.acked_good rfl rfl (by omega) (Nat.le_refl _) hc.perRule⟩
    · rw [if_neg hz] at h
      obtain ⟨rfl, rfl⟩ := Prod.mk.inj h
      refine ⟨fun _ => ⟨hc.next (st := 0) (a := 1) (hc.inv.congr rfl rfl) rfl rfl (Nat.sub_add_cancel hpos)
        (Nat.pos_of_ne_zero hz) (Nat.le_refl _) hc.perRule, fun h1 hl => ?_⟩, nofun⟩
      have := h1 hge
      rw [sumLimits_cons] at hl
      change s.left - 1 ≤ _
      omega

/-- the capped rule loop: per-rule and total limits are never exceeded; the total is reached when the limits
of the rules still to visit can supply it -/
theorem ruleLoop_capped (e : Env) (hM : e.maxReplicas > 0) (hs : ∀ l, (e.sched l).Perm l) :
    ∀ (todo : List Nat) (s s' : LS), CapInv e s → (∀ i ∈ todo, (e.lists.getD i []).Nodup) →
      ruleLoop e todo s = (s', none) →
      CapEnd e s' ∧
      ((∀ i ∈ todo, e.rep.length ≤ i → limitOf e.rep e.ecLimits i ≤ 1) → s.left ≤ sumLimits e.rep e.ecLimits todo →
        sumStored s' + s'.applied.length = e.maxReplicas)
  | [], s, s', hc, _, h => by
    obtain ⟨rfl, _⟩ := Prod.mk.inj h
    refine ⟨hc.toEnd, fun _ hl => ?_⟩
    have := hc.pos
    simp [sumLimits] at hl
    omega
  | i :: todo, s, s', hc, hnd, h => by
    have step : CapStep e i todo s (ruleStep e i todo s) := ruleStep_cases e i todo s
      (fun hge => ecRuleStep_capped e hM i hge todo s hc)
      (fun hlt => repRuleStep_capped e hM hs i hlt todo s hc (hnd i List.mem_cons_self))
    rcases ruleLoop_cons h with ⟨s1, h1, h2⟩ | h1
    · rw [h1] at step
      obtain ⟨a, b⟩ := step.1 rfl
      obtain ⟨q1, q2⟩ := ruleLoop_capped e hM hs todo s1 s' a (fun j hj => hnd j (List.mem_cons_of_mem _ hj)) h2
      exact ⟨q1, fun hlim hl => q2 (fun j hj => hlim j (List.mem_cons_of_mem _ hj)) (b (hlim i List.mem_cons_self) hl)⟩
    · rw [h1] at step
      obtain ⟨a, b⟩ := step.2 rfl
      exact ⟨a, fun _ _ => b⟩

end NeoFS.Put
