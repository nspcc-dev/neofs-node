import NeoFS.Model.Engine
/-! Facts about the operations of the engine model that C08, C19 and C20 share. -/
namespace NeoFS.Engine

theorem setShard_get_ne {e : Eng} {i j : Nat} {s : Shard} (h : j ≠ i) :
    (e.setShard i s).shards[j]? = e.shards[j]? :=
  List.getElem?_set_ne (Ne.symm h)

theorem setShard_get_self {e : Eng} {i : Nat} {s s0 : Shard} (h : e.shards[i]? = some s0) :
    (e.setShard i s).shards[i]? = some s := by
  obtain ⟨hlt, _⟩ := List.getElem?_eq_some_iff.mp h
  exact List.getElem?_set_self hlt

theorem report_shards_ne {e : Eng} {i j : Nat} {er : Err} (h : j ≠ i) :
    (e.report i er).shards[j]? = e.shards[j]? := by
  unfold Eng.report
  cases er.logic with
  | true => rfl
  | false =>
    cases e.shards[i]? with
    | none => rfl
    | some s => exact setShard_get_ne h

theorem report_shard (e : Eng) (i j : Nat) (er : Err) (s : Shard) (h : e.shards[j]? = some s) :
    ∃ n m, (e.report i er).shards[j]? = some { s with errs := n, mode := m } ∧ (m = s.mode ∨ m = .degRO) := by
  by_cases hji : j = i
  · subst hji
    unfold Eng.report
    cases er.logic with
    | true => exact ⟨s.errs, s.mode, h, Or.inl rfl⟩
    | false =>
      rw [h]
      simp only [Bool.false_eq_true, if_false]
      rw [setShard_get_self h]
      cases (e.thr != 0 && decide (s.errs + 1 ≥ e.thr)) with
      | true => exact ⟨_, _, rfl, Or.inr rfl⟩
      | false => exact ⟨_, _, rfl, Or.inl rfl⟩
  · exact ⟨s.errs, s.mode, by rw [report_shards_ne hji]; exact h, Or.inl rfl⟩

theorem report_agree {e e0 : Eng} {i : Nat} {rest : List Nat} (er : Err) (hnd : (i :: rest).Nodup)
    (hag : ∀ j ∈ i :: rest, e.shards[j]? = e0.shards[j]?) :
    ∀ j ∈ rest, (e.report i er).shards[j]? = e0.shards[j]? := by
  intro j hj
  rw [report_shards_ne (fun h : j = i => (List.nodup_cons.mp hnd).1 (h ▸ hj))]
  exact hag j (List.mem_cons_of_mem i hj)

theorem classify_stop_err (er : Err) (r : GetR) (h : classify er = .stop r) : ∃ x, r = .err x := by
  cases er <;> simp [classify] at h <;> exact ⟨_, h.symm⟩

theorem noteMeta_of_ne (st : P1) (i : Nat) (er : Err) (h1 : er ≠ .metaNF) (h2 : er ≠ .metaIO) :
    noteMeta st i er = st := by
  simp [noteMeta, h1, h2]

theorem find_filter_of_imp (l : List Obj) (p q : Obj → Bool) (h : ∀ x, p x = true → q x = true) :
    (l.filter q).find? p = l.find? p := by
  induction l with
  | nil => rfl
  | cons x xs ih =>
    by_cases hq : q x = true
    · rw [List.filter_cons_of_pos hq]; simp only [List.find?_cons]; rw [ih]
    · have hp : p x = false := by
        cases hpx : p x
        · rfl
        · exact absurd (h x hpx) hq
      rw [List.filter_cons_of_neg hq, List.find?_cons, hp]; exact ih

theorem find_eraseId_of_ne {id' id : Nat} (l : List Obj) (hne : id' ≠ id) :
    (Shard.eraseId id' l).find? (·.id == id) = l.find? (·.id == id) := by
  refine find_filter_of_imp l _ _ fun x hx => ?_
  have : x.id = id := by simpa using hx
  simp [this, Ne.symm hne]

theorem find_insertObj_self (o : Obj) (l : List Obj) : ((Shard.insertObj o l).find? (·.id == o.id)).isSome = true := by
  unfold Shard.insertObj
  split
  · rename_i h
    exact List.find?_isSome.mpr (List.any_eq_true.mp h)
  · exact List.find?_isSome.mpr ⟨o, List.mem_append_right _ (List.mem_singleton_self o), beq_self_eq_true _⟩

theorem find_insertObj_of_find (t : Obj) (l : List Obj) (id : Nat) (o : Obj)
    (h : l.find? (·.id == id) = some o) : (Shard.insertObj t l).find? (·.id == id) = some o := by
  unfold Shard.insertObj
  split
  · exact h
  · rw [List.find?_append, h]; rfl

theorem find_insertObj_mono (o : Obj) (l : List Obj) (id : Nat) (h : (l.find? (·.id == id)).isSome = true) :
    ((Shard.insertObj o l).find? (·.id == id)).isSome = true := by
  obtain ⟨x, hx⟩ := Option.isSome_iff_exists.mp h
  rw [find_insertObj_of_find o l id x hx]
  rfl

namespace Shard

theorem inGarbage_eq_avail_iff (s : Shard) (id : Nat) :
    s.inGarbage id = .avail ↔ s.tombstoned id = false ∧ s.garbage.contains id = false := by
  unfold inGarbage
  cases s.tombstoned id with
  | true => exact ⟨nofun, fun h => nomatch h.1⟩
  | false =>
    cases s.garbage.contains id with
    | true => exact ⟨nofun, fun h => nomatch h.2⟩
    | false => exact ⟨fun _ => ⟨rfl, rfl⟩, fun _ => rfl⟩

theorem inGarbage_ne_exp (s : Shard) (id : Nat) : s.inGarbage id ≠ .exp := by
  unfold inGarbage
  cases s.tombstoned id with
  | true => exact nofun
  | false => cases s.garbage.contains id <;> exact nofun

theorem status_exp_indexed (s : Shard) (id ep : Nat) (h : s.status id ep = .exp) : (s.find id).isSome = true := by
  cases hf : s.find id with
  | some _ => rfl
  | none =>
    have he : s.expiredId id ep = false := by rw [expiredId, hf]
    rw [status, he] at h
    simp only [Bool.false_eq_true, if_false] at h
    split at h
    · cases h
    · exact absurd h (inGarbage_ne_exp s id)

theorem indexed_of_mExists (s : Shard) (id ep : Nat) :
    (s.mExists id ep = .error .expired → (s.find id).isSome = true) ∧
    (s.mExists id ep = .ok true → (s.find id).isSome = true) := by
  unfold Shard.mExists
  cases hst : s.status id ep with
  | gc => simp
  | tomb => simp
  | exp => simp; exact status_exp_indexed s id ep hst
  | avail => simp

theorem metaPut_ok_cases (s s2 : Shard) (o : Obj) (ep : Nat) (h : s.metaPut o ep = .ok s2) :
    (s2 = s ∧ (s.find o.id).isSome = true) ∨
      ∃ g, s2 = { s with idx := Shard.insertObj o s.idx, garbage := g } := by
  unfold Shard.metaPut at h
  extract_lets proceed at h
  have hp : proceed = .ok s2 → ∃ g, s2 = { s with idx := Shard.insertObj o s.idx, garbage := g } := by
    intro hp
    simp only [proceed] at hp
    -- every leaf of the checks by kind is an error or the shard with the object appended
    repeat' split at hp
    all_goals first | exact ⟨_, (Except.ok.inj hp).symm⟩ | cases hp
  split at h
  · split at h
    · rename_i hf; exact Or.inl ⟨(Except.ok.inj h).symm, hf⟩
    · exact Or.inr (hp h)
  · split at h
    · rename_i hf; exact Or.inl ⟨(Except.ok.inj h).symm, hf⟩
    · exact Or.inr (hp h)
  · cases h
  · cases h

theorem blobGet_cases (s : Shard) (id : Nat) :
    (∃ o, s.blobGet id = .ok o ∧ s.failR = false ∧ s.blob id = some o) ∨
    (s.blobGet id = .err .io ∧ s.failR = true) ∨ (s.blobGet id = .err .notFound ∧ s.blob id = none) := by
  unfold blobGet
  cases hf : s.failR with
  | true => exact Or.inr (Or.inl ⟨rfl, rfl⟩)
  | false =>
    cases hb : s.blob id with
    | some o => exact Or.inl ⟨o, rfl, rfl, rfl⟩
    | none => exact Or.inr (Or.inr ⟨rfl, rfl⟩)

theorem blobGet_id (s : Shard) (id : Nat) (o : Obj) (h : s.blobGet id = .ok o) : o.id = id := by
  rcases s.blobGet_cases id with ⟨o', hg, _, hb⟩ | ⟨hg, _⟩ | ⟨hg, _⟩
  · cases hg.symm.trans h
    simpa using List.find?_some hb
  · cases hg.symm.trans h
  · cases hg.symm.trans h

theorem get_id (s : Shard) (id ep : Nat) (skip : Bool) (o : Obj) (h : s.get id ep skip = .ok o) : o.id = id := by
  unfold Shard.get at h
  split at h
  · exact blobGet_id s id o h
  · split at h
    · cases h
    · cases h
    · split at h
      · rename_i o' hb
        cases h
        exact blobGet_id s id _ hb
      · cases h
      · cases h

theorem get_noMeta (s : Shard) (id ep : Nat) (b : Bool) (h : s.mode.noMeta = true) :
    s.get id ep b = s.blobGet id ∧ s.head id ep = s.blobGet id := by
  simp [get, head, h]

theorem get_live (s : Shard) (id ep : Nat) (hn : s.mode.noMeta = false) (hst : s.status id ep = .avail)
    (hf : (s.find id).isSome = true) :
    s.head id ep = s.blobGet id ∧
    s.get id ep false = match s.blobGet id with
      | .ok o => .ok o
      | .err .notFound => .err .metaNF
      | .err _ => .err .metaIO := by
  simp only [get, head, mExists, hn, hst, hf, Bool.or_self, Bool.false_eq_true, if_false, true_and]
  rfl

theorem get_blocked (s : Shard) (id ep : Nat) (hn : s.mode.noMeta = false)
    (h : ¬ (s.status id ep = .avail ∧ (s.find id).isSome = true)) :
    ∃ er, s.get id ep false = .err er ∧ s.head id ep = .err er ∧
      (er = .notFound ∨ (er = .removed ∧ s.status id ep = .tomb) ∨ (er = .expired ∧ s.status id ep = .exp)) := by
  unfold get head mExists
  rw [hn]
  cases hst : s.status id ep with
  | gc => exact ⟨_, rfl, rfl, Or.inl rfl⟩
  | tomb => exact ⟨_, rfl, rfl, Or.inr (Or.inl ⟨rfl, rfl⟩)⟩
  | exp => exact ⟨_, rfl, rfl, Or.inr (Or.inr ⟨rfl, rfl⟩)⟩
  | avail =>
    cases hf : (s.find id).isSome with
    | false => exact ⟨_, rfl, rfl, Or.inl rfl⟩
    | true => exact absurd ⟨hst, hf⟩ h

end Shard

theorem metaPut_ok (s s2 : Shard) (o : Obj) (ep : Nat) (h : s.metaPut o ep = .ok s2) :
    (s2.find o.id).isSome = true ∧ s2.blobs = s.blobs ∧
      ∀ id, (s.find id).isSome = true → (s2.find id).isSome = true := by
  rcases Shard.metaPut_ok_cases s s2 o ep h with ⟨rfl, hf⟩ | ⟨g, rfl⟩
  · exact ⟨hf, rfl, fun _ h => h⟩
  · exact ⟨find_insertObj_self o s.idx, rfl, fun id hid => find_insertObj_mono o s.idx id hid⟩

theorem putToShard_inv {P : Eng → Prop} (e : Eng) (j : Nat) (o : Obj) (h : P e)
    (hput : ∀ s, e.shards[j]? = some s → P (e.setShard j (s.put o e.epoch).1))
    (hrep : ∀ e' er, P e' → P (e'.report j er)) : P (e.putToShard j o).1 := by
  unfold Eng.putToShard
  split
  · exact h
  · rename_i s hs
    have h1 := hput s hs
    split <;> try exact h
    split
    · rename_i heq; rw [heq] at h1; exact h1
    · rename_i heq
      rw [heq] at h1
      simp only
      split
      · exact h1
      · exact hrep _ _ h1

theorem putToShard_frame (e : Eng) (j k : Nat) (o : Obj) (h : k ≠ j) :
    (e.putToShard j o).1.shards[k]? = e.shards[k]? :=
  putToShard_inv (P := fun e' => e'.shards[k]? = e.shards[k]?) e j o rfl
    (fun _ _ => setShard_get_ne h) (fun _ _ h' => (report_shards_ne h).trans h')

theorem putToShard_frame_src {srcs : List Nat} {k : Nat} (hk : srcs.contains k = true)
    (o : Obj) (e : Eng) (j : Nat) (hj : srcs.contains j = false) :
    (e.putToShard j o).1.shards[k]? = e.shards[k]? :=
  putToShard_frame e j k o (fun hkj => by rw [hkj, hj] at hk; cases hk)

/-! The loops of an evacuation change the engine through `putToShard j`, `j` outside the source set, only. -/

section
variable {P : Eng → Prop} (srcs : List Nat)
  (step : ∀ (o : Obj) (e : Eng) (j : Nat), srcs.contains j = false → P e → P (e.putToShard j o).1)
include step

theorem evacTargets_inv (o : Obj) :
    ∀ (ord : List Nat) (e : Eng), P e → P (evacTargets o srcs ord e).1 := by
  intro ord
  induction ord with
  | nil => intro e h; exact h
  | cons j rest ih =>
    intro e h
    unfold evacTargets
    cases hc : srcs.contains j with
    | true => exact ih e h
    | false =>
      cases e.shards[j]? with
      | none => exact ih e h
      | some _ =>
        have h1 := step o e j hc h
        cases hr : e.putToShard j o with
        | mk e1 r =>
          rw [hr] at h1
          cases r with
          | stored => exact h1
          | exists_ => exact h1
          | err _ => exact ih e1 h1

theorem evacObjs_inv (src : Nat) (ord : List Nat) (ig : Bool) :
    ∀ (l : List Obj) (e : Eng) (n : Nat), P e → P (evacObjs src srcs ord ig l e n).1 := by
  intro l
  induction l with
  | nil => intro e n h; exact h
  | cons x rest ih =>
    intro e n h
    unfold evacObjs
    split
    · exact h
    · split
      · split
        · exact ih e n h
        · exact h
      · rename_i o _
        have h1 := evacTargets_inv srcs step o ord e h
        split
        · rename_i heq; rw [heq] at h1; exact ih _ _ h1
        · rename_i heq; rw [heq] at h1; exact ih _ _ h1
        · rename_i heq; rw [heq] at h1; exact h1

theorem evacShards_inv (ord : List Nat) (ig : Bool) :
    ∀ (l : List Nat) (e : Eng) (n : Nat), P e → P (evacShards srcs ord ig l e n).1 := by
  intro l
  induction l with
  | nil => intro e n h; exact h
  | cons src rest ih =>
    intro e n h
    unfold evacShards
    split
    · exact ih e n h
    · split
      · exact ih e n h
      · rename_i s _ _
        have h1 := evacObjs_inv srcs step src ord ig (sortById s.listing) e n h
        split
        · rename_i heq; rw [heq] at h1; exact ih _ _ h1
        · exact h1

end

theorem evacuate_eq (e : Eng) (srcs ord : List Nat) (ig : Bool) :
    (∃ er, e.evacuate srcs ord ig = (e, 0, some er)) ∨ e.evacuate srcs ord ig = evacShards srcs ord ig srcs e 0 := by
  generalize hq : e.evacuate srcs ord ig = q
  unfold Eng.evacuate at hq
  split at hq
  · exact Or.inl ⟨_, hq.symm⟩
  · split at hq
    · exact Or.inl ⟨_, hq.symm⟩
    · split at hq
      · exact Or.inl ⟨_, hq.symm⟩
      · exact Or.inr hq.symm

end NeoFS.Engine
