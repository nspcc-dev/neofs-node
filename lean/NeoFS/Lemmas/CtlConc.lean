import NeoFS.Model.CtlConc
/-!
The concurrent part of C32 (`Props/C32.lean`): in the code as it is a step of a request touches only that request,
so under any schedule a request is at the state its own steps lead to.
-/
namespace NeoFS.C32
open NeoFS.CtlAuth NeoFS.CtlConc

def iter {α : Type} (f : α → α) : Nat → α → α
  | 0, x => x
  | n + 1, x => iter f n (f x)

theorem iter_succ_outer {α : Type} (f : α → α) (n : Nat) (x : α) : iter f (n + 1) x = f (iter f n x) := by
  induction n generalizing x with
  | zero => rfl
  | succ n ih => exact ih (f x)

theorem iter_add {α : Type} (f : α → α) (a b : Nat) (x : α) : iter f (a + b) x = iter f b (iter f a x) := by
  induction a generalizing x with
  | zero => simp [iter]
  | succ a ih =>
    have h : a + 1 + b = (a + b) + 1 := by omega
    rw [h]
    exact ih (f x)

theorem iter_inv {α : Type} {f : α → α} {P : α → Prop} (hf : ∀ x, P x → P (f x)) (n : Nat) {x : α} (h : P x) :
    P (iter f n x) := by
  induction n generalizing x with
  | zero => exact h
  | succ n ih => exact ih (hf x h)

theorem iter_fixed {α : Type} {f : α → α} {x : α} (h : f x = x) (n : Nat) : iter f n x = x :=
  iter_inv (P := (· = x)) (fun _ hy => hy ▸ h) n rfl

/-- In the code as it is, a step of a request neither reads nor writes anything owned by the server. -/
theorem step_fresh (allowed : List Nat) (sh : Option Nat) (t : Thread) :
    step .fresh allowed sh t = (sh, stepT allowed t) := by
  unfold stepT step
  cases t.pc <;> simp only [] <;> (repeat' split) <;> rfl

theorem stepT_req (allowed : List Nat) (t : Thread) : (stepT allowed t).req = t.req := by
  unfold stepT step
  cases t.pc <;> simp only [] <;> (repeat' split) <;> rfl

theorem stepT_done (allowed : List Nat) (t : Thread) (v : Verdict) (h : t.pc = .done v) : stepT allowed t = t := by
  obtain ⟨req, pc, flag, buf⟩ := t
  simp only [] at h
  subst h
  rfl

/-- Under ANY schedule a request has made exactly as many of its own steps as the schedule gave it: the steps of the
other requests do not touch it. -/
theorem run_fresh_thread (allowed : List Nat) (sch : List Nat) (s : Sys) (j : Nat) :
    (run .fresh allowed sch s).ts j = iter (stepT allowed) (sch.count j) (s.ts j) := by
  induction sch generalizing s with
  | nil => rfl
  | cons i sch ih =>
    have hrun : run .fresh allowed (i :: sch) s = run .fresh allowed sch (stepAt .fresh allowed s i) := rfl
    rw [hrun, ih]
    by_cases hji : j = i
    · subst hji
      simp only [stepAt, step_fresh, if_true, List.count_cons_self]
      rfl
    · have hij : (i == j) = false := by simp [Ne.symm hji]
      simp only [stepAt, if_neg hji, List.count_cons, hij]
      rfl

theorem five_steps (allowed : List Nat) (r : CReq) :
    (iter (stepT allowed) 5 { req := r }).pc = .done (isValidRequest allowed (seqView r)) := by
  obtain ⟨body, sig, marshals, keyDecodes⟩ := r
  cases sig with
  | none => rfl
  | some ks =>
    obtain ⟨k, sv⟩ := ks
    by_cases hk : k ∈ allowed <;> cases marshals <;> cases keyDecodes <;> cases hv : verify k body sv <;>
      simp [iter, stepT, step, isValidRequest, seqView, hk, hv]

theorem five_steps_after_step (allowed : List Nat) (t : Thread) (v : Verdict) (h : (iter (stepT allowed) 5 t).pc = .done v) :
    iter (stepT allowed) 5 (stepT allowed t) = iter (stepT allowed) 5 t := by
  show iter (stepT allowed) 6 t = _
  rw [iter_succ_outer, stepT_done allowed _ v h]

/-- Invariant: five more steps lead to the sequential verdict; a thread that has its verdict stays as it is. -/
theorem iter_stepT_verdict (allowed : List Nat) (r : CReq) (n : Nat) (v : Verdict)
    (h : (iter (stepT allowed) n { req := r }).pc = .done v) : v = isValidRequest allowed (seqView r) := by
  have h5 := iter_inv (P := fun t => (iter (stepT allowed) 5 t).pc = .done (isValidRequest allowed (seqView r)))
    (fun t ht => by rw [five_steps_after_step allowed t _ ht]; exact ht) n (five_steps allowed r)
  rw [iter_fixed (stepT_done allowed _ v h), h] at h5
  exact Pc.done.inj h5

theorem iter_stepT_decided (allowed : List Nat) (r : CReq) {n : Nat} (h : 5 ≤ n) :
    (iter (stepT allowed) n { req := r }).pc = .done (isValidRequest allowed (seqView r)) := by
  obtain ⟨d, rfl⟩ := Nat.exists_eq_add_of_le h
  rw [iter_add, iter_fixed (stepT_done allowed _ _ (five_steps allowed r)), five_steps]

end NeoFS.C32
