import NeoFS.Model.WCFlush
/-!
Invariants of the concurrent write-cache model (`Model/WCFlush.lean`) for one address `a` whose content is `v`, under the
real step order (`delFirst = false`): `Core` holds from the empty shard on, `Safe` (= `Core`, `Readable`, `RdOK`) from the
acknowledgement of a put on, `Keeps` is what one event keeps of both. The `tag` of a read is a ghost flag.
-/
namespace NeoFS.WCFlush

/-- every copy of `a` in a flusher's buffer is `v` -/
def bufOK (a : Addr) (v : Data) (l : List (Addr × Data)) : Prop := ∀ x, (a, x) ∈ l → x = v

/-- per-thread invariant: buffers/arguments for `a` hold `v`; a flusher that is past its main-storage put and still has to
remove `a` from the cache (and a writer whose cache file is written but not yet accounted) is covered by the main
storage; nobody is deleting `a`. Idle threads and readers (last case) are free. -/
def PcOK (a : Addr) (v : Data) (files main : Addr → Option Data) : Pc → Prop
  | .wrFile b x => b = a → x = v
  | .wrCtr b x => b = a → x = v ∧ (files a = some v ∨ main a = some v)
  | .wrMain b x => b = a → x = v
  | .flRead _ got _ _ => bufOK a v got
  | .flPut got _ => bufOK a v got
  | .flDel todo pend _ => bufOK a v todo ∧ pend = [] ∧ ((∃ x, (a, x) ∈ todo) → main a = some v)
  | .flCtr b todo pend _ => bufOK a v todo ∧ pend = [] ∧ ((b = a ∨ ∃ x, (a, x) ∈ todo) → main a = some v)
  | .dlFile b => b ≠ a
  | .dlCtr b => b ≠ a
  | .dlMain b => b ≠ a
  | _ => True

structure Core (a : Addr) (v : Data) (s : St) : Prop where
  filesGood : ∀ x, s.files a = some x → x = v
  mainGood : ∀ x, s.main a = some x → x = v
  pcs : ∀ t, PcOK a v s.files s.main (s.pc t)

/-- the object can be found by the two-step lookup -/
def Readable (a : Addr) (v : Data) (s : St) : Prop := s.main a = some v ∨ (s.ctr a = true ∧ s.files a = some v)

def RdOK (a : Addr) (v : Data) (s : St) : Prop := ∀ t, s.pc t = .rdMain a true → s.main a = some v

structure Safe (a : Addr) (v : Data) (s : St) : Prop where
  core : Core a v s
  readable : Readable a v s
  rd : RdOK a v s

def isTagged (a : Addr) : Pc → Bool
  | .rdCtr b tag => b == a && tag
  | .rdFile b tag => b == a && tag
  | .rdMain b tag => b == a && tag
  | _ => false

/-- no tracked (tagged) read of `a` is in flight -/
def NoTagged (a : Addr) (s : St) : Prop := ∀ t, isTagged a (s.pc t) = false

/-- schedule events allowed by the theorem: every put of `a` carries `v` (content addressing), no delete of `a` starts -/
def EvOK (a : Addr) (v : Data) : Ev → Prop
  | .write _ b x _ => b = a → x = v
  | .delete _ b => b ≠ a
  | _ => True

def NotTaggedRead (a : Addr) : Ev → Prop
  | .read _ b tag => ¬ (b = a ∧ tag = true)
  | _ => True

theorem run_inv {d : Bool} {I : St → Prop} {P : Ev → Prop} {Q : Obs → Prop}
    (h : ∀ s e, I s → P e → I (step d s e).1 ∧ Q (step d s e).2) (sched : List Ev) :
    ∀ (s : St), I s → (∀ e ∈ sched, P e) → I (run d s sched).1 ∧ ∀ o ∈ (run d s sched).2, Q o := by
  induction sched with
  | nil => exact fun _ hI _ => ⟨hI, List.forall_mem_nil _⟩
  | cons e es ih =>
    intro s hI hP
    have h1 := h s e hI (hP e List.mem_cons_self)
    have h2 := ih _ h1.1 fun e' he' => hP e' (List.mem_cons_of_mem _ he')
    exact ⟨h2.1, fun o ho => (List.mem_cons.mp ho).elim (fun e => e ▸ h1.2) (h2.2 o)⟩

theorem upd_same {β : Type} (f : Nat → β) (k : Nat) (v : β) : upd f k v k = v := if_pos rfl

theorem upd_other {β : Type} (f : Nat → β) {k x : Nat} (v : β) (h : x ≠ k) : upd f k v x = f x := if_neg h

theorem upd_eq_or {β : Type} (f : Nat → β) (k : Nat) (v : β) (x : Nat) :
    upd f k v x = f x ∨ (k = x ∧ upd f k v x = v) := by
  by_cases h : x = k
  · subst h; exact Or.inr ⟨rfl, upd_same f x v⟩
  · exact Or.inl (upd_other f v h)

theorem putAll_cases (m : Addr → Option Data) (got : List (Addr × Data)) (a : Addr) :
    (putAll m got a = m a ∧ ∀ x, (a, x) ∉ got) ∨ ∃ x, (a, x) ∈ got ∧ putAll m got a = some x := by
  unfold putAll
  split
  · rename_i p hp
    have h1 : p.1 = a := by simpa using List.find?_some hp
    exact Or.inr ⟨p.2, h1 ▸ List.mem_of_find?_eq_some hp, rfl⟩
  · rename_i hn
    exact Or.inl ⟨rfl, fun x hx => by simpa using List.find?_eq_none.mp hn (a, x) hx⟩

theorem bufOK_eraseIdx {a v} {l : List (Addr × Data)} (h : bufOK a v l) (i : Nat) : bufOK a v (l.eraseIdx i) :=
  fun x hx => h x (List.mem_of_mem_eraseIdx hx)

/-- Objects only move from the cache to the main storage: at `a` a step leaves a store, writes `v` (sets the counter), or
drops the cache file (its counter) while the main storage holds `v`. -/
structure Mono (a : Addr) (v : Data) (s s' : St) : Prop where
  files : s'.files a = s.files a ∨ s'.files a = some v ∨ (s'.files a = none ∧ s.main a = some v)
  ctr : s'.ctr a = s.ctr a ∨ s'.ctr a = true ∨ s.main a = some v
  main : s'.main a = s.main a ∨ s'.main a = some v

namespace Mono

theorem of_eq {a v} {s s' : St} (hf : s'.files = s.files) (hc : s'.ctr = s.ctr) (hm : s'.main = s.main) :
    Mono a v s s' :=
  ⟨Or.inl (hf ▸ rfl), Or.inl (hc ▸ rfl), Or.inl (hm ▸ rfl)⟩

theorem main_stable {a v} {s s' : St} (h : Mono a v s s') (hm : s.main a = some v) : s'.main a = some v :=
  h.main.elim (fun e => e.trans hm) id

theorem files_stable {a v} {s s' : St} (h : Mono a v s s') (hf : s.files a = some v) :
    s'.files a = some v ∨ s'.main a = some v := by
  rcases h.files with e | e | ⟨_, e⟩
  · exact Or.inl (e.trans hf)
  · exact Or.inl e
  · exact Or.inr (h.main_stable e)

theorem readable {a v} {s s' : St} (h : Mono a v s s') : Readable a v s → Readable a v s'
  | Or.inl hm => Or.inl (h.main_stable hm)
  | Or.inr ⟨hc, hf⟩ => by
    rcases h.files_stable hf with hf' | hm'
    · rcases h.ctr with e | e | e
      · exact Or.inr ⟨e.trans hc, hf'⟩
      · exact Or.inr ⟨e, hf'⟩
      · exact Or.inl (h.main_stable e)
    · exact Or.inl hm'

end Mono

theorem PcOK_mono {a v} {s s' : St} {p : Pc} (h : PcOK a v s.files s.main p) (hm : Mono a v s s') :
    PcOK a v s'.files s'.main p := by
  cases p <;> simp only [PcOK] at h ⊢ <;> try exact h
  · exact fun hb => ⟨(h hb).1, (h hb).2.elim hm.files_stable (fun h1 => Or.inr (hm.main_stable h1))⟩
  · exact ⟨h.1, h.2.1, fun hx => hm.main_stable (h.2.2 hx)⟩
  · exact ⟨h.1, h.2.1, fun hx => hm.main_stable (h.2.2 hx)⟩

theorem core_update {a v} {s s' : St} {t : Tid} {p' : Pc} (hc : Core a v s) (hm : Mono a v s s')
    (hpc : s'.pc = upd s.pc t p') (hp : PcOK a v s'.files s'.main p') : Core a v s' := by
  refine ⟨fun x hx => ?_, fun x hx => ?_, fun t' => ?_⟩
  · rcases hm.files with e | e | ⟨e, _⟩
    · exact hc.filesGood x (e ▸ hx)
    · exact Option.some.inj (hx.symm.trans e)
    · exact absurd (hx.symm.trans e) nofun
  · rcases hm.main with e | e
    · exact hc.mainGood x (e ▸ hx)
    · exact Option.some.inj (hx.symm.trans e)
  · rw [hpc]
    by_cases ht : t' = t
    · subst ht; rw [upd_same]; exact hp
    · rw [upd_other _ _ ht]; exact PcOK_mono (hc.pcs t') hm

theorem rdOK_update {a v} {s s' : St} {t : Tid} {p' : Pc} (hs : RdOK a v s) (hm : Mono a v s s')
    (hpc : s'.pc = upd s.pc t p') (hp : p' = .rdMain a true → s'.main a = some v) : RdOK a v s' := by
  intro t'
  rw [hpc]
  by_cases ht : t' = t
  · subst ht; rw [upd_same]; exact hp
  · rw [upd_other _ _ ht]; exact fun h => hm.main_stable (hs t' h)

/-- a tracked read of `a` returns `v`; after an acknowledged put of `a` the object can be found -/
def ObsOK (a : Addr) (v : Data) (s s' : St) : Obs → Prop
  | .readDone _ b tag r => b = a → tag = true → RdOK a v s → r = some v
  | .putAck _ b x ok => b = a → x = v → ok = true → Readable a v s'
  | _ => True

/-- what an event keeps for `a` from a state of `Core`; `quiet`: the event starts no tracked read of `a` -/
structure Keeps (a : Addr) (v : Data) (quiet : Prop) (s : St) (r : St × Obs) : Prop where
  mono : Mono a v s r.1
  core : Core a v r.1
  rd : Readable a v s → RdOK a v s → RdOK a v r.1
  tagged : quiet → NoTagged a s → NoTagged a r.1
  obs : ObsOK a v s r.1 r.2

theorem keeps_refl {a v q} {s : St} (hc : Core a v s) : Keeps a v q s (s, .none) :=
  ⟨.of_eq rfl rfl rfl, hc, fun _ h => h, fun _ h => h, trivial⟩

/-- `hr`: a thread that becomes a tracked reader of `a` was one; after a cache miss the main storage has the object -/
theorem keeps_update {a v q} {s s' : St} {t : Tid} {p' : Pc} {o : Obs} (hc : Core a v s) (hm : Mono a v s s')
    (hpc : s'.pc = upd s.pc t p') (hp : PcOK a v s'.files s'.main p')
    (hr : isTagged a p' = true → (q → isTagged a (s.pc t) = true) ∧
      (Readable a v s → p' = .rdMain a true → s'.main a = some v)) (ho : ObsOK a v s s' o) : Keeps a v q s (s', o) := by
  refine ⟨hm, core_update hc hm hpc hp, fun hR h => rdOK_update h hm hpc fun e => ?_, fun hq hn t' => ?_, ho⟩
  · exact (hr (by rw [e]; simp [isTagged])).2 hR e
  · rw [hpc]
    by_cases ht : t' = t
    · subst ht
      rw [upd_same]
      exact Bool.eq_false_iff.mpr fun h => absurd ((hr h).1 hq) (Bool.eq_false_iff.mp (hn t'))
    · rw [upd_other _ _ ht]; exact hn t'

theorem keeps_setPc {a v q} {s : St} {t : Tid} {p' : Pc} {o : Obs} (hc : Core a v s) (hp : PcOK a v s.files s.main p')
    (hr : isTagged a p' = true → (q → isTagged a (s.pc t) = true) ∧
      (Readable a v s → p' = .rdMain a true → s.main a = some v)) (ho : ObsOK a v s (s.setPc t p') o) :
    Keeps a v q s (s.setPc t p', o) :=
  keeps_update hc (.of_eq rfl rfl rfl) rfl hp hr ho

theorem keeps_finish {a v q} {s : St} (hc : Core a v s) (t : Tid) (marks : List Addr) (err : Bool) :
    Keeps a v q s (finish s t marks err) :=
  keeps_update hc (.of_eq rfl rfl rfl) rfl trivial nofun trivial

theorem keeps_stepThread {a v q} {s : St} (hc : Core a v s) (t : Tid) (ok : Bool) (pick : Nat) :
    Keeps a v q s (stepThread false s t ok pick) := by
  have hp := hc.pcs t
  unfold stepThread
  generalize hpc : s.pc t = p at hp
  split
  · exact keeps_refl hc
  · refine keeps_setPc hc (by split <;> trivial) (fun ht => ⟨fun _ => ?_, fun hR h => ?_⟩) trivial
    · rw [hpc]; split at ht <;> exact ht
    · split at h
      · cases h
      · cases h; exact Or.resolve_right hR (fun h' => ‹¬ _› h'.1)
  · split
    · rename_i x hx
      exact keeps_setPc hc trivial nofun fun hb _ _ => congrArg some (hc.filesGood x (hb ▸ hx))
    · rename_i hx
      refine keeps_setPc hc trivial (fun ht => ⟨fun _ => by rw [hpc]; exact ht, fun hR h => ?_⟩) trivial
      cases h; exact Or.resolve_right hR (fun h' => nomatch hx.symm.trans h'.2)
  · rename_i b tag
    exact keeps_setPc hc trivial nofun fun hb htag hrd => hb ▸ hrd t (hb ▸ htag ▸ hpc)
  · rename_i b x
    refine keeps_update hc ⟨?_, Or.inl rfl, Or.inl rfl⟩ rfl (fun hb => ⟨hp hb, Or.inl ?_⟩) nofun trivial
    · exact (upd_eq_or s.files b (some x) a).imp_right fun ⟨hb, e⟩ => Or.inl (e.trans (congrArg some (hp hb)))
    · subst hb; exact (upd_same _ _ _).trans (congrArg some (hp rfl))
  · rename_i b x
    refine keeps_update hc ⟨Or.inl rfl, ?_, Or.inl rfl⟩ rfl trivial nofun fun hb hx _ => ?_
    · exact (upd_eq_or s.ctr b true a).imp_right fun ⟨_, e⟩ => Or.inl e
    · subst hb
      exact (hp rfl).2.elim (fun hf => Or.inr ⟨upd_same _ _ _, hf⟩) Or.inl
  · rename_i b x
    split
    · refine keeps_update hc ⟨Or.inl rfl, Or.inl rfl, ?_⟩ rfl trivial nofun fun hb hx _ => Or.inl ?_
      · exact (upd_eq_or s.main b (some x) a).imp_right fun ⟨hb, e⟩ => e.trans (congrArg some (hp hb))
      · subst hb; exact (upd_same _ _ _).trans (congrArg some hx)
    · exact keeps_setPc hc trivial nofun fun _ _ h => nomatch h
  · rename_i b rest got marks single
    split
    · rename_i x hx
      refine keeps_setPc hc (fun y hy => ?_) nofun trivial
      rcases List.mem_append.mp hy with h | h
      · exact hp y h
      · cases List.mem_singleton.mp h; exact hc.filesGood _ hx
    · exact keeps_setPc hc hp nofun trivial
  · rename_i got marks single
    split
    · exact keeps_finish hc t marks false
    · exact keeps_setPc hc hp nofun trivial
  · rename_i got marks
    split
    · have hb : bufOK a v got := hp
      refine keeps_update hc ⟨Or.inl rfl, Or.inl rfl, ?_⟩ rfl ⟨hb, rfl, ?_⟩ nofun trivial
      · exact (putAll_cases s.main got a).imp And.left fun ⟨x, hx, e⟩ => e.trans (congrArg some (hb x hx))
      · rintro ⟨x, hx⟩
        rcases putAll_cases s.main got a with ⟨_, hno⟩ | ⟨y, hy, e⟩
        · exact absurd hx (hno x)
        · exact e.trans (congrArg some (hb y hy))
    · exact keeps_finish hc t marks true
  · rename_i todo pend marks
    obtain ⟨hb, hpend, hmain⟩ := hp
    split
    · split
      · exact keeps_finish hc t marks false
      · exact keeps_setPc hc (hpend ▸ fun _ h => nomatch h) nofun trivial
    · rename_i p hget
      have hmem : p ∈ todo := List.mem_of_getElem? hget
      have hrest : ∀ x, (a, x) ∈ todo.eraseIdx (pick % todo.length) → s.main a = some v :=
        fun x hx => hmain ⟨x, List.mem_of_mem_eraseIdx hx⟩
      split
      · refine keeps_update hc ⟨?_, Or.inl rfl, Or.inl rfl⟩ rfl ⟨bufOK_eraseIdx hb _, hpend, ?_⟩ nofun trivial
        · exact (upd_eq_or s.files p.1 none a).imp_right fun ⟨hpa, e⟩ => Or.inr ⟨e, hmain ⟨p.2, hpa ▸ hmem⟩⟩
        · rintro (hpa | ⟨x, hx⟩)
          · exact hmain ⟨p.2, hpa ▸ hmem⟩
          · exact hrest x hx
      · exact keeps_setPc hc ⟨bufOK_eraseIdx hb _, hpend, fun ⟨x, hx⟩ => hrest x hx⟩ nofun trivial
  · rename_i b todo pend marks
    refine keeps_update hc ⟨Or.inl rfl, ?_, Or.inl rfl⟩ rfl ⟨hp.1, hp.2.1, fun hx => hp.2.2 (Or.inr hx)⟩ nofun trivial
    exact (upd_eq_or s.ctr b false a).imp_right fun ⟨hb, _⟩ => Or.inr (hp.2.2 (Or.inl hb))
  · rename_i b
    have hba : b ≠ a := hp
    split
    · exact keeps_update hc ⟨Or.inl (upd_other _ _ hba.symm), Or.inl rfl, Or.inl rfl⟩ rfl hba nofun trivial
    · exact keeps_setPc hc hba nofun trivial
  · rename_i b
    have hba : b ≠ a := hp
    exact keeps_update hc ⟨Or.inl rfl, Or.inl (upd_other _ _ hba.symm), Or.inl rfl⟩ rfl hba nofun trivial
  · rename_i b
    have hba : b ≠ a := hp
    exact keeps_update hc ⟨Or.inl rfl, Or.inl rfl, Or.inl (upd_other _ _ hba.symm)⟩ rfl trivial nofun trivial

theorem start_cases {P : St × Obs → Prop} {s : St} {t : Tid} (s' : St) (hs : P (s, .none)) (h : P (s', .none)) :
    P (if s.pc t = .idle then (s', .none) else (s, .none)) := by
  split
  · exact h
  · exact hs

theorem keeps_step {a v} {s : St} (hc : Core a v s) {e : Ev} (he : EvOK a v e) :
    Keeps a v (NotTaggedRead a e) s (step false s e) := by
  cases e with
  | read t b tag =>
    refine start_cases _ (keeps_refl hc) (keeps_setPc hc trivial (fun ht => ⟨fun hq => ?_, fun _ h => nomatch h⟩) trivial)
    exact absurd (by simpa [isTagged] using ht) hq
  | write t b x via =>
    have he : b = a → x = v := he
    exact start_cases _ (keeps_refl hc) (keeps_setPc hc (by split <;> exact he) (fun h => by split at h <;> cases h) trivial)
  | flush t as mark => exact start_cases _ (keeps_refl hc) (keeps_update hc (.of_eq rfl rfl rfl) rfl (fun _ h => nomatch h) nofun trivial)
  | delete t b => exact start_cases _ (keeps_refl hc) (keeps_setPc hc he nofun trivial)
  | step t ok pick => exact keeps_stepThread hc t ok pick

theorem noTagged_rdOK {a v} {s : St} (h : NoTagged a s) : RdOK a v s := by
  intro t ht
  have := h t
  rw [ht] at this
  simp [isTagged] at this

theorem safe_step {a v} {s : St} (hs : Safe a v s) {e : Ev} (he : EvOK a v e) :
    Safe a v (step false s e).1 ∧ ∀ t r, (step false s e).2 = .readDone t a true r → r = some v := by
  have h := keeps_step hs.core he
  refine ⟨⟨h.core, h.mono.readable hs.readable, h.rd hs.readable hs.rd⟩, fun t r ho => ?_⟩
  have := h.obs
  rw [ho] at this
  exact this rfl rfl hs.rd

theorem core_init (a : Addr) (v : Data) : Core a v init := ⟨nofun, nofun, fun _ => trivial⟩

theorem noTagged_init (a : Addr) : NoTagged a init := fun _ => rfl

end NeoFS.WCFlush
