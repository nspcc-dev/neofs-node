import NeoFS.Lemmas.LexOrder
import Mathlib.Tactic.Ring
/-! For equal-length digit lists of a positional notation, lexicographic order is numeric order
(`lexCmp_eq_ordNat_ofDigits`): used for key bytes (base 256) and decimal strings (base 10). -/
namespace NeoFS.Int256

theorem ordNat_eq_compare (a b : Nat) : ordNat a b = compare a b := (Nat.compare_eq_ite_lt a b).symm

theorem ordNat_eq_lt {a b : Nat} : ordNat a b = .lt ↔ a < b := by
  rw [ordNat_eq_compare]; exact Nat.compare_eq_lt

theorem ordNat_of_lt {a b : Nat} (h : a < b) : ordNat a b = .lt := ordNat_eq_lt.2 h

theorem ordNat_of_gt {a b : Nat} (h : b < a) : ordNat a b = .gt := by
  rw [ordNat_eq_compare]; exact Nat.compare_eq_gt.2 h

theorem ordNat_of_eq {a b : Nat} (h : a = b) : ordNat a b = .eq := by
  rw [ordNat_eq_compare]; exact Nat.compare_eq_eq.2 h

theorem ordNat_swap (a b : Nat) : (ordNat a b).swap = ordNat b a := by
  rw [ordNat_eq_compare, ordNat_eq_compare, Nat.compare_swap]

/-- most significant digit first (Mathlib's `Nat.ofDigits`: least significant first) -/
def ofDigits (B : Nat) (l : List Nat) : Nat := l.foldl (fun acc d => acc * B + d) 0

theorem fromBE_eq_ofDigits (l : List Nat) : fromBE l = ofDigits 256 l := rfl

theorem foldl_ofDigits_acc (B : Nat) (l : List Nat) (acc : Nat) :
    l.foldl (fun a d => a * B + d) acc = acc * B ^ l.length + ofDigits B l := by
  unfold ofDigits
  induction l generalizing acc with
  | nil => simp
  | cons d r ih =>
    simp only [List.foldl_cons, List.length_cons]
    rw [ih (acc * B + d), ih (0 * B + d)]
    ring

theorem ofDigits_cons (B d : Nat) (l : List Nat) : ofDigits B (d :: l) = d * B ^ l.length + ofDigits B l := by
  rw [ofDigits, List.foldl_cons, foldl_ofDigits_acc, Nat.zero_mul, Nat.zero_add]

theorem mul_add_lt_mul {m p x y : Nat} (hp : p < m) (h : x < y) : x * m + p < y * m :=
  calc x * m + p < x * m + m := Nat.add_lt_add_left hp _
    _ = (x + 1) * m := (Nat.succ_mul x m).symm
    _ ≤ y * m := Nat.mul_le_mul_right m h

theorem ofDigits_lt {B : Nat} {l : List Nat} (h : ∀ d ∈ l, d < B) : ofDigits B l < B ^ l.length := by
  induction l with
  | nil => exact Nat.one_pos
  | cons d r ih =>
    obtain ⟨hd, hr⟩ := List.forall_mem_cons.1 h
    rw [ofDigits_cons, List.length_cons, Nat.pow_succ, Nat.mul_comm _ B]
    exact mul_add_lt_mul (ih hr) hd

theorem ordNat_mul_add {m p q : Nat} (x y : Nat) (hp : p < m) (hq : q < m) :
    ordNat (x * m + p) (y * m + q) = (ordNat x y).then (ordNat p q) := by
  rcases Nat.lt_trichotomy x y with h | rfl | h
  · rw [ordNat_of_lt h, ordNat_of_lt (Nat.lt_of_lt_of_le (mul_add_lt_mul hp h) (Nat.le_add_right ..))]; rfl
  · rw [ordNat_of_eq rfl]
    unfold ordNat
    simp only [Nat.add_lt_add_iff_left]; rfl
  · rw [ordNat_of_gt h, ordNat_of_gt (Nat.lt_of_lt_of_le (mul_add_lt_mul hq h) (Nat.le_add_right ..))]; rfl

theorem lexCmp_eq_ordNat_ofDigits (B : Nat) (l1 l2 : List Nat) (hl : l1.length = l2.length)
    (h1 : ∀ d ∈ l1, d < B) (h2 : ∀ d ∈ l2, d < B) :
    lexCmp l1 l2 = ordNat (ofDigits B l1) (ofDigits B l2) := by
  induction l1 generalizing l2 with
  | nil =>
    cases l2 with
    | nil => rfl
    | cons y ys => simp at hl
  | cons x xs ih =>
    cases l2 with
    | nil => simp at hl
    | cons y ys =>
      have hlen : xs.length = ys.length := by simpa using hl
      obtain ⟨_, h1'⟩ := List.forall_mem_cons.1 h1
      obtain ⟨_, h2'⟩ := List.forall_mem_cons.1 h2
      rw [lexCmp_cons, ← ordNat_eq_compare, ofDigits_cons, ofDigits_cons, hlen,
        ordNat_mul_add x y (hlen ▸ ofDigits_lt h1') (ofDigits_lt h2'), ih ys hlen h1' h2']

theorem beBytes_length (k n : Nat) : (beBytes k n).length = k := by
  induction k generalizing n with
  | zero => rfl
  | succ k ih => simp [beBytes, ih]

theorem beBytes_lt (k n : Nat) : ∀ x ∈ beBytes k n, x < 256 := by
  induction k generalizing n with
  | zero => intro x h; simp [beBytes] at h
  | succ k ih =>
    intro x h
    simp only [beBytes, List.mem_cons] at h
    rcases h with rfl | h
    · exact Nat.mod_lt _ (by decide)
    · exact ih _ x h

theorem fromBE_beBytes (k n : Nat) (h : n < 256 ^ k) : fromBE (beBytes k n) = n := by
  rw [fromBE_eq_ofDigits]
  induction k generalizing n with
  | zero => simp at h; subst h; rfl
  | succ k ih =>
    have hm : 0 < 256 ^ k := Nat.pow_pos (by decide)
    have hq : n / 256 ^ k < 256 := Nat.div_lt_of_lt_mul (by rwa [Nat.pow_succ] at h)
    rw [beBytes, ofDigits_cons, beBytes_length, ih _ (Nat.mod_lt _ hm), Nat.mod_eq_of_lt hq]
    exact Nat.div_add_mod' n (256 ^ k)

theorem lexCmp_beBytes (k a b : Nat) (ha : a < 256 ^ k) (hb : b < 256 ^ k) :
    lexCmp (beBytes k a) (beBytes k b) = ordNat a b := by
  rw [lexCmp_eq_ordNat_ofDigits 256 _ _ (by rw [beBytes_length, beBytes_length]) (beBytes_lt k a) (beBytes_lt k b),
    ← fromBE_eq_ofDigits, ← fromBE_eq_ofDigits, fromBE_beBytes k a ha, fromBE_beBytes k b hb]

/-! ### shifted and complemented bytes -/

theorem ordNat_add_right (x y n : Nat) : ordNat (x + n) (y + n) = ordNat x y := by
  unfold ordNat
  simp only [Nat.add_lt_add_iff_right]

theorem lexCmp_map_add (n : Nat) : ∀ l1 l2 : List Nat, lexCmp (l1.map (· + n)) (l2.map (· + n)) = lexCmp l1 l2
  | [], [] => rfl
  | [], _ :: _ => rfl
  | _ :: _, [] => rfl
  | x :: xs, y :: ys => by
    rw [List.map_cons, List.map_cons, lexCmp_cons, lexCmp_cons, ← ordNat_eq_compare, ← ordNat_eq_compare, ordNat_add_right, lexCmp_map_add n xs ys]


theorem compl_compl (b : Nat) (h : b < 256) : compl (compl b) = b := by
  unfold compl; omega

theorem map_compl_compl (l : List Nat) (h : ∀ x ∈ l, x < 256) : (l.map compl).map compl = l := by
  rw [List.map_map]
  exact (List.map_congr_left fun x hx => compl_compl x (h x hx)).trans (List.map_id l)

theorem compl_lt_compl {x y : Nat} (hx : x < 256) (hy : y < 256) : compl x < compl y ↔ y < x := by
  unfold compl; omega

theorem ordNat_compl {x y : Nat} (hx : x < 256) (hy : y < 256) : ordNat (compl x) (compl y) = ordNat y x := by
  unfold ordNat
  simp only [compl_lt_compl hx hy, compl_lt_compl hy hx]

theorem lexCmp_map_compl (l1 l2 : List Nat) (hl : l1.length = l2.length)
    (h1 : ∀ x ∈ l1, x < 256) (h2 : ∀ x ∈ l2, x < 256) :
    lexCmp (l1.map compl) (l2.map compl) = lexCmp l2 l1 := by
  induction l1 generalizing l2 with
  | nil =>
    cases l2 with
    | nil => rfl
    | cons y ys => simp at hl
  | cons x xs ih =>
    cases l2 with
    | nil => simp at hl
    | cons y ys =>
      obtain ⟨hx, h1'⟩ := List.forall_mem_cons.1 h1
      obtain ⟨hy, h2'⟩ := List.forall_mem_cons.1 h2
      rw [List.map_cons, List.map_cons, lexCmp_cons, lexCmp_cons, ← ordNat_eq_compare, ← ordNat_eq_compare, ordNat_compl hx hy,
        ih ys (by simpa using hl) h1' h2']

theorem mk_of_canonical {z : I256} (h : z.mag = 0 → z.neg = false) : mk z.neg z.mag = z := by
  obtain ⟨n, m⟩ := z
  cases n
  · rfl
  · have : m ≠ 0 := fun h0 => Bool.noConfusion (h h0)
    simp [mk, this]

theorem mag_ne_zero_of_neg {z : I256} (h : z.mag = 0 → z.neg = false) (hn : z.neg = true) : z.mag ≠ 0 :=
  fun h0 => Bool.noConfusion ((h h0).symm.trans hn)

/-! ### sign and magnitude -/

theorem ordInt_natCast (a b : Nat) : ordInt (a : Int) (b : Int) = ordNat a b := by
  unfold ordInt ordNat
  simp only [Int.ofNat_lt]

theorem ordInt_neg_natCast (a b : Nat) : ordInt (-(a : Int)) (-(b : Int)) = ordNat b a := by
  unfold ordInt ordNat
  simp only [Int.neg_lt_neg_iff, Int.ofNat_lt]

theorem ordInt_neg_natCast_natCast {a : Nat} (b : Nat) (ha : a ≠ 0) : ordInt (-(a : Int)) (b : Int) = .lt :=
  if_pos (by omega)

theorem ordInt_natCast_neg_natCast (a : Nat) {b : Nat} (hb : b ≠ 0) : ordInt (a : Int) (-(b : Int)) = .gt := by
  unfold ordInt
  rw [if_neg (by omega), if_pos (by omega)]

theorem cmp_eq_ordInt (a b : I256) (ha : a.mag = 0 → a.neg = false) (hb : b.mag = 0 → b.neg = false) :
    cmp a b = ordInt a.toInt b.toInt := by
  unfold cmp I256.toInt
  cases hna : a.neg <;> cases hnb : b.neg
  · simp [ordInt_natCast]
  · simp [ordInt_natCast_neg_natCast a.mag (mag_ne_zero_of_neg hb hnb)]
  · simp [ordInt_neg_natCast_natCast b.mag (mag_ne_zero_of_neg ha hna)]
  · simp [ordNat_swap, ordInt_neg_natCast]

end NeoFS.Int256
