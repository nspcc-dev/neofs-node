import NeoFS.Model.SigChain
import NeoFS.Lemmas.GuardChain
namespace NeoFS.SigChain

/-- what one iteration of the loop refuses layer `v` (origins `vo`, current meta chain `ms`) with, if anything -/
def layerFault (S : Scheme) (n3on : Bool) (E : Enc) (body : Bytes) (chk : Bool) (ms : List MLayer) (v : VLayer) (vo : List VLayer) : Option Cause :=
  (sigStep S n3on v.metaSig (E.encM ms) .missingMetaSig .invalidMetaSig).or <|
  (if chk then sigStep S n3on v.originSig (E.encV vo) .missingOriginSig .invalidOriginSig else none).or <|
  if !chk || vo.isEmpty then sigStep S n3on v.bodySig body .missingBodySig .invalidBodySig
  else if v.bodySig.isSome then some .nonOriginBodySig else none

variable {S : Scheme} {n3on : Bool} {E : Enc}

theorem checkSig_eq_ok_iff {msg : Bytes} {s : Sig} :
    checkSig S n3on msg s = .ok ↔
      if (s.scheme == 3 && n3on) = true then S.n3 msg s.sign s.key = true
      else s.key.isEmpty = false ∧ 0 ≤ s.scheme ∧ S.supported s.scheme = true ∧ S.decodable s.scheme s.key = true ∧
        S.verify s.scheme s.key msg s.sign = true := by
  unfold checkSig
  by_cases h3 : (s.scheme == 3 && n3on) = true
  · rw [if_pos h3, if_pos h3, ite_eq_left_iff]
    simp
  · rw [if_neg h3, if_neg h3, ite_eq_iff_of_ne (by decide), ite_eq_iff_of_ne (by decide), ite_not_eq_iff_of_ne (by decide),
      ite_not_eq_iff_of_ne (by decide), ite_eq_left_iff]
    simp

theorem walk_cons (body : Bytes) (chk : Bool) (i : Nat) (ms : List MLayer) (v : VLayer) (vo : List VLayer) :
    walk S n3on E body chk i ms (v :: vo) =
      match layerFault S n3on E body chk ms v vo with
      | some c => .layer i c
      | none =>
        if !chk || vo.isEmpty then .ok
        else match ms with
          | [] => .nilDeref
          | _ :: mo => walk S n3on E body chk (i + 1) mo vo := by
  conv => lhs; unfold walk
  rw [layerFault]
  cases sigStep S n3on v.metaSig (E.encM ms) .missingMetaSig .invalidMetaSig with
  | some c => rfl
  | none =>
    cases (if chk then sigStep S n3on v.originSig (E.encV vo) .missingOriginSig .invalidOriginSig else none) with
    | some c => rfl
    | none =>
      by_cases hl : (!chk || vo.isEmpty) = true
      · simp only [Option.none_or, if_pos hl]
        cases sigStep S n3on v.bodySig body .missingBodySig .invalidBodySig <;> rfl
      · simp only [Option.none_or, if_neg hl]
        cases v.bodySig.isSome <;> rfl

theorem origins_cons {α : Type} (a : α) (l : List α) : origins (a :: l) = l.length := rfl

theorem origins_eq_cons_cons {α β : Type} {ms : List α} {v v' : β} {vo : List β}
    (h : origins ms = origins (v :: v' :: vo)) : ∃ m mo, ms = m :: mo ∧ origins mo = origins (v' :: vo) := by
  rw [origins_cons, List.length_cons] at h
  cases ms with
  | nil => cases h
  | cons m mo =>
    rw [origins_cons] at h
    exact ⟨m, mo, rfl, by rw [origins_cons, origins, h]; rfl⟩

/-- The depth check protects the loop: no request makes it read the origin of a nil meta header. -/
theorem walk_no_nilDeref (body : Bytes) (chk : Bool) : ∀ (vs : List VLayer) (i : Nat) (ms : List MLayer),
    (chk = true → origins ms = origins vs) →
    walk S n3on E body chk i ms vs ≠ .nilDeref := by
  intro vs
  induction vs with
  | nil => intro i ms _; simp [walk]
  | cons v vo ih =>
    intro i ms hlen
    rw [walk_cons]
    cases layerFault S n3on E body chk ms v vo with
    | some c => nofun
    | none =>
      cases chk with
      | false => nofun
      | true =>
        cases vo with
        | nil => nofun
        | cons v' vo' =>
          obtain ⟨m, mo, rfl, hlen'⟩ := origins_eq_cons_cons (hlen rfl)
          exact ih (i + 1) mo fun _ => hlen'

theorem forall_lt_cons {α : Type} (v : α) (vo : List α) (P : (j : Nat) → α → Prop) :
    (∀ j (h : j < (v :: vo).length), P j (v :: vo)[j]) ↔
      P 0 v ∧ ∀ j (h : j < vo.length), P (j + 1) vo[j] := by
  constructor
  · intro h
    refine ⟨h 0 (by simp), fun j hj => ?_⟩
    have := h (j + 1) (by simp; omega)
    simpa using this
  · rintro ⟨h0, hs⟩ j hj
    cases j with
    | zero => simpa using h0
    | succ k => simpa using hs k (by simpa using hj)

theorem authorOfSig_key {o : Option Sig} {s : Sig} (h : authorOfSig S o = .key s) : o = some s := by
  cases o with
  | none => cases h
  | some s' =>
    rw [authorOfSig] at h
    by_cases h1 : (s'.scheme == 0 || s'.scheme == 1 || s'.scheme == 2) = true
    · rw [if_pos h1] at h
      by_cases h2 : S.decodable s'.scheme s'.key = true
      · rw [if_pos h2] at h; cases h; rfl
      · rw [if_neg h2] at h; cases h
    · rw [if_neg h1] at h
      by_cases h2 : (s'.scheme == 3) = true
      · rw [if_pos h2] at h; cases h; rfl
      · rw [if_neg h2] at h; cases h

/-- `GetRequestAuthor` dereferences the decoded key on the ECDSA schemes only, where `checkSig` has decoded it -/
theorem authorOfSig_ne_nilKey {msg : Bytes} {s : Sig} (h : checkSig S n3on msg s = .ok) :
    authorOfSig S (some s) ≠ .nilKey := by
  rw [authorOfSig]
  by_cases h1 : (s.scheme == 0 || s.scheme == 1 || s.scheme == 2) = true
  · have h3 : ¬ (s.scheme == 3 && n3on) = true := by
      simp only [Bool.or_eq_true, beq_iff_eq] at h1
      simp only [Bool.and_eq_true, beq_iff_eq]
      omega
    rw [checkSig_eq_ok_iff, if_neg h3] at h
    rw [if_pos h1, if_pos h.2.2.2.1]
    nofun
  · rw [if_neg h1]
    by_cases h2 : (s.scheme == 3) = true
    · rw [if_pos h2]; nofun
    · rw [if_neg h2]; nofun

end NeoFS.SigChain
