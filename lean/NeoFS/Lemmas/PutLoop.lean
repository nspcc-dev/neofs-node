import NeoFS.Lemmas.Put
import NeoFS.Lemmas.PutEC
/-! The rule loops of `iterateNodesForObject` and `saveObject` (for `Props/C25.lean`). -/
namespace NeoFS.Put

/-! ### iterateNodesForObject -/

theorem iterRules_sound (f : Node → Bool) (sched : List Node → List Node) (hs : ∀ l, (sched l).Perm l) :
    ∀ (pairs : List (Nat × List Node)) (g g' : G), Inv f g → (∀ x ∈ pairs, x.2.Nodup) →
      iterRules f sched pairs g = (g', none) →
      Inv f g' ∧ (∀ n ∈ g.acks, n ∈ g'.acks) ∧ ∀ x ∈ pairs, x.1 ≤ ackCount g'.acks x.2
  | [], g, g', hi, _, h => by
    obtain ⟨rfl, _⟩ := Prod.mk.inj h
    exact ⟨hi, fun _ h => h, nofun⟩
  | (c, l) :: more, g, g', hi, hnd, h => by
    unfold iterRules at h
    generalize hr : repRule f sched c c l g = r at h
    obtain ⟨g1, st, failed⟩ := r
    dsimp only at h
    cases failed with
    | true => rw [if_pos rfl] at h; cases h
    | false =>
      rw [if_neg (by simp)] at h
      obtain ⟨r1, r2, _, r4, r5, _⟩ := repRule_sound f sched hs c c l g g1 st false (hnd (c, l) List.mem_cons_self) hi hr
      obtain ⟨q1, q2, q3⟩ := iterRules_sound f sched hs more g1 g' r1 (fun x hx => hnd x (List.mem_cons_of_mem _ hx)) h
      refine ⟨q1, fun n hn => q2 n (r4 n hn), fun x hx => ?_⟩
      rcases List.mem_cons.mp hx with rfl | hx
      · exact Nat.le_trans ((r5 rfl).elim id id) (Nat.le_trans r2 (ackCount_mono q2 l))
      · exact q3 x hx

theorem completion_ne_ok (b : Bool) : completion b ≠ .ok := by
  cases b <;> nofun

theorem iterRules_ne_ok (f : Node → Bool) (sched : List Node → List Node) :
    ∀ (pairs : List (Nat × List Node)) (g : G), (iterRules f sched pairs g).2 ≠ some .ok
  | [], _ => nofun
  | (c, l) :: more, g => by
    unfold iterRules
    generalize repRule f sched c c l g = r
    obtain ⟨g1, st, failed⟩ := r
    cases failed with
    | true => exact fun h => completion_ne_ok _ (Option.some.inj h)
    | false => exact iterRules_ne_ok f sched more g1

theorem broadcastList_inv (f : Node → Bool) : ∀ (l : List Node) (g : G), Inv f g →
    Inv f (broadcastList f l g) ∧ ∀ n ∈ g.acks, n ∈ (broadcastList f l g).acks := by
  intro l
  induction l with
  | nil => intro g hi; exact ⟨hi, fun _ h => h⟩
  | cons n ns ih =>
    intro g hi
    unfold broadcastList
    cases hl : List.lookup n g.results with
    | some b => exact ih g hi
    | none =>
      obtain ⟨q1, q2⟩ := ih _ (hi.record n false (n :: g.asked) nofun)
      exact ⟨q1, fun m hm => q2 m (mem_ite_cons_iff.mpr (Or.inr hm))⟩

theorem broadcastAll_inv (f : Node → Bool) : ∀ (ls : List (List Node)) (g : G), Inv f g →
    Inv f (broadcastAll f ls g) ∧ ∀ n ∈ g.acks, n ∈ (broadcastAll f ls g).acks := by
  intro ls
  induction ls with
  | nil => intro g hi; exact ⟨hi, fun _ h => h⟩
  | cons l ls ih =>
    intro g hi
    unfold broadcastAll
    obtain ⟨a1, a2⟩ := broadcastList_inv f l g hi
    obtain ⟨b1, b2⟩ := ih _ a1
    exact ⟨b1, fun n hn => b2 n (a2 n hn)⟩

theorem iterateNodes_sound (f : Node → Bool) (sched : List Node → List Node) (hs : ∀ l, (sched l).Perm l)
    (counts : List Nat) (lists : List (List Node)) (bc : Bool) (g g' : G) (hi : Inv f g)
    (hnd : ∀ x ∈ counts.zip lists, x.2.Nodup) (h : iterateNodes f sched counts lists bc g = (g', .ok)) :
    Inv f g' ∧ ∀ x ∈ counts.zip lists, x.1 ≤ ackCount g'.acks x.2 := by
  unfold iterateNodes at h
  generalize hr : iterRules f sched (counts.zip lists) g = r at h
  obtain ⟨g1, o⟩ := r
  cases o with
  | some e =>
    obtain ⟨rfl, rfl⟩ := Prod.mk.inj h
    exact absurd (congrArg Prod.snd hr) (iterRules_ne_ok f sched _ g)
  | none =>
    obtain ⟨q1, _, q3⟩ := iterRules_sound f sched hs _ g g1 hi hnd hr
    cases bc with
    | false =>
      obtain ⟨rfl, _⟩ := Prod.mk.inj h
      exact ⟨q1, q3⟩
    | true =>
      obtain ⟨rfl, _⟩ := Prod.mk.inj h
      obtain ⟨b1, b2⟩ := broadcastAll_inv f lists g1 q1
      exact ⟨b1, fun x hx => Nat.le_trans (q3 x hx) (ackCount_mono b2 _)⟩

/-! ### a ready EC part -/

theorem seqPart_sound (f : Node → Bool) (nodes : List Node) : ∀ (is : List Nat) (g g' : G),
    (∀ n ∈ g.acks, f n = true) → seqPart f nodes is g = (g', true) →
    (∀ n ∈ g'.acks, f n = true) ∧ ∃ i ∈ is, nodes.getD i 0 ∈ g'.acks
  | [], g, g', _, h => by cases h
  | i :: is, g, g', hg, h => by
    unfold seqPart at h
    dsimp only at h
    by_cases hb : f (nodes.getD i 0) = true
    · rw [if_pos hb, if_pos hb] at h
      obtain ⟨rfl, _⟩ := Prod.mk.inj h
      exact ⟨fun n hn => (List.mem_cons.mp hn).elim (fun e => e ▸ hb) (hg n), i, List.mem_cons_self, List.mem_cons_self⟩
    · rw [if_neg hb, if_neg hb] at h
      obtain ⟨a, j, hj, b⟩ := seqPart_sound f nodes is _ g' (by exact hg) h
      exact ⟨a, j, List.mem_cons_of_mem _ hj, b⟩

/-! ### the rule loop of saveObject -/

/-- the body of `for i := range ruleNum` in `saveObject`: `handleECRule` or the REP branch -/
def ruleStep (e : Env) (i : Nat) (todo : List Nat) (s : LS) : LS × Option (Option Res) :=
  if i ≥ e.rep.length then ecRuleStep e i todo s else repRuleStep e i todo s

theorem ruleStep_cases {P : LS × Option (Option Res) → Prop} (e : Env) (i : Nat) (todo : List Nat) (s : LS)
    (hec : e.rep.length ≤ i → P (ecRuleStep e i todo s)) (hrep : i < e.rep.length → P (repRuleStep e i todo s)) :
    P (ruleStep e i todo s) := by
  unfold ruleStep
  by_cases hge : i ≥ e.rep.length
  · rw [if_pos hge]; exact hec hge
  · rw [if_neg hge]; exact hrep (Nat.lt_of_not_le hge)

theorem ruleLoop_cons {e : Env} {i : Nat} {todo : List Nat} {s s' : LS} {r : Option Res}
    (h : ruleLoop e (i :: todo) s = (s', r)) :
    (∃ s1, ruleStep e i todo s = (s1, none) ∧ ruleLoop e todo s1 = (s', r)) ∨ ruleStep e i todo s = (s', some r) := by
  change (match (ruleStep e i todo s).2 with
    | none => ruleLoop e todo (ruleStep e i todo s).1
    | some out => ((ruleStep e i todo s).1, out)) = (s', r) at h
  generalize ruleStep e i todo s = step at h ⊢
  obtain ⟨s1, o⟩ := step
  cases o with
  | none => exact Or.inl ⟨s1, rfl, h⟩
  | some out =>
    obtain ⟨rfl, rfl⟩ := Prod.mk.inj h
    exact Or.inr rfl

theorem ruleStep_ne_ok (e : Env) (i : Nat) (todo : List Nat) (s : LS) :
    (ruleStep e i todo s).2 ≠ some (some .ok) := by
  -- every leaf of either step is `none`, `some none`, `err` or a `completion`
  unfold ruleStep ecRuleStep repRuleStep
  simp only [apply_ite Prod.snd, apply_ite (· ≠ some (some Res.ok)), ne_eq, reduceCtorEq, not_false_eq_true,
    Option.some.injEq, completion_ne_ok, ite_self]

theorem ruleLoop_ne_ok (e : Env) : ∀ (todo : List Nat) (s s' : LS), ruleLoop e todo s ≠ (s', some .ok)
  | [], s, s', h => by simp [ruleLoop] at h
  | i :: todo, s, s', h => by
    rcases ruleLoop_cons h with ⟨s1, _, h1⟩ | h1
    · exact ruleLoop_ne_ok e todo s1 s' h1
    · exact ruleStep_ne_ok e i todo s (congrArg Prod.snd h1)

/-- rule `i` has in the log `g` what the policy asks of it -/
def RuleMet (e : Env) (g : G) (i : Nat) : Prop :=
  if i < e.rep.length then e.rep.getD i 0 ≤ ackCount g.acks (e.lists.getD i [])
  else ecDisabled e.ecLimits (i - e.rep.length) = false →
    ECPlaced e.ans g.ecAcks (i - e.rep.length)
      ((e.ec.getD (i - e.rep.length) (0, 0)).1 + (e.ec.getD (i - e.rep.length) (0, 0)).2) (e.lists.getD i [])

theorem ruleMet_rep {e : Env} {g : G} {i : Nat} (h : i < e.rep.length) :
    RuleMet e g i ↔ e.rep.getD i 0 ≤ ackCount g.acks (e.lists.getD i []) := by
  unfold RuleMet; rw [if_pos h]

theorem ruleMet_ec {e : Env} {g : G} {i : Nat} (h : e.rep.length ≤ i) :
    RuleMet e g i ↔ (ecDisabled e.ecLimits (i - e.rep.length) = false →
      ECPlaced e.ans g.ecAcks (i - e.rep.length)
        ((e.ec.getD (i - e.rep.length) (0, 0)).1 + (e.ec.getD (i - e.rep.length) (0, 0)).2) (e.lists.getD i [])) := by
  unfold RuleMet; rw [if_neg (by omega)]

theorem RuleMet.mono {e : Env} {g g' : G} {i : Nat} (h : RuleMet e g i) (ha : g.acks ⊆ g'.acks)
    (he : g.ecAcks ⊆ g'.ecAcks) : RuleMet e g' i := by
  by_cases hlt : i < e.rep.length
  · rw [ruleMet_rep hlt] at h ⊢
    exact Nat.le_trans h (ackCount_mono ha _)
  · rw [ruleMet_ec (by omega)] at h ⊢
    exact fun hen => (h hen).mono he

/-- an uncapped step that is no error goes on and meets rule `i` -/
def StepMet (e : Env) (i : Nat) (s : LS) (x : LS × Option (Option Res)) : Prop :=
  (∀ r, x.2 ≠ some (some r)) →
    x.2 = none ∧ Inv (e.ans .main) x.1.g ∧ s.g.acks ⊆ x.1.g.acks ∧ s.g.ecAcks ⊆ x.1.g.ecAcks ∧ RuleMet e x.1.g i

theorem ecRuleStep_uncapped (e : Env) (hM : e.maxReplicas = 0) (i : Nat) (hge : e.rep.length ≤ i) (todo : List Nat)
    (s : LS) (hi : Inv (e.ans .main) s.g) (hnd : (e.lists.getD i []).Nodup) :
    StepMet e i s (ecRuleStep e i todo s) := by
  generalize h : ecRuleStep e i todo s = x
  obtain ⟨s', o⟩ := x
  intro ho
  unfold ecRuleStep at h
  dsimp only at h ho ⊢
  rw [ruleMet_ec hge]
  by_cases hd : ecDisabled e.ecLimits (i - e.rep.length) = true
  · rw [if_pos hd] at h
    obtain ⟨rfl, rfl⟩ := Prod.mk.inj h
    exact ⟨rfl, hi, fun _ h => h, fun _ h => h, fun hen => absurd hd (by simp [hen])⟩
  · rw [if_neg hd] at h
    generalize hr : applyEC _ _ _ _ _ = r at h
    obtain ⟨okAll, acks⟩ := r
    cases okAll with
    | false =>
      rw [if_pos (by rfl), if_pos hM] at h
      exact absurd (Prod.mk.inj h).2.symm (ho _)
    | true =>
      rw [if_neg (by simp), if_neg (by omega)] at h
      obtain ⟨rfl, rfl⟩ := Prod.mk.inj h
      refine ⟨rfl, hi.congr rfl rfl, fun _ h => h, fun x hx => List.mem_append_left _ hx, fun _ => ?_⟩
      exact ECPlaced.of_applyEC hnd hr fun x hx => List.mem_append_right _ (List.mem_map.mpr ⟨x, hx, rfl⟩)

theorem repRuleStep_uncapped (e : Env) (hM : e.maxReplicas = 0) (hs : ∀ l, (e.sched l).Perm l)
    (i : Nat) (hlt : i < e.rep.length) (todo : List Nat) (s : LS)
    (hi : Inv (e.ans .main) s.g) (hnd : (e.lists.getD i []).Nodup) :
    StepMet e i s (repRuleStep e i todo s) := by
  generalize h : repRuleStep e i todo s = x
  obtain ⟨s', o⟩ := x
  intro ho
  unfold repRuleStep at h
  dsimp only at h ho ⊢
  rw [ruleMet_rep hlt]
  have hM' : ¬ (e.maxReplicas > 0) := by omega
  by_cases h0 : e.rep.getD i 0 = 0
  · rw [if_pos h0] at h
    obtain ⟨rfl, rfl⟩ := Prod.mk.inj h
    exact ⟨rfl, hi, fun _ h => h, fun _ h => h, by omega⟩
  · rw [if_neg h0, if_neg hM', if_neg hM'] at h
    generalize hr : repRule _ _ _ _ _ _ = r at h
    obtain ⟨g1, st, failed⟩ := r
    obtain ⟨r1, r2, _, r4, r5, r6⟩ := repRule_sound _ _ hs _ _ _ _ g1 st failed hnd hi hr
    cases failed with
    | true =>
      rw [if_pos rfl, if_neg hM'] at h
      exact absurd (Prod.mk.inj h).2.symm (ho _)
    | false =>
      rw [if_neg (by simp), if_neg hM'] at h
      obtain ⟨rfl, rfl⟩ := Prod.mk.inj h
      have : e.rep.getD i 0 ≤ st := (r5 rfl).elim id id
      exact ⟨rfl, r1, r4, fun _ h => r6 ▸ h, Nat.le_trans this r2⟩

/-- without a cap there is no `break`: every rule of `todo` is visited and met -/
theorem ruleLoop_uncapped (e : Env) (hM : e.maxReplicas = 0) (hs : ∀ l, (e.sched l).Perm l) :
    ∀ (todo : List Nat) (s s' : LS), Inv (e.ans .main) s.g → (∀ i ∈ todo, (e.lists.getD i []).Nodup) →
      ruleLoop e todo s = (s', none) →
      Inv (e.ans .main) s'.g ∧ s.g.acks ⊆ s'.g.acks ∧ s.g.ecAcks ⊆ s'.g.ecAcks ∧ ∀ i ∈ todo, RuleMet e s'.g i
  | [], s, s', hi, _, h => by
    obtain ⟨rfl, _⟩ := Prod.mk.inj h
    exact ⟨hi, fun _ h => h, fun _ h => h, by simp⟩
  | i :: todo, s, s', hi, hnd, h => by
    have hnd0 := hnd i List.mem_cons_self
    have step : StepMet e i s (ruleStep e i todo s) := ruleStep_cases e i todo s
      (fun hge => ecRuleStep_uncapped e hM i hge todo s hi hnd0) (fun hlt => repRuleStep_uncapped e hM hs i hlt todo s hi hnd0)
    rcases ruleLoop_cons h with ⟨s1, h1, h2⟩ | h1
    · rw [h1] at step
      obtain ⟨_, a1, a2, a3, a4⟩ := step (by simp)
      obtain ⟨q1, q2, q3, q4⟩ := ruleLoop_uncapped e hM hs todo s1 s' a1 (fun j hj => hnd j (List.mem_cons_of_mem _ hj)) h2
      refine ⟨q1, a2.trans q2, a3.trans q3, fun j hj => ?_⟩
      rcases List.mem_cons.mp hj with rfl | hj
      · exact a4.mono q2 q3
      · exact q4 j hj
    · rw [h1] at step
      exact absurd (step (by simp)).1 (by simp)

theorem getD_nodup {α : Type} (lists : List (List α)) (h : ∀ l ∈ lists, l.Nodup) (i : Nat) : (lists.getD i []).Nodup := by
  rw [List.getD_eq_getElem?_getD]
  cases hi : lists[i]? with
  | none => simp
  | some l => simp only [Option.getD_some]; exact h l (List.mem_of_getElem? hi)

theorem effRep_length (r : Req) : (effRep r).length = r.rep.length := by
  unfold effRep; split_ifs <;> simp

theorem ruleOrderOf_uncapped (r : Req) (hM : maxRep r = 0) :
    ruleOrderOf r = List.range (r.rep.length + (effEc r).length) := by
  unfold ruleOrderOf maxRep at *
  cases hi : r.ini with
  | none => simp
  | some ini =>
    rw [hi] at hM
    simp only at hM
    simp [hM]

theorem saveObject_ok_ruleLoop {ans : Obj → Node → Bool} {sched : List Node → List Node} {picks : Nat → List Nat}
    {r : Req} {s : LS} (hreg : r.typ = 0) (hpart : r.ecPart = none) (h : saveObject ans sched picks r = (s, .ok)) :
    ruleLoop (envOf ans sched picks r) (ruleOrderOf r) { g := {}, left := maxRep r } = (s, none) := by
  unfold saveObject at h
  rw [if_neg (by simp [hreg]), hpart] at h
  dsimp only at h
  by_cases h1 : (!r.signer && decide (r.rep.length = 0)) = true
  · rw [if_pos h1] at h; simp at h
  rw [if_neg h1] at h
  split_ifs at h with h2
  · simp at h
  · generalize hl : ruleLoop _ _ _ = out at h ⊢
    obtain ⟨s1, o⟩ := out
    obtain ⟨rfl, ho⟩ := Prod.mk.inj h
    cases o with
    | none => rfl
    | some x =>
      obtain rfl : x = .ok := ho
      exact absurd hl (ruleLoop_ne_ok _ _ _ _)

end NeoFS.Put
