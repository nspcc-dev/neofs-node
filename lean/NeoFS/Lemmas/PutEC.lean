import NeoFS.Model.Put
import NeoFS.Lemmas.EC
/-! Invariant of the EC threads over `ecProgress` (for `Props/C25.lean`). -/
namespace NeoFS.Put

/-- `taken` holds `(node index, thread)`, `acks` holds `(thread, node index)` -/
structure ECInv (f : Nat → Nat → Bool) (nNodes : Nat) (s : ECSt) : Prop where
  tnodup : (s.taken.map Prod.fst).Nodup
  tlt : ∀ x ∈ s.taken, x.1 < nNodes
  acked : ∀ x ∈ s.acks, (x.2, x.1) ∈ s.taken ∧ f x.1 x.2 = true
  cur : ∀ (k : Nat) (t : Thr) (i : Nat), s.thr[k]? = some t → t.cur = some i → (i, k) ∈ s.taken
  fin : ∀ (k : Nat) (t : Thr), s.thr[k]? = some t → t.fin = some true → ∃ i, (k, i) ∈ s.acks
  todo : ∀ (k : Nat) (t : Thr), s.thr[k]? = some t → ∀ i ∈ t.todo, i < nNodes

theorem getElem?_set_cases {α : Type} (l : List α) (k k' : Nat) (t t' : α) (h : (l.set k t')[k']? = some t) :
    (k' = k ∧ t = t') ∨ (k' ≠ k ∧ l[k']? = some t) := by
  rw [List.getElem?_set] at h
  split_ifs at h with e1 e2
  · left; exact ⟨e1.symm, (Option.some.inj h).symm⟩
  · right; exact ⟨fun e => e1 e.symm, h⟩

theorem ECInv.update {f : Nat → Nat → Bool} {n : Nat} {s s' : ECSt} {k : Nat} {t t' : Thr}
    (h : ECInv f n s) (hk : s.thr[k]? = some t) (hthr : s'.thr = s.thr.set k t')
    (ht : s'.taken = s.taken ∨ ∃ i, s'.taken = (i, k) :: s.taken ∧ i ∉ s.taken.map Prod.fst ∧ i < n)
    (ha : s'.acks = s.acks ∨ ∃ i, s'.acks = (k, i) :: s.acks ∧ (i, k) ∈ s'.taken ∧ f k i = true)
    (hcur : ∀ i, t'.cur = some i → (i, k) ∈ s'.taken)
    (hfin : t'.fin = some true → ∃ i, (k, i) ∈ s'.acks)
    (htodo : ∀ i ∈ t'.todo, i ∈ t.todo) : ECInv f n s' := by
  have tsub : ∀ x ∈ s.taken, x ∈ s'.taken := by
    intro x hx
    rcases ht with e | ⟨i, e, _, _⟩ <;> rw [e]
    · exact hx
    · exact List.mem_cons_of_mem _ hx
  have asub : ∀ x ∈ s.acks, x ∈ s'.acks := by
    intro x hx
    rcases ha with e | ⟨i, e, _, _⟩ <;> rw [e]
    · exact hx
    · exact List.mem_cons_of_mem _ hx
  refine ⟨?_, ?_, ?_, ?_, ?_, ?_⟩
  · rcases ht with e | ⟨i, e, hi, _⟩ <;> rw [e]
    · exact h.tnodup
    · simp only [List.map_cons, List.nodup_cons]; exact ⟨hi, h.tnodup⟩
  · intro x hx
    rcases ht with e | ⟨i, e, _, hi⟩ <;> rw [e] at hx
    · exact h.tlt x hx
    · rcases List.mem_cons.mp hx with e | hx
      · subst e; exact hi
      · exact h.tlt x hx
  · intro x hx
    rcases ha with e | ⟨i, e, h1, h2⟩ <;> rw [e] at hx
    · obtain ⟨a, b⟩ := h.acked x hx; exact ⟨tsub _ a, b⟩
    · rcases List.mem_cons.mp hx with e | hx
      · subst e; exact ⟨h1, h2⟩
      · obtain ⟨a, b⟩ := h.acked x hx; exact ⟨tsub _ a, b⟩
  · intro k' t'' i hk' hc
    rw [hthr] at hk'
    rcases getElem?_set_cases _ _ _ _ _ hk' with ⟨rfl, rfl⟩ | ⟨_, hk'⟩
    · exact hcur i hc
    · exact tsub _ (h.cur k' t'' i hk' hc)
  · intro k' t'' hk' hf
    rw [hthr] at hk'
    rcases getElem?_set_cases _ _ _ _ _ hk' with ⟨rfl, rfl⟩ | ⟨_, hk'⟩
    · exact hfin hf
    · obtain ⟨i, hi⟩ := h.fin k' t'' hk' hf; exact ⟨i, asub _ hi⟩
  · intro k' t'' hk' i hi
    rw [hthr] at hk'
    rcases getElem?_set_cases _ _ _ _ _ hk' with ⟨rfl, rfl⟩ | ⟨_, hk'⟩
    · exact h.todo _ t hk i (htodo i hi)
    · exact h.todo k' t'' hk' i hi

/-- `ECInv` and the number of threads -/
def ECRunInv (f : Nat → Nat → Bool) (n len : Nat) (s : ECSt) : Prop := ECInv f n s ∧ s.thr.length = len

theorem ECRunInv.update {f : Nat → Nat → Bool} {n len : Nat} {s s' : ECSt} {k : Nat} {t t' : Thr}
    (h : ECRunInv f n len s) (hk : s.thr[k]? = some t) (hthr : s'.thr = s.thr.set k t')
    (ht : s'.taken = s.taken ∨ ∃ i, s'.taken = (i, k) :: s.taken ∧ i ∉ s.taken.map Prod.fst ∧ i < n)
    (ha : s'.acks = s.acks ∨ ∃ i, s'.acks = (k, i) :: s.acks ∧ (i, k) ∈ s'.taken ∧ f k i = true)
    (hcur : ∀ i, t'.cur = some i → (i, k) ∈ s'.taken)
    (hfin : t'.fin = some true → ∃ i, (k, i) ∈ s'.acks)
    (htodo : ∀ i ∈ t'.todo, i ∈ t.todo) : ECRunInv f n len s' :=
  ⟨h.1.update hk hthr ht ha hcur hfin htodo, by rw [hthr, List.length_set]; exact h.2⟩

theorem ecStep_inv (f : Nat → Nat → Bool) (n d len : Nat) (s : ECSt) (k : Nat) (h : ECRunInv f n len s) :
    ECRunInv f n len (ecStep f n d s k) := by
  unfold ecStep
  cases hk : s.thr[k]? with
  | none => exact h
  | some t =>
    dsimp only
    by_cases hfin : t.fin.isSome = true
    · rw [if_pos hfin]; exact h
    rw [if_neg hfin]
    have hnf : t.fin ≠ some true := fun e => hfin (e ▸ rfl)
    cases hc : t.cur with
    | none =>
      dsimp only
      cases htd : t.todo with
      | nil => exact h.update hk rfl (.inl rfl) (.inl rfl) nofun nofun nofun
      | cons i rest =>
        dsimp only
        have hsub : ∀ x ∈ rest, x ∈ t.todo := fun x hx => htd ▸ List.mem_cons_of_mem _ hx
        -- `canTryNode`
        have skip : ∀ s', s'.thr = s.thr.set k { t with todo := rest, cur := none } → s'.taken = s.taken →
            s'.acks = s.acks → ECRunInv f n len s' := fun s' e1 e2 e3 =>
          h.update hk e1 (.inl e2) (.inl e3) nofun (fun e => absurd e hnf) hsub
        by_cases hstop : s.stop = true
        · rw [if_pos hstop]; exact skip _ rfl rfl rfl
        rw [if_neg hstop]
        by_cases htk : (s.taken.map Prod.fst).contains i = true
        · rw [if_pos htk]; exact skip _ rfl rfl rfl
        rw [if_neg htk]
        have hi : i ∉ s.taken.map Prod.fst := fun hm => htk (List.contains_iff_mem.mpr hm)
        have hlt : i < n := h.1.todo k t hk i (htd ▸ List.mem_cons_self)
        exact h.update hk rfl (.inr ⟨i, rfl, hi, hlt⟩) (.inl rfl)
          (fun j e => Option.some.inj e ▸ List.mem_cons_self) (fun e => absurd e hnf) hsub
    | some i =>
      dsimp only
      have htk : (i, k) ∈ s.taken := h.1.cur k t i hk hc
      by_cases hf : f k i = true
      · rw [if_pos hf]
        exact h.update hk rfl (.inl rfl) (.inr ⟨i, rfl, htk, hf⟩) nofun (fun _ => ⟨i, List.mem_cons_self⟩)
          (fun _ h => h)
      rw [if_neg hf]
      -- `submitNodeFailure`
      have fail : ∀ (s' : ECSt) (fin : Option Bool), fin ≠ some true →
          s'.thr = s.thr.set k { t with cur := none, fin := fin } → s'.taken = s.taken → s'.acks = s.acks →
          ECRunInv f n len s' := fun s' fin hne e1 e2 e3 =>
        h.update hk e1 (.inl e2) (.inl e3) nofun (fun e => absurd e hne) (fun _ h => h)
      by_cases hstop : s.stop = true
      · rw [if_pos hstop]; exact fail _ (some false) nofun rfl rfl rfl
      rw [if_neg hstop]
      by_cases hfail : n - (s.failed + 1) < d
      · rw [if_pos hfail]; exact fail _ (some false) nofun rfl rfl rfl
      · rw [if_neg hfail]; exact fail _ t.fin hnf rfl rfl rfl

theorem ecFinish_inv (f : Nat → Nat → Bool) (n d len k : Nat) :
    ∀ (fuel : Nat) (s : ECSt), ECRunInv f n len s → ECRunInv f n len (ecFinish f n d fuel s k)
  | 0, _, h => h
  | fuel + 1, s, h => ecFinish_inv f n d len k fuel _ (ecStep_inv f n d len s k h)

theorem ecRun_inv (f : Nat → Nat → Bool) (n d len total : Nat) (picks : List Nat) (s : ECSt) (h : ECRunInv f n len s) :
    ECRunInv f n len (ecRun f n d total picks s) :=
  List.foldlRecOn (motive := ECRunInv f n len) _ _
    (List.foldlRecOn (motive := ECRunInv f n len) picks _ h fun s hs k _ => ecStep_inv f n d len s k hs)
    fun s hs k _ => ecFinish_inv f n d len k _ s hs

theorem ecInit_thr {total n k : Nat} {t : Thr} (h : (ecInit total n).thr[k]? = some t) :
    k < total ∧ t = { todo := EC.nodeSeq k total n } := by
  obtain ⟨hk, rfl⟩ := List.getElem?_eq_some_iff.mp h
  unfold ecInit at hk ⊢
  rw [List.length_map, List.length_range] at hk
  exact ⟨hk, by rw [List.getElem_map, List.getElem_range]⟩

theorem ecInit_inv (f : Nat → Nat → Bool) (total n : Nat) : ECRunInv f n total (ecInit total n) := by
  refine ⟨⟨List.nodup_nil, nofun, nofun, fun k t i hk hc => ?_, fun k t hk hf => ?_, fun k t hk i hi => ?_⟩, ?_⟩
  · rw [(ecInit_thr hk).2] at hc; cases hc
  · rw [(ecInit_thr hk).2] at hf; cases hf
  · rw [(ecInit_thr hk).2] at hi; exact EC.nodeSeq_lt hi
  · unfold ecInit; rw [List.length_map, List.length_range]

theorem getD_of_lt {α : Type} (l : List α) (i : Nat) {d : α} (h : i < l.length) : l.getD i d = l[i] := by
  simp [List.getD_eq_getElem?_getD, List.getElem?_eq_getElem h]

theorem fst_unique {α β : Type} (l : List (α × β)) (a : α) (b b' : β) (hnd : (l.map Prod.fst).Nodup)
    (h1 : (a, b) ∈ l) (h2 : (a, b') ∈ l) : b = b' :=
  (Prod.mk.inj (List.inj_on_of_nodup_map hnd h1 h2 rfl)).2

/-- `applyECRule` in any run, successful or not: a logged acknowledgement is a real one by a node of the list, no
node acknowledges two parts; on success every part has been acknowledged. -/
theorem applyEC_acks (f : Nat → Node → Bool) (d p : Nat) (nodes : List Node) (picks : List Nat) (hnd : nodes.Nodup) :
    (∀ x ∈ (applyEC f d p nodes picks).2, x.2 ∈ nodes ∧ f x.1 x.2 = true) ∧
    (∀ k k' n, (k, n) ∈ (applyEC f d p nodes picks).2 → (k', n) ∈ (applyEC f d p nodes picks).2 → k = k') ∧
    ((applyEC f d p nodes picks).1 = true → ∀ k < d + p, ∃ n, (k, n) ∈ (applyEC f d p nodes picks).2) := by
  unfold applyEC
  dsimp only
  obtain ⟨inv, hlen⟩ := ecRun_inv (fun k i => f k (nodes.getD i 0)) nodes.length d _ (d + p) picks _
    (ecInit_inv _ (d + p) nodes.length)
  generalize ecRun _ _ _ _ _ _ = s at inv hlen ⊢
  have src : ∀ k n, (k, n) ∈ s.acks.map (fun x => (x.1, nodes.getD x.2 0)) →
      ∃ i, ∃ hlt : i < nodes.length, n = nodes[i] ∧ (i, k) ∈ s.taken ∧ f k nodes[i] = true := by
    intro k n h
    obtain ⟨⟨k', i⟩, hm, he⟩ := List.mem_map.mp h
    obtain ⟨rfl, rfl⟩ := Prod.mk.inj he
    obtain ⟨ht, hf⟩ := inv.acked _ hm
    have hlt : i < nodes.length := inv.tlt _ ht
    rw [getD_of_lt _ _ hlt] at hf ⊢
    exact ⟨i, hlt, rfl, ht, hf⟩
  refine ⟨fun x hx => ?_, fun k k' n h h' => ?_, fun hall k hk => ?_⟩
  · obtain ⟨i, hlt, hn, _, hf⟩ := src x.1 x.2 hx
    rw [hn]
    exact ⟨List.getElem_mem _, hf⟩
  · obtain ⟨i, hlt, hn, ht, _⟩ := src k n h
    obtain ⟨i', hlt', hn', ht', _⟩ := src k' n h'
    obtain rfl : i = i' := (List.Nodup.getElem_inj_iff hnd).mp (hn.symm.trans hn')
    exact fst_unique _ _ _ _ inv.tnodup ht ht'
  · have hk' : k < s.thr.length := hlen ▸ hk
    have hfin : s.thr[k].fin = some true := by
      simpa using List.all_eq_true.mp hall s.thr[k] (List.getElem_mem hk')
    obtain ⟨i, hi⟩ := inv.fin k _ (List.getElem?_eq_getElem hk') hfin
    exact ⟨_, List.mem_map.mpr ⟨(k, i), hi, rfl⟩⟩

theorem applyEC_sound (f : Nat → Node → Bool) (d p : Nat) (nodes : List Node) (picks : List Nat)
    (acks : List (Nat × Node)) (hnd : nodes.Nodup) (h : applyEC f d p nodes picks = (true, acks)) :
    ∃ assign : Nat → Node,
      (∀ k < d + p, assign k ∈ nodes ∧ (k, assign k) ∈ acks ∧ f k (assign k) = true) ∧
      ∀ k < d + p, ∀ k' < d + p, assign k = assign k' → k = k' := by
  obtain ⟨real, inj, all⟩ := applyEC_acks f d p nodes picks hnd
  rw [h] at real inj all
  choose! assign ha using all rfl
  exact ⟨assign, fun k hk => ⟨(real _ (ha k hk)).1, ha k hk, (real _ (ha k hk)).2⟩,
    fun k hk k' hk' e => inj k k' _ (ha k hk) (e ▸ ha k' hk')⟩

/-- every part `k < T` of EC rule `j` was acknowledged by a node of `nodes`, different parts by different nodes -/
def ECPlaced (ans : Obj → Node → Bool) (ecAcks : List (Nat × Nat × Node)) (j T : Nat) (nodes : List Node) : Prop :=
  ∃ assign : Nat → Node,
    (∀ k < T, assign k ∈ nodes ∧ (j, k, assign k) ∈ ecAcks ∧ ans (.part j k) (assign k) = true) ∧
    ∀ k < T, ∀ k' < T, assign k = assign k' → k = k'

theorem ECPlaced.mono {ans : Obj → Node → Bool} {a a' : List (Nat × Nat × Node)} {j T : Nat} {nodes : List Node}
    (h : ECPlaced ans a j T nodes) (hs : ∀ x ∈ a, x ∈ a') : ECPlaced ans a' j T nodes := by
  obtain ⟨assign, h1, h2⟩ := h
  exact ⟨assign, fun k hk => ⟨(h1 k hk).1, hs _ (h1 k hk).2.1, (h1 k hk).2.2⟩, h2⟩

theorem ECPlaced.of_applyEC {ans : Obj → Node → Bool} {j d p : Nat} {nodes : List Node} {picks : List Nat}
    {acks : List (Nat × Node)} {ecAcks : List (Nat × Nat × Node)} (hnd : nodes.Nodup)
    (h : applyEC (fun k n => ans (.part j k) n) d p nodes picks = (true, acks))
    (hsub : ∀ x ∈ acks, (j, x.1, x.2) ∈ ecAcks) : ECPlaced ans ecAcks j (d + p) nodes := by
  obtain ⟨assign, a1, a2⟩ := applyEC_sound _ d p nodes picks acks hnd h
  exact ⟨assign, fun k hk => ⟨(a1 k hk).1, hsub _ (a1 k hk).2.1, (a1 k hk).2.2⟩, a2⟩

end NeoFS.Put
