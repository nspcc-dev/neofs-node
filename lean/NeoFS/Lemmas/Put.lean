import NeoFS.Model.Put
import Mathlib.Data.List.Nodup
/-! Invariants and counters of `handleREPRule` (for `Props/C25.lean`). -/
namespace NeoFS.Put

/-- number of positions of `l` holding an acknowledging node (= number of distinct acknowledging nodes of
`l` when `l` has no duplicates) -/
def ackCount (acks : List Node) (l : List Node) : Nat := l.countP (fun n => decide (n ∈ acks))

theorem ackCount_nil (acks : List Node) : ackCount acks [] = 0 := rfl

theorem ackCount_append (acks l₁ l₂ : List Node) : ackCount acks (l₁ ++ l₂) = ackCount acks l₁ + ackCount acks l₂ := by
  simp [ackCount, List.countP_append]

theorem ackCount_mono {acks acks' : List Node} (h : ∀ n ∈ acks, n ∈ acks') (l : List Node) :
    ackCount acks l ≤ ackCount acks' l := by
  unfold ackCount
  apply List.countP_mono_left
  intro x _ hx
  simp only [decide_eq_true_eq] at hx ⊢
  exact h x hx

theorem ackCount_single (acks : List Node) (n : Node) : ackCount acks [n] = if n ∈ acks then 1 else 0 := by
  unfold ackCount
  by_cases h : n ∈ acks <;> simp [h]

theorem ackCount_cons_new (acks l : List Node) (n : Node) (hn : n ∈ l) (ha : n ∉ acks) :
    ackCount acks l + 1 ≤ ackCount (n :: acks) l := by
  have hp := List.perm_cons_erase hn
  unfold ackCount
  rw [hp.countP_eq, hp.countP_eq, List.countP_cons_of_neg (by simpa using ha), List.countP_cons_of_pos (by simp)]
  exact Nat.succ_le_succ (ackCount_mono (fun m hm => List.mem_cons_of_mem _ hm) _)

theorem ackCount_le_length (acks l : List Node) : ackCount acks l ≤ l.length := List.countP_le_length

theorem ackCount_le_good (f : Node → Bool) (acks l : List Node) (h : ∀ n ∈ acks, f n = true) :
    ackCount acks l ≤ l.countP f := by
  unfold ackCount
  apply List.countP_mono_left
  intro x _ hx
  simp only [decide_eq_true_eq] at hx
  exact h x hx

theorem lookup_cons_ite (n m : Node) (b : Bool) (rs : List (Node × Bool)) :
    List.lookup n ((m, b) :: rs) = if n = m then some b else List.lookup n rs := by
  by_cases h : n = m
  · subst h; simp
  · have : (n == m) = false := by simpa using h
    simp [List.lookup_cons, this, h]

/-- what `repProgress` guarantees about its node results and the acknowledgement log -/
structure Inv (f : Node → Bool) (g : G) : Prop where
  true_acked : ∀ n, g.results.lookup n = some true → n ∈ g.acks
  acked_known : ∀ n ∈ g.acks, g.results.lookup n ≠ none
  acked_good : ∀ n ∈ g.acks, f n = true

theorem Inv.init (f : Node → Bool) : Inv f {} := ⟨by simp, by simp, by simp⟩

theorem Inv.congr {f : Node → Bool} {g g' : G} (h : Inv f g) (hr : g'.results = g.results) (ha : g'.acks = g.acks) :
    Inv f g' :=
  ⟨by rw [hr, ha]; exact h.true_acked, by rw [hr, ha]; exact h.acked_known, by rw [ha]; exact h.acked_good⟩

theorem mem_ite_cons_iff {c : Prop} [Decidable c] {m n : Node} {acks : List Node} :
    (m ∈ if c then n :: acks else acks) ↔ (c ∧ m = n) ∨ m ∈ acks := by
  by_cases hc : c
  · rw [if_pos hc, List.mem_cons]; exact ⟨Or.imp_left (⟨hc, ·⟩), Or.imp_left (·.2)⟩
  · rw [if_neg hc]; exact ⟨Or.inr, fun h => h.resolve_left fun h => hc h.1⟩

theorem Inv.record {f : Node → Bool} {g : G} (hi : Inv f g) (n : Node) (b : Bool) (asked : List Node)
    (hb : b = true → f n = true) :
    Inv f { g with results := (n, b) :: g.results, asked := asked,
                   acks := if f n = true then n :: g.acks else g.acks } := by
  refine ⟨fun m hm => ?_, fun m hm => ?_, fun m hm => ?_⟩
  · change List.lookup m ((n, b) :: g.results) = some true at hm
    rw [lookup_cons_ite] at hm
    by_cases e : m = n
    · rw [if_pos e, Option.some.injEq] at hm
      exact mem_ite_cons_iff.mpr (Or.inl ⟨hb hm, e⟩)
    · rw [if_neg e] at hm
      exact mem_ite_cons_iff.mpr (Or.inr (hi.true_acked m hm))
  · change List.lookup m ((n, b) :: g.results) ≠ none
    rw [lookup_cons_ite]
    by_cases e : m = n
    · rw [if_pos e]; nofun
    · rw [if_neg e]
      exact hi.acked_known m ((mem_ite_cons_iff.mp hm).resolve_left fun h => e h.2)
  · rcases mem_ite_cons_iff.mp hm with ⟨hf, rfl⟩ | h
    · exact hf
    · exact hi.acked_good m h

/-- invariant of the group-building loop; `pre`: the nodes examined so far, `cap`: `maxReps` -/
structure CInv (acks pre rest : List Node) (rs : List (Node × Bool)) (st rem : Nat) (grp : List Node) (cap : Nat) : Prop where
  nodup : (pre ++ rest).Nodup
  A : ∀ n, rs.lookup n = some true → n ∈ acks
  B : ∀ n ∈ acks, rs.lookup n ≠ none
  cnt : st ≤ ackCount acks pre
  gsub : ∀ n ∈ grp, n ∈ pre ∧ n ∉ acks ∧ rs.lookup n = some false
  gnodup : grp.Nodup
  glen : grp.length ≤ rem
  hcap : st + rem ≤ cap

theorem collect_inv (acks : List Node) (cap : Nat) :
    ∀ (rest pre : List Node) (rs : List (Node × Bool)) (st rem : Nat) (grp : List Node)
      (rest' : List Node) (rs' : List (Node × Bool)) (st' : Nat) (grp' : List Node),
      CInv acks pre rest rs st rem grp cap →
      collect rest rs st rem grp = (rest', rs', st', grp') →
      ∃ pre' rem', CInv acks pre' rest' rs' st' rem' grp' cap ∧ pre' ++ rest' = pre ++ rest := by
  intro rest
  induction rest with
  | nil =>
    intro pre rs st rem grp rest' rs' st' grp' h hc
    simp only [collect, Prod.mk.injEq] at hc
    obtain ⟨rfl, rfl, rfl, rfl⟩ := hc
    exact ⟨pre, rem, h, rfl⟩
  | cons n rest ih =>
    intro pre rs st rem grp rest' rs' st' grp' h hc
    unfold collect at hc
    by_cases hlt : grp.length < rem
    swap
    · rw [if_neg hlt] at hc
      simp only [Prod.mk.injEq] at hc
      obtain ⟨rfl, rfl, rfl, rfl⟩ := hc
      exact ⟨pre, rem, h, rfl⟩
    rw [if_pos hlt] at hc
    have hn_pre : n ∉ pre := fun hp => (List.nodup_append.mp h.nodup).2.2 n hp n List.mem_cons_self rfl
    have hnd' : ((pre ++ [n]) ++ rest).Nodup := by simpa using h.nodup
    have hg : ∀ m ∈ grp, m ∈ pre ++ [n] ∧ m ∉ acks ∧ rs.lookup m = some false :=
      fun m hm => ⟨List.mem_append_left _ (h.gsub m hm).1, (h.gsub m hm).2⟩
    have hcnt : st ≤ ackCount acks (pre ++ [n]) := by
      rw [ackCount_append]; exact Nat.le_trans h.cnt (Nat.le_add_right _ _)
    suffices ∃ rs1 st1 rem1 grp1, collect rest rs1 st1 rem1 grp1 = (rest', rs', st', grp') ∧
        CInv acks (pre ++ [n]) rest rs1 st1 rem1 grp1 cap by
      obtain ⟨_, _, _, _, hc1, hinv⟩ := this
      obtain ⟨pre', rem', hi, he⟩ := ih _ _ _ _ _ _ _ _ _ hinv hc1
      exact ⟨pre', rem', hi, by rw [he, List.append_assoc, List.singleton_append]⟩
    cases hl : List.lookup n rs with
    | none =>
      rw [hl] at hc
      have hna : n ∉ acks := fun ha => h.B n ha hl
      refine ⟨_, _, _, _, hc, hnd', fun m hm => ?_, fun m hm => ?_, hcnt, fun m hm => ?_, ?_, ?_, h.hcap⟩
      · rw [lookup_cons_ite] at hm
        by_cases e : m = n
        · rw [if_pos e] at hm; cases hm
        · rw [if_neg e] at hm; exact h.A m hm
      · rw [lookup_cons_ite]
        by_cases e : m = n
        · rw [if_pos e]; nofun
        · rw [if_neg e]; exact h.B m hm
      · rw [lookup_cons_ite]
        rcases List.mem_append.mp hm with hm | hm
        · have e : m ≠ n := fun e => hn_pre (e ▸ (h.gsub m hm).1)
          rw [if_neg e]
          exact hg m hm
        · obtain rfl : m = n := List.mem_singleton.mp hm
          rw [if_pos rfl]
          exact ⟨List.mem_append_right _ hm, hna, rfl⟩
      · exact List.nodup_append.mpr ⟨h.gnodup, List.nodup_singleton n,
          fun a ha b hb e => hn_pre ((List.mem_singleton.mp hb) ▸ e ▸ (h.gsub a ha).1)⟩
      · rw [List.length_append, List.length_singleton]; exact hlt
    | some b =>
      rw [hl] at hc
      cases b with
      | true =>
        have hna : n ∈ acks := h.A n hl
        refine ⟨_, _, _, _, hc, hnd', h.A, h.B, ?_, hg, h.gnodup, Nat.le_sub_one_of_lt hlt, by have := h.hcap; omega⟩
        rw [ackCount_append, ackCount_single, if_pos hna]
        exact Nat.succ_le_succ h.cnt
      | false => exact ⟨_, _, _, _, hc, hnd', h.A, h.B, hcnt, hg, h.gnodup, h.glen, h.hcap⟩

theorem collect_st_mono : ∀ (rest : List Node) (rs : List (Node × Bool)) (st rem : Nat) (grp : List Node)
    (rest' : List Node) (rs' : List (Node × Bool)) (st' : Nat) (grp' : List Node),
    collect rest rs st rem grp = (rest', rs', st', grp') → st ≤ st' := by
  intro rest
  induction rest with
  | nil => intro rs st rem grp rest' rs' st' grp' h; simp only [collect, Prod.mk.injEq] at h; omega
  | cons n rest ih =>
    intro rs st rem grp rest' rs' st' grp' h
    unfold collect at h
    by_cases hlt : grp.length < rem
    · rw [if_pos hlt] at h
      cases hl : List.lookup n rs with
      | none => rw [hl] at h; exact ih _ _ _ _ _ _ _ _ h
      | some b =>
        rw [hl] at h
        cases b with
        | true => exact Nat.le_of_succ_le (ih _ _ _ _ _ _ _ _ h)
        | false => exact ih _ _ _ _ _ _ _ _ h
    · rw [if_neg hlt] at h
      simp only [Prod.mk.injEq] at h; omega

/-- running one group in any order -/
theorem runGroup_inv (f : Node → Bool) (pre : List Node) :
    ∀ (order : List Node) (g : G) (st : Nat) (g' : G) (st' : Nat),
      Inv f g → st ≤ ackCount g.acks pre → order.Nodup →
      (∀ n ∈ order, n ∈ pre ∧ n ∉ g.acks) →
      runGroup f order g st = (g', st') →
      Inv f g' ∧ st' ≤ ackCount g'.acks pre ∧ (∀ n ∈ g.acks, n ∈ g'.acks) ∧ st' ≤ st + order.length ∧
        st ≤ st' ∧ g'.ecAcks = g.ecAcks := by
  intro order
  induction order with
  | nil =>
    intro g st g' st' hi hc _ _ hr
    simp only [runGroup, Prod.mk.injEq] at hr
    obtain ⟨rfl, rfl⟩ := hr
    exact ⟨hi, hc, fun _ h => h, by simp, Nat.le_refl _, rfl⟩
  | cons n ns ih =>
    intro g st g' st' hi hc hnd hsub hr
    unfold runGroup at hr
    dsimp only at hr
    obtain ⟨hn_pre, hn_acks⟩ := hsub n List.mem_cons_self
    have hnd' := List.nodup_cons.mp hnd
    have hi1 := hi.record n (f n) (n :: g.asked) id
    have hsub' : ∀ m ∈ ns, m ∈ pre ∧ m ∉ g.acks := fun m hm => hsub m (List.mem_cons_of_mem _ hm)
    by_cases hb : f n = true
    · rw [if_pos hb] at hi1
      rw [if_pos hb, if_pos hb] at hr
      have hc1 : st + 1 ≤ ackCount (n :: g.acks) pre :=
        Nat.le_trans (Nat.succ_le_succ hc) (ackCount_cons_new g.acks pre n hn_pre hn_acks)
      have hsub1 : ∀ m ∈ ns, m ∈ pre ∧ m ∉ n :: g.acks := fun m hm =>
        ⟨(hsub' m hm).1, fun h => (List.mem_cons.mp h).elim (fun e => hnd'.1 (e ▸ hm)) (hsub' m hm).2⟩
      obtain ⟨r1, r2, r3, r4, r5, r6⟩ := ih _ _ _ _ hi1 hc1 hnd'.2 hsub1 hr
      rw [List.length_cons]
      exact ⟨r1, r2, fun m hm => r3 m (List.mem_cons_of_mem _ hm), by omega, by omega, r6⟩
    · rw [if_neg hb] at hi1
      rw [if_neg hb, if_neg hb] at hr
      obtain ⟨r1, r2, r3, r4, r5, r6⟩ := ih _ _ _ _ hi1 hc hnd'.2 hsub' hr
      rw [List.length_cons]
      exact ⟨r1, r2, r3, by omega, r5, r6⟩

theorem runGroup_acks_len (f : Node → Bool) : ∀ (order : List Node) (g : G) (st : Nat) (g' : G) (st' : Nat),
    runGroup f order g st = (g', st') → g'.acks.length + st = g.acks.length + st' := by
  intro order
  induction order with
  | nil => intro g st g' st' h; simp only [runGroup, Prod.mk.injEq] at h; obtain ⟨rfl, rfl⟩ := h; rfl
  | cons n ns ih =>
    intro g st g' st' h
    unfold runGroup at h
    have := ih _ _ _ _ h
    by_cases hb : f n = true
    · rw [if_pos hb, if_pos hb, List.length_cons] at this; omega
    · rw [if_neg hb, if_neg hb] at this; exact this

theorem handleREP_succ {f : Node → Bool} {sched : List Node → List Node} {mn mx fuel : Nat} {rest : List Node}
    {g g' : G} {st st' : Nat} {failed : Bool}
    (h : handleREP f sched mn mx (fuel + 1) rest g st = (g', st', failed)) :
    (g' = g ∧ st' = st ∧ (failed = false → mx ≤ st ∨ mn ≤ st)) ∨
    ∃ rest' rs' st1 grp g2 st2, collect rest g.results st (mx - st) [] = (rest', rs', st1, grp) ∧
      runGroup f (sched grp) { g with results := rs' } st1 = (g2, st2) ∧
      handleREP f sched mn mx fuel rest' g2 st2 = (g', st', failed) := by
  unfold handleREP at h
  have stop : ∀ b, (b = false → mx ≤ st ∨ mn ≤ st) → (g, st, b) = (g', st', failed) →
      g' = g ∧ st' = st ∧ (failed = false → mx ≤ st ∨ mn ≤ st) := by
    intro b hb e
    simp only [Prod.mk.injEq] at e
    obtain ⟨rfl, rfl, rfl⟩ := e
    exact ⟨rfl, rfl, hb⟩
  by_cases h1 : st ≥ mx
  · rw [if_pos h1] at h; exact Or.inl (stop _ (fun _ => Or.inl h1) h)
  rw [if_neg h1] at h
  by_cases h2 : rest.length < mn - st
  · rw [if_pos h2] at h; exact Or.inl (stop true nofun h)
  rw [if_neg h2] at h
  by_cases h3 : rest.isEmpty = true
  · rw [if_pos h3] at h
    have : rest.length = 0 := by simpa using h3
    exact Or.inl (stop _ (fun _ => Or.inr (by omega)) h)
  rw [if_neg h3] at h
  exact Or.inr ⟨_, _, _, _, _, _, rfl, rfl, h⟩

/-- `handleREPRule`: whatever the schedule of the parallel sends, the stored counter never exceeds the number
of acknowledging nodes of the (duplicate-free) list nor `maxReps`, and success means `maxReps` or
`minReps` was reached. -/
theorem handleREP_sound (f : Node → Bool) (sched : List Node → List Node) (hs : ∀ l, (sched l).Perm l)
    (mn mx : Nat) :
    ∀ (fuel : Nat) (pre rest : List Node) (g : G) (st : Nat) (g' : G) (st' : Nat) (failed : Bool),
      (pre ++ rest).Nodup → Inv f g → st ≤ ackCount g.acks pre → st ≤ mx →
      handleREP f sched mn mx fuel rest g st = (g', st', failed) →
      Inv f g' ∧ st' ≤ ackCount g'.acks (pre ++ rest) ∧ st' ≤ mx ∧ (∀ n ∈ g.acks, n ∈ g'.acks) ∧
        (failed = false → mx ≤ st' ∨ mn ≤ st') ∧ g'.ecAcks = g.ecAcks := by
  intro fuel
  induction fuel with
  | zero =>
    intro pre rest g st g' st' failed hnd hi hc hmx hr
    simp only [handleREP, Prod.mk.injEq] at hr
    obtain ⟨rfl, rfl, rfl⟩ := hr
    refine ⟨hi, ?_, hmx, fun _ h => h, by simp, rfl⟩
    rw [ackCount_append]; omega
  | succ fuel ih =>
    intro pre rest g st g' st' failed hnd hi hc hmx hr
    rcases handleREP_succ hr with ⟨rfl, rfl, hb⟩ | ⟨rest', rs', st1, grp, g2, st2, hcol, hrg, hr⟩
    · refine ⟨hi, ?_, hmx, fun _ h => h, hb, rfl⟩
      rw [ackCount_append]; exact Nat.le_trans hc (Nat.le_add_right _ _)
    have hci : CInv g.acks pre rest g.results st (mx - st) [] mx :=
      ⟨hnd, hi.true_acked, hi.acked_known, hc, nofun, List.nodup_nil, Nat.zero_le _, by omega⟩
    obtain ⟨pre', rem', hci', hpre⟩ := collect_inv g.acks mx _ _ _ _ _ _ _ _ _ _ hci hcol
    have hperm := hs grp
    have hi1 : Inv f { g with results := rs' } := ⟨hci'.A, hci'.B, hi.acked_good⟩
    obtain ⟨q1, q2, q3, q4, q5, q6⟩ := runGroup_inv f pre' _ _ _ _ _ hi1 hci'.cnt (hperm.nodup_iff.mpr hci'.gnodup)
      (fun n hn => ⟨(hci'.gsub n (hperm.mem_iff.mp hn)).1, (hci'.gsub n (hperm.mem_iff.mp hn)).2.1⟩) hrg
    have hmx2 : st2 ≤ mx := by
      have := hci'.glen; have := hci'.hcap; have := hperm.length_eq; omega
    obtain ⟨z1, z2, z3, z4, z5, z6⟩ := ih pre' rest' g2 st2 g' st' failed (hpre ▸ hnd) q1 q2 hmx2 hr
    exact ⟨z1, hpre ▸ z2, z3, fun n hn => z4 n (q3 n hn), z5, z6.trans q6⟩

theorem handleREP_acks_len (f : Node → Bool) (sched : List Node → List Node) (mn mx : Nat) :
    ∀ (fuel : Nat) (rest : List Node) (g : G) (st : Nat) (g' : G) (st' : Nat) (failed : Bool),
      handleREP f sched mn mx fuel rest g st = (g', st', failed) → g'.acks.length + st ≤ g.acks.length + st' := by
  intro fuel
  induction fuel with
  | zero => intro rest g st g' st' failed h; simp only [handleREP, Prod.mk.injEq] at h; obtain ⟨rfl, rfl, _⟩ := h; omega
  | succ fuel ih =>
    intro rest g st g' st' failed h
    rcases handleREP_succ h with ⟨rfl, rfl, _⟩ | ⟨rest', rs', st1, grp, g2, st2, hcol, hrg, h⟩
    · exact Nat.le_refl _
    have a := collect_st_mono _ _ _ _ _ _ _ _ _ hcol
    have b : g2.acks.length + st1 = g.acks.length + st2 := runGroup_acks_len f _ { g with results := rs' } _ _ _ hrg
    have c := ih _ _ _ _ _ _ h
    omega

theorem repRule_sound (f : Node → Bool) (sched : List Node → List Node) (hs : ∀ l, (sched l).Perm l)
    (mn mx : Nat) (list : List Node) (g g' : G) (st' : Nat) (failed : Bool)
    (hnd : list.Nodup) (hi : Inv f g) (hr : repRule f sched mn mx list g = (g', st', failed)) :
    Inv f g' ∧ st' ≤ ackCount g'.acks list ∧ st' ≤ mx ∧ (∀ n ∈ g.acks, n ∈ g'.acks) ∧
      (failed = false → mx ≤ st' ∨ mn ≤ st') ∧ g'.ecAcks = g.ecAcks := by
  have := handleREP_sound f sched hs mn mx (list.length + 1) [] list g 0 g' st' failed (by simpa using hnd) hi
    (by simp) (by omega) hr
  simpa using this

theorem repRule_acks_len {f : Node → Bool} {sched : List Node → List Node} {mn mx : Nat} {list : List Node} {g g' : G}
    {st' : Nat} {failed : Bool} (hr : repRule f sched mn mx list g = (g', st', failed)) :
    g'.acks.length ≤ g.acks.length + st' :=
  handleREP_acks_len f sched mn mx _ list g 0 g' st' failed hr

end NeoFS.Put
