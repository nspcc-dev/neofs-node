import NeoFS.Lemmas.Int256
/-! Decimal digit strings: `decVal` is `ofDigits 10` of the digit values. -/
namespace NeoFS.Int256

theorem isDigit_bounds (c : Char) (h : isDigit c = true) : 48 ≤ c.toNat ∧ c.toNat ≤ 57 := by
  unfold isDigit at h
  simp only [Bool.and_eq_true, decide_eq_true_eq] at h
  exact ⟨UInt32.le_iff_toNat_le.mp h.1, UInt32.le_iff_toNat_le.mp h.2⟩

theorem digitVal_eq (c : Char) : digitVal c = c.toNat - 48 := rfl

theorem isDigit_digitVal_lt (c : Char) (h : isDigit c = true) : digitVal c < 10 := by
  have := isDigit_bounds c h
  rw [digitVal_eq]; omega

theorem isDigit_ne_sign (c : Char) (h : isDigit c = true) : c ≠ '+' ∧ c ≠ '-' := by
  constructor <;> (rintro rfl; revert h; decide)

theorem digitChar_spec {k : Nat} (hk : k < 10) :
    digitVal (Char.ofNat ('0'.toNat + k)) = k ∧ isDigit (Char.ofNat ('0'.toNat + k)) = true := by
  have : ∀ k : Fin 10,
      digitVal (Char.ofNat ('0'.toNat + k.val)) = k.val ∧ isDigit (Char.ofNat ('0'.toNat + k.val)) = true := by decide
  exact this ⟨k, hk⟩

theorem decVal_eq_ofDigits (s : List Char) : decVal s = ofDigits 10 (s.map digitVal) := by
  unfold decVal ofDigits; rw [List.foldl_map]

theorem decVal_cons (c : Char) (l : List Char) :
    decVal (c :: l) = digitVal c * 10 ^ l.length + decVal l := by
  rw [decVal_eq_ofDigits, decVal_eq_ofDigits, List.map_cons, ofDigits_cons, List.length_map]

theorem digitVals_lt {l : List Char} (h : l.all isDigit = true) : ∀ d ∈ l.map digitVal, d < 10 := by
  intro d hd
  obtain ⟨c, hc, rfl⟩ := List.mem_map.1 hd
  exact isDigit_digitVal_lt c (List.all_eq_true.1 h c hc)

theorem decVal_lt (l : List Char) (h : l.all isDigit = true) : decVal l < 10 ^ l.length := by
  have := ofDigits_lt (digitVals_lt h)
  rwa [← decVal_eq_ofDigits, List.length_map] at this

theorem decVal_ge (c : Char) (l : List Char) (hc : isDigit c = true) (h0 : c ≠ '0') :
    10 ^ l.length ≤ decVal (c :: l) := by
  have b := isDigit_bounds c hc
  have : c.toNat ≠ 48 := fun h => h0 (by rw [← Char.ofNat_toNat c, h])
  have : 1 ≤ digitVal c := by rw [digitVal_eq]; omega
  have := Nat.mul_le_mul_right (10 ^ l.length) this
  rw [decVal_cons]; omega

theorem lexCmpChars_eq_len (a b : List Char) (hl : a.length = b.length)
    (ha : a.all isDigit = true) (hb : b.all isDigit = true) :
    lexCmpChars a b = ordNat (decVal a) (decVal b) := by
  have shift : ∀ l : List Char, l.all isDigit = true → l.map Char.toNat = (l.map digitVal).map (· + 48) := by
    intro l h
    rw [List.map_map]
    refine List.map_congr_left fun c hc => ?_
    have := isDigit_bounds c (List.all_eq_true.1 h c hc)
    simp only [Function.comp, digitVal_eq]; omega
  rw [lexCmpChars, shift a ha, shift b hb, lexCmp_map_add, decVal_eq_ofDigits, decVal_eq_ofDigits]
  exact lexCmp_eq_ordNat_ofDigits 10 _ _ (by simp [hl]) (digitVals_lt ha) (digitVals_lt hb)

theorem dropWhile_zero_decVal (l : List Char) : decVal (l.dropWhile (· = '0')) = decVal l := by
  induction l with
  | nil => rfl
  | cons c r ih =>
    by_cases h : c = '0'
    · subst h
      simp only [List.dropWhile_cons, decide_true, if_true]
      rw [ih, decVal_cons]
      simp [digitVal]
    · simp [h]

theorem dropWhile_zero_all (l : List Char) :
    (l.dropWhile (· = '0')).all isDigit = l.all isDigit := by
  induction l with
  | nil => rfl
  | cons c r ih =>
    by_cases h : c = '0'
    · subst h
      simp only [List.dropWhile_cons, decide_true, if_true, List.all_cons]
      rw [ih]; simp [show isDigit '0' = true by decide]
    · simp [h]

/-! ### printing (`uint256.Int.Dec`) -/

theorem natToDecAux_spec (fuel n : Nat) (acc : List Char) (hf : n < fuel)
    (hacc : acc.all isDigit = true) :
    let r := natToDecAux fuel n acc
    decVal r = n * 10 ^ acc.length + decVal acc ∧ r.all isDigit = true ∧ r ≠ [] := by
  fun_induction natToDecAux fuel n acc with
  | case1 n acc => exact absurd hf (Nat.not_lt_zero n)
  | case2 fuel n acc acc' h0 =>
    obtain ⟨hv, hd⟩ := digitChar_spec (Nat.mod_lt n (by decide : 0 < 10))
    refine ⟨?_, by rw [List.all_cons, hd, hacc]; rfl, List.cons_ne_nil _ _⟩
    rw [decVal_cons, hv, Nat.mod_eq_of_lt (by omega)]
  | case3 fuel n acc acc' h0 ih =>
    obtain ⟨hv, hd⟩ := digitChar_spec (Nat.mod_lt n (by decide : 0 < 10))
    obtain ⟨e1, e2, e3⟩ := ih (by omega) (by rw [List.all_cons, hd, hacc]; rfl)
    refine ⟨?_, e2, e3⟩
    rw [e1, decVal_cons, hv, List.length_cons, Nat.pow_succ, ← Nat.add_assoc, Nat.mul_comm (10 ^ acc.length) 10,
      ← Nat.mul_assoc, ← Nat.add_mul, Nat.div_add_mod']

theorem natToDec_spec (n : Nat) :
    decVal (natToDec n) = n ∧ (natToDec n).all isDigit = true ∧ natToDec n ≠ [] := by
  have := natToDecAux_spec (n + 1) n [] (Nat.lt_succ_self n) rfl
  simpa [natToDec, decVal] using this

theorem u256Parse_no_plus (body : List Char) (h : body.head? ≠ some '+') :
    u256Parse body =
      if body.isEmpty then none
      else if body.all isDigit then (if decVal body < two256 then some (decVal body) else none)
      else none := by
  unfold u256Parse
  split
  · simp at h
  · rfl

theorem plus_not_all_digits (r : List Char) (h : r.head? = some '+') : r.all isDigit = false := by
  cases r with
  | nil => simp at h
  | cons a b =>
    simp only [List.head?_cons, Option.some.injEq] at h
    subst h
    simp [show isDigit '+' = false by decide]

/-- what both readers do first -/
def stripSign : List Char → Bool × List Char
  | [] => (false, [])
  | c :: r => if c = '-' then (true, r) else if c = '+' then (false, r) else (false, c :: r)

/-- a second `+`, which `SetFromDecimal` would tolerate, is no digit -/
theorem parseDecimal_eq (s : List Char) : parseDecimal s = parseNormalized (stripSign s).1 (stripSign s).2 := by
  have body : ∀ (neg : Bool) (b : List Char),
      (if b.isEmpty then none else if b.head? = some '+' then none else (u256Parse b).map (fun m => mk neg m))
        = parseNormalized neg b := by
    intro neg b
    unfold parseNormalized
    by_cases hp : b.head? = some '+'
    · rw [if_pos hp, plus_not_all_digits b hp, if_neg Bool.false_ne_true]
    · rw [if_neg hp, u256Parse_no_plus b hp]
      by_cases he : b.isEmpty = true
      · rw [if_pos he, if_pos he]
      · simp only [if_neg he, apply_ite (Option.map _), Option.map_none, Option.map_some]
  cases s with
  | nil => rfl
  | cons c r =>
    unfold parseDecimal stripSign
    by_cases hm : c = '-'
    · subst hm; exact body true r
    · by_cases hp : c = '+'
      · subst hp; exact body false r
      · simp only [hm, hp, if_false]; exact body false (c :: r)

theorem splitIntString_eq (s : List Char) :
    splitIntString s =
      if (stripSign s).2.isEmpty then none
      else
        let d := (stripSign s).2.dropWhile (· = '0')
        if d.all isDigit then (if d.isEmpty then some (false, ['0']) else some ((stripSign s).1, d)) else none := by
  cases s <;> rfl

theorem parseNormalized_eq_some {neg : Bool} {d : List Char} {z : I256} :
    parseNormalized neg d = some z ↔ d ≠ [] ∧ d.all isDigit = true ∧ decVal d < two256 ∧ z = mk neg (decVal d) := by
  unfold parseNormalized
  by_cases h1 : d = []
  · simp [h1]
  · by_cases h2 : d.all isDigit = true
    · by_cases h3 : decVal d < two256
      · simp only [List.isEmpty_iff, h1, h2, h3, if_true, if_false, Option.some.injEq, ne_eq, not_false_eq_true, true_and]
        exact eq_comm
      · simp [h1, h2, h3]
    · simp [h1, h2]

theorem parseNormalized_of_ne_nil (neg : Bool) {d : List Char} (h : d ≠ []) :
    parseNormalized neg d =
      if d.all isDigit then (if decVal d < two256 then some (mk neg (decVal d)) else none) else none := by
  unfold parseNormalized
  rw [if_neg (mt List.isEmpty_iff.1 h)]

theorem parseNormalized_strip (neg : Bool) (body : List Char) (he : body ≠ []) :
    ((if (body.dropWhile (· = '0')).all isDigit then
        (if (body.dropWhile (· = '0')).isEmpty then some (false, ['0'])
         else some (neg, body.dropWhile (· = '0')))
      else none).bind fun p => parseNormalized p.1 p.2)
    = parseNormalized neg body := by
  rw [parseNormalized_of_ne_nil neg he, ← dropWhile_zero_all body, ← dropWhile_zero_decVal body]
  generalize body.dropWhile (· = '0') = d
  by_cases hd : d.all isDigit = true
  · rw [if_pos hd, if_pos hd]
    cases d with
    | nil => cases neg <;> rfl
    | cons a b =>
      rw [List.isEmpty_cons, if_neg Bool.false_ne_true, Option.bind_some,
        parseNormalized_of_ne_nil neg (List.cons_ne_nil a b), if_pos hd]
  · rw [if_neg hd, if_neg hd]; rfl

/-- Normalised digits as `splitIntString` returns them: "0" or no leading zero. -/
def Norm (d : List Char) : Prop :=
  d.all isDigit = true ∧ (d = ['0'] ∨ ∃ c l, d = c :: l ∧ c ≠ '0')

theorem split_norm (s : List Char) (neg : Bool) (d : List Char)
    (h : splitIntString s = some (neg, d)) : Norm d ∧ (d = ['0'] → neg = false) := by
  rw [splitIntString_eq] at h
  generalize stripSign s = p at h
  obtain ⟨n, body⟩ := p
  simp only at h
  by_cases he : body.isEmpty = true
  · rw [if_pos he] at h; cases h
  · rw [if_neg he] at h
    by_cases hd : (body.dropWhile (· = '0')).all isDigit = true
    · rw [if_pos hd] at h
      cases hd' : body.dropWhile (· = '0') with
      | nil =>
        rw [hd', List.isEmpty_nil, if_pos rfl] at h
        cases h
        exact ⟨⟨by decide, Or.inl rfl⟩, fun _ => rfl⟩
      | cons x xs =>
        rw [hd', List.isEmpty_cons, if_neg Bool.false_ne_true] at h
        cases h
        have hx : x ≠ '0' := by
          simpa [hd'] using List.head_dropWhile_not (· = '0') (l := body) (by rw [hd']; exact List.cons_ne_nil _ _)
        exact ⟨⟨hd' ▸ hd, Or.inr ⟨x, xs, rfl, hx⟩⟩, fun e => absurd (List.cons.inj e).1 hx⟩
    · rw [if_neg hd] at h; cases h

theorem norm_pos (d : List Char) (h : Norm d) (hz : d ≠ ['0']) : 0 < decVal d := by
  obtain ⟨hd, h0 | ⟨c, l, rfl, hc⟩⟩ := h
  · exact absurd h0 hz
  · simp only [List.all_cons, Bool.and_eq_true] at hd
    have := decVal_ge c l hd.1 hc
    have : 0 < 10 ^ l.length := Nat.pow_pos (by decide)
    omega

theorem norm_len_lt (da db : List Char) (ha : Norm da) (hb : Norm db) (hl : da.length < db.length) :
    decVal da < decVal db := by
  obtain ⟨hda, _⟩ := ha
  obtain ⟨hdb, h0 | ⟨c, l, rfl, hc⟩⟩ := hb
  · subst h0
    cases da with
    | nil => rcases ‹_ ∨ _› with h | ⟨_, _, h, _⟩ <;> simp at h
    | cons x xs => simp at hl
  · simp only [List.all_cons, Bool.and_eq_true] at hdb
    have h1 := decVal_lt da hda
    have h2 := decVal_ge c l hdb.1 hc
    have h3 : 10 ^ da.length ≤ 10 ^ l.length :=
      Nat.pow_le_pow_right (by decide) (by simp at hl; omega)
    omega

theorem norm_cmp {da db : List Char} (ha : Norm da) (hb : Norm db) :
    (if da.length ≠ db.length then (if da.length < db.length then .lt else .gt) else lexCmpChars da db)
      = ordNat (decVal da) (decVal db) := by
  by_cases hl : da.length = db.length
  · rw [if_neg (not_not.2 hl), lexCmpChars_eq_len da db hl ha.1 hb.1]
  · rw [if_pos hl]
    by_cases hlt : da.length < db.length
    · rw [if_pos hlt, ordNat_of_lt (norm_len_lt da db ha hb hlt)]
    · rw [if_neg hlt, ordNat_of_gt (norm_len_lt db da hb ha (Nat.lt_of_le_of_ne (Nat.le_of_not_lt hlt) (Ne.symm hl)))]

end NeoFS.Int256
