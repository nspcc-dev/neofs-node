/-
C03: the loop of `searchTx` over a strictly sorted bucket (`Seek`, skip the seek key itself, iterate while the prefix
holds) visits exactly the keys that are greater than the seek key and carry the prefix, in order - the early end of
the prefix loop loses nothing.  Second half: removing adjacent duplicates from a sorted key list leaves it strictly
sorted with the same keys (the bucket, `Props/C03.lean`).
-/
import NeoFS.Lemmas.SearchEval
namespace NeoFS.Search
open NeoFS.Int256

theorem afterSeek_eq_filter (b : List Bytes) (hs : b.Pairwise bLt) (seek : Bytes) :
    afterSeek b seek = b.filter (fun k => lexCmp seek k == .lt) := by
  induction b with
  | nil => rfl
  | cons x r ih =>
    obtain ⟨hx, hr⟩ := List.pairwise_cons.1 hs
    have ihr := ih hr
    unfold afterSeek seekFrom at ihr ⊢
    cases h1 : lexCmp x seek == .lt
    · -- `Seek` stops at `x`; everything behind `x` is above `seek`
      have hsx : bLe seek x := (lexCmp_ne_lt_iff x seek).1 fun e => by rw [e] at h1; cases h1
      have hfr : r.filter (fun k => lexCmp seek k == .lt) = r :=
        List.filter_eq_self.2 fun y hy => beq_iff_eq.2 (bLt_of_bLe_of_bLt hsx (hx y hy))
      rw [List.dropWhile_cons_of_neg (by simp [h1])]
      show (if x = seek then r else x :: r) = _
      by_cases he : x = seek
      · rw [if_pos he, List.filter_cons_of_neg (by rw [he, lexCmp_refl]; decide), hfr]
      · have hlt : bLt seek x := ((bLe_iff_lt_or_eq seek x).1 hsx).resolve_right (Ne.symm he)
        rw [if_neg he, List.filter_cons_of_pos (p := fun k => lexCmp seek k == .lt) (beq_iff_eq.2 hlt), hfr]
    · rw [List.dropWhile_cons_of_pos (p := fun x => lexCmp x seek == .lt) h1,
        List.filter_cons_of_neg (by rw [(lexCmp_gt_iff seek x).2 (beq_iff_eq.1 h1)]; decide)]
      exact ihr

theorem takeWhile_prefix_eq_filter (l : List Bytes) (hs : l.Pairwise bLe) (pref : Bytes) (habove : ∀ k ∈ l, bLe pref k) :
    l.takeWhile (fun k => pref.isPrefixOf k) = l.filter (fun k => pref.isPrefixOf k) := by
  induction l with
  | nil => rfl
  | cons x r ih =>
    obtain ⟨hx, hr⟩ := List.pairwise_cons.1 hs
    rw [List.takeWhile_cons, List.filter_cons]
    by_cases hpx : pref.isPrefixOf x = true
    · simp only [hpx, if_true]
      rw [ih hr (fun k hk => habove k (List.mem_cons_of_mem _ hk))]
    · simp only [hpx, Bool.false_eq_true, if_false]
      symm
      rw [List.filter_eq_nil_iff]
      intro y hy hpy
      apply hpx
      rw [List.isPrefixOf_iff_prefix] at hpy ⊢
      exact prefix_convex (habove x List.mem_cons_self) (hx y hy) hpy

theorem scanKeys_eq_filter (b : List Bytes) (hs : b.Pairwise bLt) (pref seek : Bytes) (hp : pref <+: seek) :
    scanKeys b pref seek = b.filter (fun k => lexCmp seek k == .lt && pref.isPrefixOf k) := by
  unfold scanKeys
  rw [afterSeek_eq_filter b hs seek]
  rw [takeWhile_prefix_eq_filter _ ((List.Pairwise.filter _ hs).imp bLe_of_bLt) pref]
  · rw [List.filter_filter]
    congr 1
    funext k
    rw [Bool.and_comm]
  · intro k hk
    have := (List.mem_filter.1 hk).2
    exact bLe_trans (bLe_of_prefix hp) (bLe_of_bLt (by simpa [bLt] using this))

theorem bytesLe_iff (a b : Bytes) : bytesLe a b = true ↔ bLe a b := by
  unfold bytesLe bLe; simp

theorem dedupAdj_sorted : ∀ (l : List Bytes), l.Pairwise bLe →
    (dedupAdj l).Pairwise bLt ∧ ∀ k, k ∈ dedupAdj l ↔ k ∈ l
  | [], _ => by simp [dedupAdj]
  | [x], _ => by simp [dedupAdj]
  | x :: y :: r, h => by
    obtain ⟨hx, hyr⟩ := List.pairwise_cons.1 h
    obtain ⟨ih1, ih2⟩ := dedupAdj_sorted (y :: r) hyr
    unfold dedupAdj
    by_cases hxy : x = y
    · subst hxy
      simp only [if_true]
      refine ⟨ih1, fun k => ?_⟩
      rw [ih2 k]; simp
    · simp only [hxy, if_false]
      refine ⟨List.pairwise_cons.2 ⟨?_, ih1⟩, fun k => ?_⟩
      · intro z hz
        have hz' : z ∈ y :: r := (ih2 z).1 hz
        have hxz : bLe x z := hx z hz'
        rcases (bLe_iff_lt_or_eq x z).1 hxz with hlt | heq
        · exact hlt
        · exfalso
          subst heq
          have hxy' : bLe x y := hx y List.mem_cons_self
          rcases List.mem_cons.1 hz' with h1 | h1
          · exact hxy h1
          · have hyx : bLe y x := (List.pairwise_cons.1 hyr).1 x h1
            exact hxy (bLe_antisymm hxy' hyx)
      · simp only [List.mem_cons, ih2 k]

end NeoFS.Search
