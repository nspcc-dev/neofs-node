import NeoFS.Lemmas.Policer
/-! Lemmas about the cluster model: membership in `holdersAfter`, a pass without EC rules, the answers of `clusterEnv`,
what a `turn` leaves unchanged. -/
namespace NeoFS.Policer

theorem mem_addNode (n x : Nat) (l : List Nat) : x ∈ addNode n l ↔ x = n ∨ x ∈ l := by
  induction l with
  | nil => simp [addNode]
  | cons y ys ih =>
    unfold addNode
    split_ifs with h1 h2
    · exact List.mem_cons
    · rw [h2, List.mem_cons, or_self_left]
    · rw [List.mem_cons, ih, List.mem_cons, or_left_comm]

theorem mem_foldl_addNode (add : List Nat) (l : List Nat) (x : Nat) :
    x ∈ add.foldl (fun h n => addNode n h) l ↔ x ∈ add ∨ x ∈ l := by
  induction add generalizing l with
  | nil => simp
  | cons a as ih => rw [List.foldl_cons, ih, mem_addNode, List.mem_cons, or_left_comm, or_assoc]

theorem mem_holdersAfter (hold : List Nat) (me : Nat) (out : Out) (x : Nat) :
    x ∈ holdersAfter hold me out ↔
      (x ∈ out.tasks.flatMap (·.done) ∨ x ∈ hold) ∧ (out.dels.isEmpty = true ∨ x ≠ me) := by
  unfold holdersAfter
  cases out.dels.isEmpty <;> simp [mem_foldl_addNode]

/-! ### a pass without EC rules -/

theorem processObject_rep (e : Env) (legacy : Bool) (o : Obj) (p : Placement) (hn : p.net = .ok) (he : o.ec = none)
    (hr : p.ecRules = []) : processObject e legacy o p = repPart e legacy o p [] := by
  unfold processObject
  simp [hn, he, hr]

theorem repPart_dels (e : Env) (legacy : Bool) (o : Obj) (p : Placement) :
    (repPart e legacy o p []).dels = [] ∨ (repPart e legacy o p []).dels = [.redundant] :=
  (verdict_dels e legacy o _ []).imp_right And.left

/-! ### the cluster -/

/-- a truthful `holds` answer comes from a holder -/
theorem clusterEnv_holds {down mt hold : List Nat} {me n : Nat} (h : (clusterEnv down mt hold me).ans n = .holds) :
    n ∈ hold := by
  unfold clusterEnv at h
  dsimp only at h
  by_cases h1 : down.contains n = true
  · rw [if_pos h1] at h; cases h
  rw [if_neg h1] at h
  by_cases h2 : mt.contains n = true
  · rw [if_pos h2] at h; cases h
  rw [if_neg h2] at h
  by_cases h3 : hold.contains n = true
  · exact List.contains_iff_mem.mp h3
  · rw [if_neg h3] at h; cases h

theorem turn_fst (down mt : List Nat) (acc : Cluster × Nat × List Nat) (me : Nat) :
    (turn down mt acc me).1 =
      if !acc.1.hold.contains me || down.contains me || mt.contains me then acc.1
      else { acc.1 with hold := holdersAfter acc.1.hold me (passOf acc.1 down mt me) } := by
  unfold turn
  dsimp only
  by_cases h : (!acc.1.hold.contains me || down.contains me || mt.contains me) = true
  · rw [if_pos h, if_pos h]
  · rw [if_neg h, if_neg h]

theorem turn_plc_typ (down mt : List Nat) (acc : Cluster × Nat × List Nat) (me : Nat) :
    (turn down mt acc me).1.plc = acc.1.plc ∧ (turn down mt acc me).1.typ = acc.1.typ := by
  rw [turn_fst]
  split_ifs <;> exact ⟨rfl, rfl⟩

theorem turns_plc_typ (down mt order : List Nat) (acc : Cluster × Nat × List Nat) :
    (order.foldl (turn down mt) acc).1.plc = acc.1.plc ∧ (order.foldl (turn down mt) acc).1.typ = acc.1.typ := by
  induction order generalizing acc with
  | nil => exact ⟨rfl, rfl⟩
  | cons a rest ih =>
    have t := turn_plc_typ down mt acc a
    exact ⟨(ih _).1.trans t.1, (ih _).2.trans t.2⟩

end NeoFS.Policer
