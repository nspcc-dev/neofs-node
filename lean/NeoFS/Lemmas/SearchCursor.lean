import NeoFS.Lemmas.SearchCodec
import NeoFS.Lemmas.SearchKinds
/-!
Index keys and cursors (C04): the order of index keys in terms of (stored value, id), and the acceptance of a cursor
that is an index key by the cursor half of `PreprocessSearchQuery`.
-/
namespace NeoFS.SearchMerge
open NeoFS.Int256

theorem idBytes_length (id : Nat) : (idBytes id).length = 32 := beBytes_length 32 id

theorem idBytes_order {a b : Nat} (ha : a < two256) (hb : b < two256) : lexCmp (idBytes a) (idBytes b) = ordNat a b := by
  rw [two256_eq] at ha hb
  exact lexCmp_beBytes 32 a b ha hb

/-- keys of the plain index for equally long stored values (owner, ids, checksum, split id) -/
theorem plainKey_order_fixed {ab r1 r2 : List Nat} {i1 i2 : Nat} (hl : r1.length = r2.length) (h1 : i1 < two256) (h2 : i2 < two256) :
    lexCmp (2 :: ab ++ 0 :: r1 ++ 0 :: idBytes i1) (2 :: ab ++ 0 :: r2 ++ 0 :: idBytes i2) = (lexCmp r1 r2).then (ordNat i1 i2) := by
  simp only [List.cons_append, List.append_assoc, lexCmp_cons_same, lexCmp_append_left]
  rw [lexCmp_fixed _ _ _ _ hl, lexCmp_cons_same, idBytes_order h1 h2, thenCmp_eq_then]

/-- keys of the plain index for values without the delimiter byte (user attributes) -/
theorem plainKey_order_nozero {ab r1 r2 : List Nat} {i1 i2 : Nat} (z1 : ∀ b ∈ r1, b ≠ 0) (z2 : ∀ b ∈ r2, b ≠ 0)
    (h1 : i1 < two256) (h2 : i2 < two256) :
    lexCmp (2 :: ab ++ 0 :: r1 ++ 0 :: idBytes i1) (2 :: ab ++ 0 :: r2 ++ 0 :: idBytes i2) = (lexCmp r1 r2).then (ordNat i1 i2) := by
  simp only [List.cons_append, List.append_assoc, lexCmp_cons_same, lexCmp_append_left]
  rw [lexCmp_delim _ _ _ _ z1 z2, idBytes_order h1 h2, thenCmp_eq_then]

theorem intIndexKey_order {ab r1 r2 : List Nat} {i1 i2 : Nat} (hl : r1.length = r2.length) (h1 : i1 < two256) (h2 : i2 < two256) :
    lexCmp (1 :: ab ++ 0 :: r1 ++ idBytes i1) (1 :: ab ++ 0 :: r2 ++ idBytes i2) = (lexCmp r1 r2).then (ordNat i1 i2) := by
  simp only [List.cons_append, List.append_assoc, lexCmp_cons_same, lexCmp_append_left]
  rw [lexCmp_fixed _ _ _ _ hl, idBytes_order h1 h2, thenCmp_eq_then]

/-! ### cursors that are index keys are accepted -/

theorem encode_head_le (z : I256) : ∀ s, (encode z).head? = some s → s ≤ 1 := by
  intro s hs
  unfold encode at hs
  simp only [List.head?_cons, Option.some.injEq] at hs
  subst hs
  split <;> omega

theorem plainKey_eq (a : String) (e : Ent) : indexKey ⟨some a, false⟩ e = 2 :: plainCursor a e.raw e.id := by
  simp [indexKey, plainCursor]

/-- 35: delimiter, at least one value byte, delimiter, 32 id bytes -/
theorem decodeCursor_plain_of (a : String) (ab cur : List Nat) (hab : strBytes a.toList = ab) (h1 : cur.length ≤ maxHeaderLen)
    (h2 : ab.length + 35 ≤ cur.length) (h3 : cur.take ab.length = ab)
    (h4 : cur[ab.length]? = some 0) (h5 : cur[cur.length - 33]? = some 0) :
    decodeCursor (some a) false cur = .ok ⟨2 :: cur, 2 :: ab ++ [0]⟩ := by
  subst hab
  have n1 : ¬ maxHeaderLen < cur.length := by omega
  have n2 : ¬ cur.length < (strBytes a.toList).length + 1 + 1 + 1 + 32 := by omega
  simp only [decodeCursor, n1, n2, h3, h4, h5, if_false, Bool.false_eq_true, ne_eq, not_true_eq_false]

/-- 34: two delimiters, 32 id bytes -/
theorem decodeCursor_plain (a : String) (val : List Nat) (id : Nat) (hv : val ≠ [])
    (hlen : (strBytes a.toList).length + val.length + 34 ≤ maxHeaderLen) :
    decodeCursor (some a) false (plainCursor a val id) =
      .ok ⟨2 :: plainCursor a val id, 2 :: strBytes a.toList ++ [0]⟩ := by
  have hvl : 0 < val.length := List.length_pos_iff.mpr hv
  unfold plainCursor
  generalize hab : strBytes a.toList = ab at *
  have hl : (ab ++ 0 :: val ++ 0 :: idBytes id).length = ab.length + val.length + 34 := by
    simp only [List.length_append, List.length_cons, idBytes_length]; omega
  have hr : ab ++ 0 :: val ++ 0 :: idBytes id = ab ++ 0 :: (val ++ 0 :: idBytes id) := by
    rw [List.append_assoc, List.cons_append]
  refine decodeCursor_plain_of a ab _ hab (by omega) (by omega) (hr ▸ List.take_left) (hr ▸ getElem?_mid ab 0 _) ?_
  have e : (ab ++ 0 :: val ++ 0 :: idBytes id).length - 33 = (ab ++ 0 :: val).length := by
    rw [hl, List.length_append, List.length_cons]; omega
  rw [e]
  exact getElem?_mid (ab ++ 0 :: val) 0 (idBytes id)

theorem decodeCursor_int_of (a : String) (ab cur : List Nat) (s : Nat) (hab : strBytes a.toList = ab)
    (h1 : cur.length ≤ maxHeaderLen) (h2 : cur.length = ab.length + 1 + 33 + 32) (h3 : cur.take ab.length = ab)
    (h4 : cur[ab.length]? = some 0) (h5 : cur[ab.length + 1]? = some s) (hs : s ≤ 1) :
    decodeCursor (some a) true cur = .ok ⟨1 :: cur, 1 :: ab ++ [0]⟩ := by
  subst hab
  have n1 : ¬ maxHeaderLen < (strBytes a.toList).length + 1 + 33 + 32 := by omega
  have n2 : ¬ 1 < s := by omega
  simp only [decodeCursor, n1, n2, h2, h3, h4, h5, if_true, if_false, ne_eq, not_true_eq_false, decide_false, Bool.false_eq_true]

/-- 66: delimiter, 33-byte value, 32 id bytes -/
theorem decodeCursor_int (a : String) (enc : List Nat) (id : Nat) (hel : enc.length = 33)
    (hs : ∀ s, enc.head? = some s → s ≤ 1) (hlen : (strBytes a.toList).length + 66 ≤ maxHeaderLen) :
    decodeCursor (some a) true (strBytes a.toList ++ 0 :: enc ++ idBytes id) =
      .ok ⟨1 :: (strBytes a.toList ++ 0 :: enc ++ idBytes id), 1 :: strBytes a.toList ++ [0]⟩ := by
  generalize hab : strBytes a.toList = ab at *
  cases enc with
  | nil => simp at hel
  | cons s es =>
    have hl : (ab ++ 0 :: s :: es ++ idBytes id).length = ab.length + 1 + 33 + 32 := by
      simp only [List.length_append, List.length_cons, idBytes_length] at hel ⊢; omega
    have hr : ab ++ 0 :: s :: es ++ idBytes id = ab ++ 0 :: s :: (es ++ idBytes id) := by
      rw [List.append_assoc, List.cons_append, List.cons_append]
    refine decodeCursor_int_of a ab _ s hab (by omega) hl (hr ▸ List.take_left) (hr ▸ getElem?_mid ab 0 _) ?_ (hs s rfl)
    have := getElem?_mid (ab ++ [0]) s (es ++ idBytes id)
    rw [List.append_assoc, List.length_append] at this
    exact hr ▸ this

theorem decodeCursor_id (id : Nat) : decodeCursor none false (idBytes id) = .ok ⟨0 :: idBytes id, [0]⟩ := by
  simp [decodeCursor, idBytes_length]

end NeoFS.SearchMerge
