import NeoFS.Model.Assemble
import NeoFS.Props.C11
/-! Helper lemmas for `Props/C23.lean`: list slicing, the `requiredChildrenIter` window, the reverse walk. -/
namespace NeoFS.Assemble
open NeoFS.Spec

/-! ### slices -/

theorem slice_append (a b : Bytes) (o l : Nat) :
    slice (a ++ b) o l = slice a o l ++ slice b (o - a.length) (l - (a.length - o)) := by
  unfold slice
  rw [List.drop_append, List.take_append, List.length_drop]

theorem slice_append_fromTo (a b : Bytes) (frm to : Nat) :
    slice (a ++ b) frm (to - frm) =
      slice a frm (to - frm) ++ slice b (frm - a.length) (to - a.length - (frm - a.length)) := by
  rw [slice_append, Nat.sub_sub, Nat.sub_sub, show frm + (a.length - frm) = a.length + (frm - a.length) by omega]

theorem slice_beyond (c : Bytes) (o l : Nat) (h : c.length ≤ o) : slice c o l = [] := by
  unfold slice; simp [List.drop_of_length_le h]

theorem slice_to_end (c : Bytes) (o l : Nat) (h : c.length ≤ o + l) : slice c o l = c.drop o :=
  List.take_of_length_le (by rw [List.length_drop]; omega)

theorem slice_zero_of_length_le (c : Bytes) (l : Nat) (h : c.length ≤ l) : slice c 0 l = c :=
  slice_to_end c 0 l (by omega)

theorem slice_len_zero (c : Bytes) (o : Nat) : slice c o 0 = [] := by
  unfold slice; simp

theorem slice_append_left (a b : Bytes) (o l : Nat) (h : o + l ≤ a.length) : slice (a ++ b) o l = slice a o l := by
  rw [slice_append, show l - (a.length - o) = 0 by omega, slice_len_zero, List.append_nil]

/-! ### `Resolve` and reads of stored objects -/

theorem resolve_eq (mode f s n : Nat) (hm : mode ≤ 4) (hf : f < M64) (hs : s < M64) (hn : n < M64) :
    resolve mode f s n =
      match rangeSlice mode f s n with
      | some (o, l) => .ok (o, l)
      | none => .error .outOfRange := by
  unfold resolve
  rw [Range.resolve_spec mode f s n hm hf hs hn]
  cases rangeSlice mode f s n with
  | none => simp
  | some p => obtain ⟨o, l⟩ := p; simp

theorem readPhys_range (c : Bytes) (off ln : Nat) (h1 : 1 ≤ ln) (h2 : off + ln ≤ c.length) (hc : c.length < M64) :
    readPhys c (some (off, ln)) = .ok (slice c off ln) := by
  simp only [readPhys]
  rw [resolve_eq 1 off ln c.length (by omega) (by unfold M64 at *; omega) (by unfold M64 at *; omega) hc]
  have h0 : ln ≠ 0 := by omega
  simp [rangeSlice, h0, h2]

theorem readPhys_zero_zero (c : Bytes) (hc : c.length < M64) : readPhys c (some (0, 0)) = .ok c := by
  simp only [readPhys]
  rw [resolve_eq 1 0 0 c.length (by omega) (by unfold M64; omega) (by unfold M64; omega) hc]
  simp [rangeSlice, slice]

theorem readPhys_upto (c : Bytes) (o t : Nat) (ho : o < c.length) (hot : o < t) (hc : c.length < M64) :
    readPhys c (some (o, min t c.length - o)) = .ok (slice c o (t - o)) := by
  by_cases ht : t ≤ c.length
  · rw [Nat.min_eq_left ht, readPhys_range c o (t - o) (by omega) (by omega) hc]
  · rw [Nat.min_eq_right (by omega), readPhys_range c o _ (by omega) (by omega) hc,
      slice_to_end c o _ (by omega), slice_to_end c o _ (by omega)]

theorem readPhys_unless_empty (c : Bytes) (o l : Nat) (h : o + l ≤ c.length) (hc : c.length < M64) :
    (if l = 0 then .ok [] else readPhys c (some (o, l))) = .ok (slice c o l) := by
  by_cases hl : l = 0
  · rw [if_pos hl, hl, slice_len_zero]
  · rw [if_neg hl, readPhys_range c o l (by omega) h hc]

/-! ### `copyAll` -/

theorem copyAll_ok_cons (b : Bytes) (rest : List Res) :
    copyAll (.ok b :: rest) = match copyAll rest with | .error e => .error e | .ok bs => .ok (b ++ bs) := rfl

theorem copyAll_oks (l : List Bytes) : copyAll (l.map fun c => (.ok c : Res)) = .ok l.flatten := by
  induction l with
  | nil => rfl
  | cons c rest ih => simp [copyAll, ih]

theorem copyAll_append (xs ys : List Res) (a b : Bytes) (hx : copyAll xs = .ok a) (hy : copyAll ys = .ok b) :
    copyAll (xs ++ ys) = .ok (a ++ b) := by
  induction xs generalizing a with
  | nil => simp [copyAll] at hx; subst hx; simpa using hy
  | cons r rest ih =>
    cases r with
    | error e => simp [copyAll] at hx
    | ok x =>
      simp only [List.cons_append, copyAll] at hx ⊢
      cases hr : copyAll rest with
      | error e => simp [hr] at hx
      | ok y =>
        simp only [hr, Except.ok.injEq] at hx
        subst hx
        simp [ih y hr, List.append_assoc]

theorem copyAll_single (b : Bytes) : copyAll [.ok b] = .ok b := by simp [copyAll]

theorem copyAll_pair (a b : Bytes) : copyAll [.ok a, .ok b] = .ok (a ++ b) := by simp [copyAll]

/-! ### `requiredChildrenIter`: the running total only shifts the coordinates; each child restarts at `seen = 0` -/

theorem rcLast_shift (k right : Nat) : ∀ (sizes : List Nat) (seen : Nat),
    rcLast (right + k) sizes (seen + k) = rcLast right sizes seen := by
  intro sizes
  induction sizes with
  | nil => intro seen; rfl
  | cons x xs ih =>
    intro seen
    simp only [rcLast]
    rw [show seen + k + x = seen + x + k by omega, ih]
    simp only [Nat.add_le_add_iff_right, Nat.add_sub_add_right]

theorem rcFirst_shift (k left right : Nat) : ∀ (sizes : List Nat) (seen : Nat),
    rcFirst (left + k) (right + k) sizes (seen + k) = rcFirst left right sizes seen := by
  intro sizes
  induction sizes with
  | nil => intro seen; rfl
  | cons x xs ih =>
    intro seen
    simp only [rcFirst]
    rw [show seen + k + x = seen + x + k by omega, ih, rcLast_shift k right (x :: xs) seen]
    simp only [Nat.add_le_add_iff_right, Nat.add_sub_add_right]

theorem rcLast_cons_le {right x : Nat} (xs : List Nat) (h : right ≤ x) : rcLast right (x :: xs) 0 = some (0, right) := by
  simp only [rcLast, Nat.zero_add, if_pos h]
  rw [Nat.sub_sub_self h]

theorem rcLast_cons_gt {right x : Nat} (xs : List Nat) (h : x < right) :
    rcLast right (x :: xs) 0 = (rcLast (right - x) xs 0).map fun (i, b) => (i + 1, b) := by
  simp only [rcLast, Nat.zero_add, if_neg (Nat.not_le.mpr h)]
  rw [← rcLast_shift x (right - x) xs 0, Nat.sub_add_cancel (Nat.le_of_lt h), Nat.zero_add]

theorem rcFirst_cons_le {left right x : Nat} (xs : List Nat) (h : x ≤ left) (hlr : left < right) :
    rcFirst left right (x :: xs) 0 = (rcFirst (left - x) (right - x) xs 0).map fun (i, fo, l) => (i + 1, fo, l) := by
  simp only [rcFirst, Nat.zero_add, if_pos h]
  rw [← rcFirst_shift x (left - x) (right - x) xs 0, Nat.sub_add_cancel h, Nat.sub_add_cancel (by omega), Nat.zero_add]

theorem rcFirst_cons_gt {left x : Nat} (right : Nat) (xs : List Nat) (h : left < x) :
    rcFirst left right (x :: xs) 0 = some (0, left, rcLast right (x :: xs) 0) := by
  simp only [rcFirst, Nat.zero_add, if_neg (Nat.not_le.mpr h)]
  rw [Nat.sub_sub_self (Nat.le_of_lt h)]

theorem rcLast_append {right : Nat} (ys : List Nat) : ∀ {xs : List Nat} {seen : Nat} {r : Nat × Nat},
    rcLast right xs seen = some r → rcLast right (xs ++ ys) seen = some r := by
  intro xs
  induction xs with
  | nil => intro seen r h; cases h
  | cons x xs ih =>
    intro seen r h
    simp only [List.cons_append, rcLast] at h ⊢
    split_ifs at h ⊢ with hc
    · exact h
    · obtain ⟨r', h', rfl⟩ := Option.map_eq_some_iff.mp h
      rw [ih h']
      rfl

theorem rcFirst_append {left right : Nat} (ys : List Nat) : ∀ {xs : List Nat} {seen f fo : Nat} {q : Nat × Nat},
    rcFirst left right xs seen = some (f, fo, some q) → rcFirst left right (xs ++ ys) seen = some (f, fo, some q) := by
  intro xs
  induction xs with
  | nil => intro seen f fo q h; cases h
  | cons x xs ih =>
    intro seen f fo q h
    simp only [List.cons_append, rcFirst] at h ⊢
    split_ifs at h ⊢ with hc
    · obtain ⟨⟨f', fo', q'⟩, h', e⟩ := Option.map_eq_some_iff.mp h
      cases e
      rw [ih h']
      rfl
    · simp only [Option.some.injEq, Prod.mk.injEq] at h ⊢
      obtain ⟨rfl, rfl, hq⟩ := h
      exact ⟨rfl, rfl, rcLast_append (xs := x :: xs) ys hq⟩

/-! ### the window lies inside the children it names -/

theorem rcLast_bounds {per : Nat} : ∀ (xs : List Nat) (right l lb : Nat), (∀ x ∈ xs, x ≤ per) → 0 < right →
    rcLast right xs 0 = some (l, lb) → 1 ≤ lb ∧ lb ≤ per ∧ (l = 0 → lb = right) := by
  intro xs
  induction xs with
  | nil => intro right l lb _ _ h; cases h
  | cons x xs ih =>
    intro right l lb hx hr h
    have hxp : x ≤ per := hx x (by simp)
    by_cases hc : right ≤ x
    · rw [rcLast_cons_le _ hc] at h
      cases h
      omega
    · rw [rcLast_cons_gt _ (by omega)] at h
      obtain ⟨⟨l', lb'⟩, h', e⟩ := Option.map_eq_some_iff.mp h
      cases e
      have := ih (right - x) l' lb (fun y hy => hx y (by simp [hy])) (by omega) h'
      omega

theorem rcFirst_bounds {per : Nat} : ∀ (xs : List Nat) (left right f fo l lb : Nat), (∀ x ∈ xs, x ≤ per) →
    left < right → rcFirst left right xs 0 = some (f, fo, some (l, lb)) →
    fo < per ∧ 1 ≤ lb ∧ lb ≤ per ∧ (l = 0 → fo < lb) := by
  intro xs
  induction xs with
  | nil => intro left right f fo l lb _ _ h; cases h
  | cons x xs ih =>
    intro left right f fo l lb hx hlr h
    by_cases hc : x ≤ left
    · rw [rcFirst_cons_le _ hc hlr] at h
      obtain ⟨⟨f', fo', q⟩, h', e⟩ := Option.map_eq_some_iff.mp h
      cases e
      exact ih (left - x) (right - x) f' fo l lb (fun y hy => hx y (by simp [hy])) (by omega) h'
    · rw [rcFirst_cons_gt _ _ (by omega)] at h
      simp only [Option.some.injEq, Prod.mk.injEq] at h
      obtain ⟨rfl, rfl, h⟩ := h
      have := rcLast_bounds (x :: xs) right l lb hx (by omega) h
      have := hx x (by simp)
      omega

/-! ### the window of `requiredChildrenIter`

A reader of elements of type `α`: `pl c` is the payload of `c`, `rd c (off, ln)` yields the slice for a
non-empty in-bounds range and `rd c (mid c)` yields the whole payload. -/

section window
variable {α : Type} (rd : α → Option (Nat × Nat) → Res) (mid : α → Option (Nat × Nat)) (pl : α → Bytes)
  (good : α → Prop)
  (hrange : ∀ c off ln, good c → 1 ≤ ln → off + ln ≤ (pl c).length → rd c (some (off, ln)) = .ok (slice (pl c) off ln))
  (hmid : ∀ c, good c → rd c (mid c) = .ok (pl c))
include hrange hmid

theorem readRest_spec : ∀ (cs : List α) (right : Nat), 0 < right →
    right ≤ (cs.map pl).flatten.length → (∀ c ∈ cs, good c) →
    ∃ l lb, rcLast right (cs.map fun c => (pl c).length) 0 = some (l, lb) ∧
      copyAll (readRest rd mid cs l lb) = .ok ((cs.map pl).flatten.take right) := by
  intro cs
  induction cs with
  | nil => intro right h1 h2 _; simp at h2; omega
  | cons c rest ih =>
    intro right h1 h2 hg
    have hgc : good c := hg c (by simp)
    simp only [List.map_cons, List.flatten_cons, List.length_append] at h2 ⊢
    by_cases h : right ≤ (pl c).length
    · refine ⟨0, right, rcLast_cons_le _ h, ?_⟩
      rw [readRest, hrange c 0 right hgc h1 (by omega), copyAll_single, List.take_append_of_le_length h]
      rfl
    · obtain ⟨l, lb, e1, e2⟩ := ih (right - (pl c).length) (by omega) (by omega) (fun x hx => hg x (by simp [hx]))
      refine ⟨l + 1, lb, by rw [rcLast_cons_gt _ (by omega), e1]; rfl, ?_⟩
      rw [readRest, hmid c hgc, copyAll_ok_cons, e2, List.take_append, List.take_of_length_le (l := pl c) (by omega)]

theorem readFrom_spec : ∀ (cs : List α) (left right : Nat), left < right →
    right ≤ (cs.map pl).flatten.length → (∀ c ∈ cs, good c) →
    ∃ f fo l lb, rcFirst left right (cs.map fun c => (pl c).length) 0 = some (f, fo, some (l, lb)) ∧
      copyAll (readFrom rd mid (fun c => (pl c).length) (cs.drop f) fo l lb) =
        .ok (slice (cs.map pl).flatten left (right - left)) := by
  intro cs
  induction cs with
  | nil => intro left right h1 h2 _; simp at h2; omega
  | cons c rest ih =>
    intro left right h1 h2 hg
    have hgc : good c := hg c (by simp)
    have hgr : ∀ x ∈ rest, good x := fun x hx => hg x (by simp [hx])
    simp only [List.map_cons, List.flatten_cons, List.length_append] at h2 ⊢
    rw [slice_append_fromTo]
    by_cases h : (pl c).length ≤ left
    · obtain ⟨f, fo, l, lb, e1, e2⟩ := ih (left - (pl c).length) (right - (pl c).length) (by omega) (by omega) hgr
      refine ⟨f + 1, fo, l, lb, by rw [rcFirst_cons_le _ h h1, e1]; rfl, ?_⟩
      rw [List.drop_succ_cons, e2, slice_beyond _ _ _ h, List.nil_append]
    · rw [Nat.sub_eq_zero_of_le (Nat.le_of_not_le h), Nat.sub_zero]
      by_cases hr : right ≤ (pl c).length
      · refine ⟨0, left, 0, right, by rw [rcFirst_cons_gt _ _ (by omega), rcLast_cons_le _ hr], ?_⟩
        rw [List.drop_zero, readFrom, hrange c _ _ hgc (by omega) (by omega), copyAll_single,
          Nat.sub_eq_zero_of_le hr, slice_len_zero, List.append_nil]
      · obtain ⟨l, lb, e1, e2⟩ := readRest_spec rd mid pl good hrange hmid rest (right - (pl c).length)
          (by omega) (by omega) hgr
        refine ⟨0, left, l + 1, lb, by rw [rcFirst_cons_gt _ _ (by omega), rcLast_cons_gt _ (by omega), e1]; rfl, ?_⟩
        rw [List.drop_zero, readFrom, hrange c _ _ hgc (by omega) (by omega), copyAll_ok_cons, e2,
          slice_to_end _ left (right - left) (by omega), slice_to_end _ left _ (by omega)]
        rfl

/-- The children found by `requiredChildrenIter` and copied as a window are exactly `[off, off+ln)`. -/
theorem readWindow_spec (cs : List α) (off ln : Nat) (h1 : 1 ≤ ln)
    (h2 : off + ln ≤ (cs.map pl).flatten.length) (hg : ∀ c ∈ cs, good c) :
    (match requiredChildren off ln (cs.map fun c => (pl c).length) with
     | (none, _, _, _) => (.error .other : Res)
     | (some f, fo, l, lb) => readWindow rd mid (fun c => (pl c).length) cs f fo l lb) =
      .ok (slice (cs.map pl).flatten off ln) := by
  obtain ⟨f, fo, l, lb, e1, e2⟩ := readFrom_spec rd mid pl good hrange hmid cs off (off + ln) (by omega) (by omega) hg
  unfold requiredChildren
  rw [e1]
  simp only [readWindow]
  rw [if_neg (by omega), Nat.add_sub_cancel_left, e2, Nat.add_sub_cancel_left]

end window

/-! ### the reverse walk -/

/-- the code guards its subtractions; on naturals the guard changes nothing -/
theorem guarded_sub (a b : Nat) : (if b < a then a - b else 0) = a - b := by
  split <;> omega

theorem copyChain_cons (c : Bytes) (o l : Nat) (tl : List (Bytes × Nat × Nat)) (a b : Bytes)
    (h1 : copyChain tl = .ok a) (h2 : readPhys c (some (o, l)) = .ok b) :
    copyChain ((c, o, l) :: tl) = .ok (a ++ b) := by
  unfold copyChain at *
  simp only [List.reverse_cons, List.map_append, List.map_cons, List.map_nil]
  exact copyAll_append _ _ a b h1 (by rw [h2]; exact copyAll_single b)

/-- the entry of a child at `[cur, cur + |c|)` is the part of `[frm, to)` inside it -/
theorem buildChain_cons (frm to : Nat) (c : Bytes) (rest : List Bytes) (cur : Nat) (h : frm < cur + c.length) :
    buildChain frm to (c :: rest) (cur + c.length) =
      (if cur < to then [(c, frm - cur, min (to - cur) c.length - (frm - cur))] else []) ++
        buildChain frm to rest cur := by
  have e2 : (if frm > cur then c.length - (frm - cur) else c.length) = c.length - (frm - cur) := by split <;> omega
  have e3 : cur + (frm - cur) + (c.length - (frm - cur)) = cur + c.length := by omega
  simp only [buildChain, if_neg (Nat.not_le.mpr h), Nat.add_sub_cancel, gt_iff_lt, guarded_sub, e2, e3]
  by_cases ht : to < cur + c.length
  · rw [if_pos ht, Nat.min_eq_left (by omega), Nat.sub_right_comm]
  · rw [if_neg ht, Nat.min_eq_right (by omega)]

theorem buildChain_spec : ∀ (rs : List Bytes) (frm to : Nat), frm < to → (∀ c ∈ rs, c.length < M64) →
    copyChain (buildChain frm to rs rs.reverse.flatten.length) = .ok (slice rs.reverse.flatten frm (to - frm)) := by
  intro rs
  induction rs with
  | nil => intro frm to _ _; simp [buildChain, copyChain, copyAll, slice]
  | cons c rest ih =>
    intro frm to hft hg
    have hc : c.length < M64 := hg c (by simp)
    have ih' := ih frm to hft (fun x hx => hg x (by simp [hx]))
    simp only [List.reverse_cons, List.flatten_append, List.flatten_cons, List.flatten_nil, List.append_nil,
      List.length_append]
    generalize rest.reverse.flatten = P at ih' ⊢
    by_cases h : P.length + c.length ≤ frm
    · rw [buildChain, if_pos h, slice_beyond _ _ _ (by rw [List.length_append]; exact h)]
      rfl
    · rw [buildChain_cons _ _ _ _ _ (by omega), slice_append_fromTo]
      by_cases ht : P.length < to
      · rw [if_pos ht]
        apply copyChain_cons _ _ _ _ _ _ ih'
        by_cases hz : c = []
        · subst hz
          rw [show frm - P.length = 0 by simp at h; omega, List.length_nil, Nat.min_zero,
            slice_beyond [] 0 _ (Nat.le_refl _)]
          exact readPhys_zero_zero [] hc
        · have := List.length_pos_iff.mpr hz
          exact readPhys_upto c _ _ (by omega) (by omega) hc
      · rw [if_neg ht, List.nil_append, ih', show to - P.length = 0 by omega, Nat.zero_sub, slice_len_zero,
          List.append_nil]

/-! ### the seek guards and `initFromChild` -/

/-- the guard is translated from the source on every run: the proof looks only at its arithmetic -/
theorem guardV2_iff (off ln n : Nat) (ho : off < M64) (hl : ln < M64) (hn : n < M64) :
    guardV2 off ln n = true ↔ n < off + ln := by
  simp only [guardV2, Gen.v2LinkRangeGuard, Bool.or_eq_true, decide_eq_true_eq]
  unfold M64 at *
  omega

theorem guardV1_iff (off ln n : Nat) (ho : off < M64) (hl : ln < M64) (hn : n < M64) :
    guardV1 off ln n = true ↔ n < off + ln := by
  simp only [guardV1, Gen.v1RangeGuard, Bool.or_eq_true, decide_eq_true_eq]
  unfold M64 at *
  omega

theorem guardV2_passes (off ln n : Nat) (h : off + ln ≤ n) (hn : n < M64) : guardV2 off ln n = false := by
  rw [← Bool.not_eq_true, guardV2_iff off ln n (by omega) (by omega) hn]
  omega

theorem guardV1_passes (off ln n : Nat) (h : off + ln ≤ n) (hn : n < M64) : guardV1 off ln n = false := by
  rw [← Bool.not_eq_true, guardV1_iff off ln n (by omega) (by omega) hn]
  omega

/-- `initFromChild` starts the walk at the left edge of the starting child and gives that child its share of
`[off, off+ln)` in its own coordinates -/
theorem initFromChild_spec (n cl off ln : Nat) (hl : 1 ≤ ln) (hb : off + ln ≤ n) (hn : n < M64) (hcl : cl ≤ n) :
    initFromChild n cl off ln = .ok (n - cl, off - (n - cl), off + ln - (n - cl) - (off - (n - cl))) := by
  simp only [initFromChild, if_neg (Nat.ne_of_gt hl), guardV1_passes off ln n hb hn, Bool.false_eq_true, if_false,
    gt_iff_lt, guarded_sub]
  have hs : off + ln ≤ n - cl + cl := by omega
  generalize n - cl = sr at hs ⊢
  have e2 : (if sr + (off - sr) < off + ln then min (off + ln - sr) cl else 0) = off + ln - sr := by
    split
    · exact Nat.min_eq_left (by omega)
    · omega
  rw [e2]
  clear e2
  split
  · rfl
  · rw [show off - sr = 0 by omega, show off + ln - sr - 0 = 0 by omega]

/-- the range block of `v1`; `lastObj` is the last part, or the link object's empty payload -/
theorem v1_range (chain : List Bytes) (lastObj : Bytes) (o l : Nat) (hl : 1 ≤ l)
    (hb : o + l ≤ chain.flatten.length + lastObj.length) (hn : chain.flatten.length + lastObj.length < M64)
    (hg : ∀ c ∈ chain, c.length < M64) :
    (match initFromChild (chain.flatten.length + lastObj.length) lastObj.length o l with
      | .error e => (.error e : Res)
      | .ok (startRight, lastRange) =>
        copyAll [copyChain (buildChain o (o + l) chain.reverse startRight),
          if lastRange.2 = 0 then .ok [] else readPhys lastObj (some lastRange)]) =
      .ok (slice (chain.flatten ++ lastObj) o l) := by
  have hbody := buildChain_spec chain.reverse o (o + l) (by omega) (fun c hc => hg c (List.mem_reverse.mp hc))
  rw [List.reverse_reverse] at hbody
  rw [initFromChild_spec _ _ o l hl hb hn (by omega), Nat.add_sub_cancel]
  simp only
  rw [hbody, readPhys_unless_empty lastObj _ _ (by omega) (by omega), copyAll_pair, ← slice_append_fromTo,
    Nat.add_sub_cancel_left]

/-! ### erasure-coded parts: the same window over equal-size parts, with unavailable parts recovered -/

/-- reading a part (with its availability flag, as in `ECObj.slots`) whose bytes are at hand: a plain slice -/
def sliceRd (x : Bool × Bytes) : Option (Nat × Nat) → Res
  | none => .ok x.2
  | some (o, n) => .ok (slice x.2 o n)

theorem recAll_eq_readRest (per : Nat) : ∀ (ps : List (Bool × Bytes)) (l lb : Nat),
    recAll per ps l lb = readRest sliceRd (fun _ => some (0, per)) ps l lb := by
  intro ps
  induction ps with
  | nil => intro l lb; rfl
  | cons x rest ih =>
    intro l lb
    cases l with
    | zero => rfl
    | succ l => rw [recAll, readRest, ih]; rfl

/-- within its bounds a part reads the same from storage as sliced from its recovered bytes -/
theorem ecRest_eq_readRest {per : Nat} (hper1 : 1 ≤ per) (hperM : per < M64) :
    ∀ (ps : List (Bool × Bytes)) (l lb : Nat), (∀ x ∈ ps, x.2.length = per) → 1 ≤ lb → lb ≤ per →
    ecRest true per ps l lb = readRest sliceRd (fun _ => some (0, per)) ps l lb := by
  intro ps
  induction ps with
  | nil => intro l lb _ _ _; rfl
  | cons x rest ih =>
    intro l lb hg h1 h2
    obtain ⟨a, c⟩ := x
    have hc : c.length = per := hg (a, c) (by simp)
    cases a with
    | false => exact recAll_eq_readRest per _ l lb
    | true =>
      cases l with
      | zero =>
        simp only [ecRest, if_true, readRest]
        rw [readPhys_range c 0 lb h1 (by omega) (by omega)]
        rfl
      | succ l =>
        simp only [ecRest, if_true, readRest]
        rw [readPhys_range c 0 per hper1 (by omega) (by omega), ih l lb (fun y hy => hg y (by simp [hy])) h1 h2]
        rfl

theorem ecFrom_eq_readFrom {per : Nat} (hper1 : 1 ≤ per) (hperM : per < M64) (ps : List (Bool × Bytes)) (fo l lb : Nat) (hg : ∀ x ∈ ps, x.2.length = per) (hfo : fo < per)
    (h1 : 1 ≤ lb) (h2 : lb ≤ per) (h0 : l = 0 → fo < lb) :
    ecFrom true per ps fo l lb = readFrom sliceRd (fun _ => some (0, per)) (fun x => x.2.length) ps fo l lb := by
  cases ps with
  | nil => rfl
  | cons x rest =>
    obtain ⟨a, c⟩ := x
    have hc : c.length = per := hg (a, c) (by simp)
    cases a with
    | false =>
      cases l with
      | zero =>
        simp only [ecFrom, Bool.false_eq_true, if_false, if_true, readFrom, sliceRd, slice, List.drop_take]
      | succ l =>
        simp only [ecFrom, Bool.false_eq_true, if_false, if_true, readFrom, sliceRd, slice, List.drop_take, hc,
          recAll_eq_readRest]
    | true =>
      cases l with
      | zero =>
        simp only [ecFrom, if_true, readFrom]
        rw [readPhys_range c fo (lb - fo) (by omega) (by omega) (by omega)]
        rfl
      | succ l =>
        simp only [ecFrom, if_true, readFrom]
        rw [readPhys_range c fo (per - fo) (by omega) (by omega) (by omega),
          ecRest_eq_readRest hper1 hperM rest l lb (fun y hy => hg y (by simp [hy])) h1 h2, hc]
        rfl

theorem ecFrom_spec {per : Nat} (hper1 : 1 ≤ per) (hperM : per < M64) (ps : List (Bool × Bytes)) (left right : Nat) (h1 : left < right)
    (h2 : right ≤ (ps.map (·.2)).flatten.length) (hg : ∀ x ∈ ps, x.2.length = per) :
    ∃ f fo l lb, rcFirst left right (ps.map fun x => x.2.length) 0 = some (f, fo, some (l, lb)) ∧
      copyAll (ecFrom true per (ps.drop f) fo l lb) = .ok (slice (ps.map (·.2)).flatten left (right - left)) := by
  obtain ⟨f, fo, l, lb, e1, e2⟩ := readFrom_spec sliceRd (fun _ => some (0, per)) (·.2) (fun x => x.2.length = per)
    (fun _ _ _ _ _ _ => rfl) (fun x hx => congrArg Except.ok (slice_zero_of_length_le x.2 per (by omega)))
    ps left right h1 h2 hg
  obtain ⟨b1, b2, b3, b4⟩ := rcFirst_bounds (per := per) _ left right f fo l lb
    (fun y hy => by obtain ⟨x, hx, rfl⟩ := List.mem_map.mp hy; exact Nat.le_of_eq (hg x hx)) h1 e1
  exact ⟨f, fo, l, lb, e1, by
    rw [ecFrom_eq_readFrom hper1 hperM _ fo l lb (fun x hx => hg x (List.mem_of_mem_drop hx)) b1 b2 b3 b4, e2]⟩

end NeoFS.Assemble
