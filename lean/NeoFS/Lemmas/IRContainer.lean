import NeoFS.Model.IRContainer
/-
Declarative specification of "the owner authorised the operation" and the helper lemmas
relating it to the executable checks of Model/IRContainer.lean.
-/
namespace NeoFS.IRContainer

variable {σ : Type}

/-! ### the specification -/

/-- a token signature that authenticates `issuer` over the named data -/
def SignedBy (C : Crypto σ) (issuer : User) (d : Data) (s : TSig σ) : Prop :=
  issuer ≠ 0 ∧
  ((∃ k x, s = .ecdsa (some k) x ∧ C.verify k d x = true ∧ C.userOf k = issuer) ∨
   (∃ vs x, s = .n3 vs x ∧ C.n3 issuer d x vs = true))

/-- the request payload is witnessed by the owner: a key that derives the owner's id signed
    it, or the chain accepted the owner account's N3 witness -/
def OwnerSignedRequest (C : Crypto σ) (a : Auth σ) : Prop :=
  (∃ k, a.vs = .key k ∧ C.verify k .request a.sig = true ∧ C.userOf k = a.owner) ∨
  ((∀ k, a.vs ≠ .key k) ∧ C.n3 a.owner .request a.sig a.vs = true)

/-- V1 delegation: the owner signed a token for exactly this verb, for this container (or for
    any), alive at the current epoch, naming the session key that signed the request payload -/
def DelegatedV1 (C : Crypto σ) (env : Env) (a : Auth σ) (t : TokV1 σ) : Prop :=
  SignedBy C t.issuer (.token 0) t.sig ∧ t.issuer = a.owner ∧ t.verb = a.kind.v1 ∧
  (a.idSet = true → t.cnr = 0 ∨ t.cnr = a.target) ∧
  (t.nbf ≤ env.epoch ∧ t.iat ≤ env.epoch ∧ env.epoch ≤ t.exp) ∧
  ∃ k, t.authKey = some k ∧ C.verify k .request a.sig = true

/-- a V2 token grants a verb for a container: some context is the wildcard or names the
    container and lists the verb -/
def Grants (t : TokV2 σ) (verb : Nat) (cnr : Cid) : Prop :=
  ∃ c ∈ t.ctxs, (c.cnr = 0 ∨ c.cnr = cnr) ∧ verb ∈ c.verbs

/-- V2 delegation chain rooted at the owner: every token is signed by its issuer, the root is
    issued by the owner, every issuer is a subject of the token it delegates from, and EVERY
    token of the chain (the owner's included) grants this verb for this container and is alive
    now (between nbf and exp) -/
def ChainFromOwner (C : Crypto σ) (env : Env) (a : Auth σ) (ch : List (TokV2 σ)) : Prop :=
  ch ≠ [] ∧
  (∀ i t, ch[i]? = some t → SignedBy C t.issuer (.token i) t.sig) ∧
  originalIssuer ch = a.owner ∧
  (∀ i t o, ch[i]? = some t → ch[i+1]? = some o → t.issuer ∈ o.subjects) ∧
  (∀ t ∈ ch, Grants t a.kind.v2 a.target ∧ t.nbf ≤ env.now ∧ env.now ≤ t.exp)

/-- the request payload is signed by a party the (outermost) token names: one of its subjects
    or its issuer.  This is the weakest reading of "the token delegates to the signer". -/
def RequestSignedByParty (C : Crypto σ) (a : Auth σ) (t : TokV2 σ) : Prop :=
  ∃ k, a.vs = .key k ∧ C.verify k .request a.sig = true ∧
    (C.userOf k ∈ t.subjects ∨ C.userOf k = t.issuer)

/-- THE specification: the container owner authorised this request -/
def OwnerAuthorised (C : Crypto σ) (env : Env) (a : Auth σ) : Prop :=
  match a.tok with
  | .none => OwnerSignedRequest C a
  | .garbage => False
  | .v1 t => DelegatedV1 C env a t
  | .v2 ch => ChainFromOwner C env a ch ∧ ∃ t r, ch = t :: r ∧ RequestSignedByParty C a t

/-- what the code establishes: as `OwnerAuthorised`, but for V2 tokens WITHOUT any statement
    about who signed the request payload -/
def TokenAuthorised (C : Crypto σ) (env : Env) (a : Auth σ) : Prop :=
  match a.tok with
  | .none => OwnerSignedRequest C a
  | .garbage => False
  | .v1 t => DelegatedV1 C env a t
  | .v2 ch => ChainFromOwner C env a ch

def Tok.isV2 : Tok σ → Bool
  | .v2 _ => true
  | _ => false

theorem authToken_signedBy (C : Crypto σ) {i : User} {d : Data} {s : TSig σ}
    (h : authToken C i d s = true) : SignedBy C i d s := by
  cases s with
  | none => cases h
  | unsupported => cases h
  | ecdsa k x =>
    cases k with
    | none => cases h
    | some k =>
      simp only [authToken, Bool.and_eq_true, bne_iff_ne, ne_eq, beq_iff_eq] at h
      exact ⟨h.1.1, Or.inl ⟨k, x, rfl, h.1.2, h.2⟩⟩
  | n3 vs x =>
    simp only [authToken, Bool.and_eq_true, bne_iff_ne, ne_eq] at h
    exact ⟨h.1, Or.inr ⟨vs, x, rfl, h.2⟩⟩

theorem unauthVerb_none_mem {req av : List Nat} (h : unauthVerb req av = none) :
    ∀ v ∈ req, v ∈ av := by
  fun_induction unauthVerb req av with
  | case1 => intro v hv; cases hv
  | case2 => simp at h
  | case3 r rs a as heq ih =>
    intro v hv
    have hra : r = a := by simpa using heq
    cases hv with
    | head => subst hra; exact List.mem_cons_self
    | tail _ hv' => exact List.mem_cons_of_mem _ (ih h v hv')
  | case4 => simp at h
  | case5 r rs a as _ _ ih =>
    intro v hv
    exact List.mem_cons_of_mem _ (ih h v hv)

theorem wildcardVerbs_some (cs : List Ctx) (w : List Nat) (h : wildcardVerbs cs = some w) :
    ∃ c ∈ cs, c.cnr = 0 ∧ c.verbs = w := by
  cases cs with
  | nil => cases h
  | cons c r =>
    simp only [wildcardVerbs] at h
    split at h
    · rename_i hc
      simp only [Option.some.injEq] at h
      exact ⟨c, List.mem_cons_self, by simpa using hc, h⟩
    · cases h

/-- one step of `validateDelegatedContexts` -/
theorem of_delegatedOk_cons {wild : Option (List Nat)} {o ds : List Ctx} {d : Ctx}
    (h : delegatedOk wild o (d :: ds) = true) :
    ((∃ c ∈ o.dropWhile (fun c => c.cnr < d.cnr), c.cnr = d.cnr ∧ unauthVerb d.verbs c.verbs = none) ∨
      (∃ w, wild = some w ∧ unauthVerb d.verbs w = none)) ∧
    delegatedOk wild (o.dropWhile (fun c => c.cnr < d.cnr)) ds = true := by
  have viaWild : ∀ {b : Bool}, (match (generalizing := false) wild with
        | some w => (unauthVerb d.verbs w).isNone && b | none => false) = true →
      (∃ w, wild = some w ∧ unauthVerb d.verbs w = none) ∧ b = true := by
    intro b hw
    cases wild with
    | none => cases hw
    | some w =>
      obtain ⟨h1, h2⟩ := Bool.and_eq_true_iff.mp hw
      exact ⟨⟨w, rfl, Option.isNone_iff_eq_none.mp h1⟩, h2⟩
  unfold delegatedOk at h
  simp only at h
  split at h
  · rename_i c rest heq
    split at h
    · rename_i hceq
      obtain ⟨h1, h2⟩ := Bool.and_eq_true_iff.mp h
      exact ⟨.inl ⟨c, heq ▸ List.mem_cons_self, beq_iff_eq.mp hceq, Option.isNone_iff_eq_none.mp h1⟩, h2⟩
    · exact ⟨.inr (viaWild h).1, (viaWild h).2⟩
  · exact ⟨.inr (viaWild h).1, (viaWild h).2⟩

/-- a context of the delegated token that grants (verb, cnr) has a granting context in the origin -/
theorem delegatedOk_grants (O : List Ctx) (wild : Option (List Nat))
    (hw : ∀ w, wild = some w → ∃ c ∈ O, c.cnr = 0 ∧ c.verbs = w)
    (verb : Nat) (cnr : Cid) :
    ∀ (o ds : List Ctx), (∀ c ∈ o, c ∈ O) → delegatedOk wild o ds = true →
      ∀ d ∈ ds, (d.cnr = 0 ∨ d.cnr = cnr) → verb ∈ d.verbs →
        ∃ c ∈ O, (c.cnr = 0 ∨ c.cnr = cnr) ∧ verb ∈ c.verbs := by
  intro o ds
  induction ds generalizing o with
  | nil => intro _ _ d hd; cases hd
  | cons d0 ds ih =>
    intro ho h d hd hc hv
    obtain ⟨hhead, htail⟩ := of_delegatedOk_cons h
    have ho' : ∀ c ∈ o.dropWhile (fun c => c.cnr < d0.cnr), c ∈ O :=
      fun c hcm => ho c ((List.dropWhile_sublist _).subset hcm)
    rcases List.mem_cons.mp hd with rfl | hd'
    · rcases hhead with ⟨c, hcm, hcd, hun⟩ | ⟨w, hwe, hun⟩
      · exact ⟨c, ho' c hcm, hcd ▸ hc, unauthVerb_none_mem hun verb hv⟩
      · obtain ⟨c, hcO, hc0, hcv⟩ := hw w hwe
        exact ⟨c, hcO, .inl hc0, hcv ▸ unauthVerb_none_mem hun verb hv⟩
    · exact ih _ ho' htail d hd' hc hv

theorem assertContainer_grants {t : TokV2 σ} {verb : Nat} {cnr : Cid}
    (h : assertContainer t.ctxs verb cnr = true) : Grants t verb cnr := by
  simp only [assertContainer, Bool.and_eq_true, List.any_eq_true, Bool.or_eq_true, beq_iff_eq,
    List.contains_iff_mem] at h
  obtain ⟨_, c, hc, hcn, hv⟩ := h
  exact ⟨c, hc, hcn, hv⟩

theorem validAtV2_bounds {t : TokV2 σ} {now : Nat} (h : validAtV2 t now = true) :
    t.nbf ≤ now ∧ now ≤ t.exp := by
  unfold validAtV2 at h
  unfold TokV2.nbf TokV2.exp
  cases hl : t.life with
  | none => simp [hl] at h
  | some l =>
    obtain ⟨i, n, e⟩ := l
    simp only [hl, Bool.and_eq_true, decide_eq_true_eq] at h
    exact ⟨h.2, h.1.2⟩

theorem authChain_signed (C : Crypto σ) :
    ∀ (ch : List (TokV2 σ)) (d : Nat), authChain C d ch = true →
      ∀ i t, ch[i]? = some t → SignedBy C t.issuer (.token (d + i)) t.sig := by
  intro ch
  induction ch with
  | nil => intro d _ i t ht; cases ht
  | cons t r ih =>
    intro d ha i x hx
    obtain ⟨hr, ht⟩ := Bool.and_eq_true_iff.mp
      (ha : (authChain C (d + 1) r && authToken C t.issuer (.token d) t.sig) = true)
    cases i with
    | zero => exact Option.some.inj hx ▸ authToken_signedBy C ht
    | succ n =>
      have e : d + 1 + n = d + (n + 1) := by rw [Nat.add_assoc, Nat.add_comm 1 n]
      exact e ▸ ih (d + 1) hr n x hx

theorem of_validateChain_cons_cons {d : Nat} {t o : TokV2 σ} {r : List (TokV2 σ)}
    (h : validateChain d (t :: o :: r) = true) :
    delegatedOk (wildcardVerbs o.ctxs) o.ctxs t.ctxs = true ∧ t.issuer ∈ o.subjects ∧
      (o.nbf ≤ t.nbf ∧ t.exp ≤ o.exp) ∧ validateChain (d + 1) (o :: r) = true := by
  simp only [validateChain, Bool.and_eq_true, List.contains_iff_mem, decide_eq_true_eq] at h
  exact ⟨h.1.1.1.2, h.1.1.2, h.1.2, h.2⟩

theorem validateChain_links :
    ∀ (ch : List (TokV2 σ)) (d : Nat), validateChain d ch = true →
      ∀ i t o, ch[i]? = some t → ch[i+1]? = some o → t.issuer ∈ o.subjects := by
  intro ch
  induction ch with
  | nil => intro d _ i t o ht; cases ht
  | cons t r ih =>
    intro d hv i x y hx hy
    cases r with
    | nil => cases hy
    | cons o r' =>
      obtain ⟨-, hsub, -, hrec⟩ := of_validateChain_cons_cons hv
      cases i with
      | zero => exact Option.some.inj hx ▸ Option.some.inj hy ▸ hsub
      | succ n => exact ih (d + 1) hrec n x y hx hy

/-- what the head grants and its life span are inherited by every origin -/
theorem validateChain_inherits (verb : Nat) (cnr : Cid) (now : Nat) :
    ∀ (r : List (TokV2 σ)) (d : Nat) (t : TokV2 σ), validateChain d (t :: r) = true →
      Grants t verb cnr → t.nbf ≤ now → now ≤ t.exp →
      ∀ x ∈ t :: r, Grants x verb cnr ∧ x.nbf ≤ now ∧ now ≤ x.exp := by
  intro r
  induction r with
  | nil => intro d t _ hg hn he x hx; rw [List.mem_singleton.mp hx]; exact ⟨hg, hn, he⟩
  | cons o r' ih =>
    intro d t hv hg hn he x hx
    rcases List.mem_cons.mp hx with rfl | hx'
    · exact ⟨hg, hn, he⟩
    · obtain ⟨hdel, -, ⟨hnbf, hexp⟩, hrec⟩ := of_validateChain_cons_cons hv
      obtain ⟨c, hc, hcn, hcv⟩ := hg
      have hgo : Grants o verb cnr :=
        delegatedOk_grants o.ctxs (wildcardVerbs o.ctxs) (wildcardVerbs_some o.ctxs)
          verb cnr o.ctxs t.ctxs (fun _ h => h) hdel c hc hcn hcv
      exact ih (d + 1) o hrec hgo (Nat.le_trans hnbf hn) (Nat.le_trans he hexp) x hx'

theorem originalIssuer_cons_ne (t : TokV2 σ) (r : List (TokV2 σ)) (h : r ≠ []) :
    originalIssuer (t :: r) = originalIssuer r := by
  cases r with
  | nil => exact absurd rfl h
  | cons _ _ => rfl

theorem verifySessionV2_sound (C : Crypto σ) (env : Env) (a : Auth σ) (ch : List (TokV2 σ))
    (h : verifySessionV2 C env a ch = true) : ChainFromOwner C env a ch := by
  cases ch with
  | nil => cases h
  | cons t r =>
    simp only [verifySessionV2, Bool.and_eq_true, beq_iff_eq] at h
    obtain ⟨⟨⟨⟨hval, hauth⟩, hassert⟩, hiss⟩, hlife⟩ := h
    have hb := validAtV2_bounds hlife
    refine ⟨List.cons_ne_nil t r, fun i x hx => ?_, hiss, validateChain_links _ 0 hval, ?_⟩
    · exact Nat.zero_add i ▸ authChain_signed C _ 0 hauth i x hx
    · exact validateChain_inherits a.kind.v2 a.target env.now r 0 t hval
        (assertContainer_grants hassert) hb.1 hb.2

theorem verifySessionV1_sound (C : Crypto σ) (env : Env) (a : Auth σ) (t : TokV1 σ)
    (h : verifySessionV1 C env a t = true) : DelegatedV1 C env a t := by
  simp only [verifySessionV1, Bool.and_eq_true, beq_iff_eq, Bool.or_eq_true, decide_eq_true_eq,
    Bool.not_eq_true'] at h
  obtain ⟨⟨⟨⟨⟨hauth, hverb⟩, hcnr⟩, hiss⟩, hlife⟩, hkey⟩ := h
  refine ⟨authToken_signedBy C hauth, hiss, hverb, ?_, ⟨hlife.1.1, hlife.1.2, hlife.2⟩, ?_⟩
  · intro hs
    rcases hcnr with (hc | hc) | hc
    · rw [hs] at hc; cases hc
    · exact Or.inl hc
    · exact Or.inr hc
  · cases hk : t.authKey with
    | none => simp [hk] at hkey
    | some k => exact ⟨k, rfl, by simpa [hk] using hkey⟩

theorem authDirect_sound (C : Crypto σ) (a : Auth σ) (h : authDirect C a = true) :
    OwnerSignedRequest C a := by
  unfold authDirect at h
  cases hv : a.vs with
  | key k =>
    simp only [hv, Bool.and_eq_true, beq_iff_eq] at h
    exact Or.inl ⟨k, hv, h.1, h.2⟩
  | other n =>
    simp only [hv] at h
    exact Or.inr ⟨fun k hk => (by rw [hv] at hk; cases hk), (by rw [hv]; exact h)⟩

section
variable {C : Crypto σ} {cfg : Cfg} {env : Env} {al : Bool} {a : Auth σ}

theorem validateEACL_iff {t : List ERecord} :
    validateEACL t = true ↔
      ∀ r ∈ t, r.comment = 0 ∧ (∀ role ∈ r.roles, role ≠ roleSystem) ∧ ∀ f ∈ r.filters, filterOk f = true := by
  simp only [validateEACL, List.all_eq_true, Bool.and_eq_true, beq_iff_eq, bne_iff_ne, ne_eq, and_assoc]

theorem checkSetEACL_iff {e : EaclBody} :
    checkSetEACL C env e a = true ↔
      validateEACL e.records = true ∧ e.extendable = true ∧ verifySignature C env a = true := by
  simp only [checkSetEACL, Bool.and_eq_true, and_assoc]

theorem approve_put_iff {dec : Bool} {p : PutBody} {nid : Cid} {e : Option (EaclBody × Auth σ)} :
    approve C cfg env al (.put dec p a nid e) = true ↔
      al = true ∧ dec = true ∧
      (putStaticOk cfg p = true ∧ verifySignature C env a = true ∧ p.policyOk = true ∧ nnsOk p = true) ∧
      ∀ eb ea, e = some (eb, ea) → eb.tableOk = true ∧ eb.tableCid = nid ∧ checkSetEACL C env eb ea = true := by
  cases e with
  | none =>
    simp only [approve, checkPut, Bool.and_true, Bool.and_eq_true, and_assoc, reduceCtorEq, false_implies,
      implies_true, and_true]
  | some pe =>
    obtain ⟨eb, ea⟩ := pe
    simp only [approve, checkPut, Bool.and_eq_true, and_assoc, beq_iff_eq, Option.some.injEq, Prod.mk.injEq,
      and_imp, forall_apply_eq_imp_iff, forall_eq']

theorem approve_delete_iff {idOk found : Bool} :
    approve C cfg env al (.delete idOk found a) = true ↔
      al = true ∧ idOk = true ∧ found = true ∧ verifySignature C env a = true := by
  simp only [approve, Bool.and_eq_true, and_assoc]

theorem approve_eacl_iff {found : Bool} {e : EaclBody} :
    approve C cfg env al (.eacl found e a) = true ↔
      al = true ∧ e.tableOk = true ∧ e.tableCid ≠ 0 ∧ found = true ∧ checkSetEACL C env e a = true := by
  simp only [approve, Bool.and_eq_true, bne_iff_ne, ne_eq, and_assoc]

theorem approve_attr_iff {idOk nz ne found : Bool} :
    approve C cfg env al (.attr idOk nz ne found a) = true ↔
      al = true ∧ idOk = true ∧ nz = true ∧ ne = true ∧ found = true ∧ verifySignature C env a = true := by
  simp only [approve, Bool.and_eq_true, and_assoc]

end

end NeoFS.IRContainer
