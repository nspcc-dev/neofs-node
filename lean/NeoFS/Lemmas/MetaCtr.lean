import NeoFS.Lemmas.MetaWF
-- no tactic of it is used: it brings Mathlib's `Zero ℕ` into scope, with which `List.sum` in `refCount` and `viewCount`
-- (`Props/C02.lean`) is elaborated
import Mathlib.Tactic.IntervalCases
/-!
Counter invariants of the metabase model: the five typed counters (PHY, ROOT, TS, LOCK, LINK) of a live
bucket equal the number of indexed objects of each kind (for `Props/C02.lean`).
-/
namespace NeoFS.Meta

/-- the five kinds counted by the typed counters -/
def flag : Nat → Rec → Bool
  | 0, r => r.phy
  | 1, r => r.root
  | 2, r => r.typ == .tombstone
  | 3, r => r.typ == .lock
  | _, r => r.typ == .link

def getC : Nat → Counters → Nat
  | 0, c => c.phy | 1, c => c.root | 2, c => c.ts | 3, c => c.lock | _, c => c.link

def getD : Nat → Diff → Int
  | 0, d => d.phy | 1, d => d.root | 2, d => d.ts | 3, d => d.lock | _, d => d.link

theorem forall_lt_five {P : Nat → Prop} (h0 : P 0) (h1 : P 1) (h2 : P 2) (h3 : P 3) (h4 : P 4) : ∀ k, k < 5 → P k
  | 0, _ => h0 | 1, _ => h1 | 2, _ => h2 | 3, _ => h3 | 4, _ => h4

theorem getC_apply (k : Nat) (c : Counters) (d : Diff) : getC k (c.apply d) = updCounter (getC k c) (getD k d) := by
  unfold Counters.apply
  match k with
  | 0 => rfl | 1 => rfl | 2 => rfl | 3 => rfl | (n + 4) => rfl

theorem getD_add (k : Nat) (a b : Diff) : getD k (a.add b) = getD k a + getD k b := by
  unfold Diff.add
  match k with
  | 0 => rfl | 1 => rfl | 2 => rfl | 3 => rfl | (n + 4) => rfl

theorem updCounter_eq {c n : Nat} {d : Int} (h : (n : Int) = c + d) : updCounter c d = n := by
  unfold updCounter
  split <;> omega

theorem updCounter_natCast (c n : Nat) : updCounter c n = c + n := updCounter_eq (Int.natCast_add c n)

/-- `CtrOK` of a live bucket -/
structure CtrInv (c : Cnr) : Prop where
  typed : ∀ k, k < 5 → getC k c.ctr = c.recs.countP (flag k)
  rootReg : ∀ r ∈ c.recs, r.root = true → r.typ = .regular

/-- the invariant of every bucket: a live bucket counts exactly what it indexes, a removed container
reports zero objects of every kind; ROOT is only ever set on regular objects -/
structure CtrOK (c : Cnr) : Prop where
  typed : ∀ k, k < 5 → getC k c.ctr = if c.gcMark then 0 else c.recs.countP (flag k)
  rootReg : ∀ r ∈ c.recs, r.root = true → r.typ = .regular

theorem CtrOK.inv {c : Cnr} (h : CtrOK c) (hg : c.gcMark = false) : CtrInv c :=
  ⟨fun k hk => by have := h.typed k hk; simpa [hg] using this, h.rootReg⟩

theorem CtrInv.ok {c : Cnr} (h : CtrInv c) (hg : c.gcMark = false) : CtrOK c :=
  ⟨fun k hk => by rw [h.typed k hk]; simp [hg], h.rootReg⟩

theorem insertRec_perm (r : Rec) (l : List Rec) (h : ∀ x ∈ l, x.id ≠ r.id) : (insertRec r l).Perm (r :: l) := by
  rw [insertRec_eq]
  exact insertBy_perm r h

theorem countP_insertRec_new (p : Rec → Bool) (r : Rec) (l : List Rec) (h : ∀ x ∈ l, x.id ≠ r.id) :
    (insertRec r l).countP p = l.countP p + (if p r then 1 else 0) := by
  rw [(insertRec_perm r l h).countP_eq, List.countP_cons]

theorem mem_insertRec_new (r : Rec) : ∀ (l : List Rec), (∀ x ∈ l, x.id ≠ r.id) →
    ∀ x, x ∈ insertRec r l ↔ (x = r ∨ x ∈ l) :=
  fun l h _ => (insertRec_perm r l h).mem_iff.trans List.mem_cons

theorem countP_filter_remove (p : Rec → Bool) (l : List Rec) (hs : RecsSorted l) (r : Rec) (hr : r ∈ l) :
    (l.filter (·.id != r.id)).countP p + (if p r then 1 else 0) = l.countP p := by
  induction l with
  | nil => cases hr
  | cons y ys ih =>
    unfold RecsSorted at hs
    rw [List.pairwise_cons] at hs
    simp only [List.mem_cons] at hr
    rcases hr with rfl | hr
    · -- the head is removed; nothing else has this id
      have hrest : ys.filter (·.id != r.id) = ys := by
        apply List.filter_eq_self.mpr
        intro x hx
        have := hs.1 x hx
        simp; omega
      simp only [List.filter_cons, bne_self_eq_false, Bool.false_eq_true, if_false, hrest, List.countP_cons]
    · have hlt := hs.1 r hr
      have hne : (y.id != r.id) = true := by simp; omega
      simp only [List.filter_cons, hne, if_true, List.countP_cons]
      have := ih hs.2 hr
      omega

theorem filter_sub_countP (p q : Rec → Bool) (l : List Rec) : (l.filter q).countP p ≤ l.countP p :=
  List.filter_sublist.countP_le

theorem putKind_diff {c1 c2 : Cnr} {epoch level : Nat} {h : Hdr} {b : Bool} {e e' : Err} {d : Diff}
    (heq : putKind c1 epoch level h b e = (some (c2, d), e'))
    (hsg : h.typ ≠ .storageGroup) (hlev : h.typ ≠ .regular → level = 0) :
    ∀ k, k < 5 → getD k d = ((if flag k (recOf h b (level == 0)) then 1 else 0 : Nat) : Int) := by
  unfold recOf
  -- per object type the diff is a record of literals
  cases ht : h.typ <;> rw [ht] at hlev
  · cases putKind_regular ht ▸ heq
    unfold levelDiff
    cases h.hasParent b <;> cases (level == 0) <;> exact forall_lt_five rfl rfl rfl rfl rfl
  · cases hlev (by decide)
    obtain ⟨-, g, p, rfl⟩ := putKind_tombstone_some ht heq
    exact forall_lt_five rfl (by cases h.hasParent b <;> rfl) rfl rfl rfl
  · cases hlev (by decide)
    rw [(putKind_lock_some ht heq).2]
    exact forall_lt_five rfl (by cases h.hasParent b <;> rfl) rfl rfl rfl
  · cases hlev (by decide)
    cases putKind_link ht ▸ heq
    exact forall_lt_five rfl (by cases h.hasParent b <;> rfl) rfl rfl rfl
  · exact absurd ht hsg

theorem putSelf_inv (c0 c1 : Cnr) (h0 : CtrInv c0) (h1 : CtrInv c1) (epoch level : Nat) (h : Hdr) (b : Bool)
    (e : Err) (hnew : ∀ x ∈ c1.recs, x.id ≠ h.id)
    (hsg : h.typ ≠ .storageGroup) (hlev : h.typ ≠ .regular → level = 0) :
    CtrInv (putSelf c0 c1 epoch level h b e).1 := by
  unfold putSelf
  split
  · rename_i c2 d e' heq
    have hd := putKind_diff heq hsg hlev
    have h2 := putKind_marksOnly heq
    have hnew' : ∀ x ∈ c2.recs, x.id ≠ (recOf h b (level == 0)).id := h2.recs ▸ hnew
    constructor
    · intro k hk
      show getC k (c2.ctr.apply d) = (insertRec _ c2.recs).countP (flag k)
      rw [getC_apply, countP_insertRec_new _ _ _ hnew', hd k hk, updCounter_natCast, h2.recs, h2.ctr, h1.typed k hk]
    · intro r hr hroot
      rcases (mem_insertRec_new _ _ hnew' r).mp hr with rfl | hr'
      · simp only [recOf, Bool.and_eq_true, beq_iff_eq] at hroot
        exact hroot.2
      · exact h1.rootReg r (h2.recs ▸ hr') hroot
  · exact h0

theorem typeOf_none_ids (c : Cnr) (id : Nat) (h : c.typeOf id = none) : ∀ x ∈ c.recs, x.id ≠ id := by
  intro x hx heq
  unfold Cnr.typeOf Cnr.find? at h
  cases hf : c.recs.find? (·.id == id) with
  | some r => simp [hf] at h
  | none =>
    rw [List.find?_eq_none] at hf
    have := hf x hx
    simp [heq] at this

/-- chains of valid objects: no storage groups, only the object itself may be non-regular (embedded parent
headers are regular objects), distinct ids along the chain -/
structure ValidChain (level : Nat) (chain : List Hdr) : Prop where
  noSG : ∀ h ∈ chain, h.typ ≠ .storageGroup
  tailReg : ∀ h ∈ chain.tail, h.typ = .regular
  lvlReg : level ≠ 0 → ∀ h ∈ chain, h.typ = .regular
  nodup : (chain.map (·.id)).Nodup

theorem ValidChain.tail {level : Nat} {hd : Hdr} {rest : List Hdr} (v : ValidChain level (hd :: rest)) :
    ValidChain (level + 1) rest where
  noSG := fun h hh => v.noSG h (by simp [hh])
  tailReg := fun h hh => v.tailReg h (List.mem_of_mem_tail hh)
  lvlReg := fun _ h hh => v.tailReg h hh
  nodup := by have := v.nodup; simp only [List.map_cons, List.nodup_cons] at this; exact this.2

theorem putChain_inv (epoch : Nat) : ∀ (chain : List Hdr) (c : Cnr) (level : Nat),
    CtrInv c → c.WF → ValidChain level chain → CtrInv (putChain c epoch level chain).1 := by
  intro chain
  induction chain with
  | nil => intro c level h _ _; exact h
  | cons hd parents ih =>
    intro c level hc hwf v
    refine putChain_cons_rule (P := fun r => CtrInv r.1) c epoch level hd parents (fun _ => hc) ?_
    intro _ hnone c1 e hc1
    -- the bucket after the parent chain holds no record for `hd.id`
    have h1 : CtrInv c1 ∧ PutFrame (parents.map (·.id)) c c1 := by
      rcases hc1 with rfl | rfl
      · exact ⟨hc, PutFrame.refl _ c1⟩
      · exact ⟨ih c (level + 1) hc hwf v.tail, putChain_frame epoch parents c (level + 1)⟩
    apply putSelf_inv c c1 hc h1.1
    · intro x hx heq
      rcases h1.2.recs x hx with hm | hm
      · exact typeOf_none_ids c hd.id hnone x hm heq
      · rw [heq] at hm; exact (List.nodup_cons.mp v.nodup).1 hm
    · exact v.noSG hd (List.mem_cons_self ..)
    · intro hne
      exact Decidable.by_contra fun hl => hne (v.lvlReg hl hd (List.mem_cons_self ..))

theorem find_some (c : Cnr) (id : Nat) (r : Rec) (h : c.find? id = some r) : r ∈ c.recs ∧ r.id = id := by
  unfold Cnr.find? at h
  exact ⟨List.mem_of_find?_eq_some h, by have := List.find?_some h; simpa using this⟩

theorem getD_payload (k : Nat) (d : Diff) (p : Int) : getD k { d with payload := p } = getD k d := by
  unfold getD
  split <;> rfl

theorem getD_gc (k : Nat) (g : Int) : getD k { gc := g } = 0 := by
  unfold getD
  split <;> rfl

theorem neg_ite (b : Bool) : (if b then -1 else 0 : Int) = -((if b then 1 else 0 : Nat) : Int) := by
  cases b <;> rfl

theorem getD_recDiff (r : Rec) (g : Bool) (hr : r.root = true → r.typ = .regular) :
    ∀ k, k < 5 → getD k (recDiff r g) = -((if flag k r then 1 else 0 : Nat) : Int) := by
  refine forall_lt_five (neg_ite _) ?_ (neg_ite _) (neg_ite _) (neg_ite _)
  refine Eq.trans ?_ (neg_ite r.root)
  show (if (r.typ == .regular && r.root) = true then -1 else 0 : Int) = _
  cases hroot : r.root
  · rw [Bool.and_false]
  · rw [hr hroot]; rfl

theorem dropId_count (c : Cnr) (hwf : c.WF) (hroot : ∀ r ∈ c.recs, r.root = true → r.typ = .regular)
    (r : Rec) (hrm : r ∈ c.recs) (g : Bool) :
    ∀ k, k < 5 → (((c.dropId r.id).recs.countP (flag k) : Nat) : Int) =
      (c.recs.countP (flag k) : Nat) + getD k (recDiff r g) := by
  intro k hk
  have := countP_filter_remove (flag k) c.recs hwf.recs r hrm
  rw [getD_recDiff r g (hroot r hrm) k hk]
  show (((c.recs.filter (·.id != r.id)).countP (flag k) : Nat) : Int) = _
  omega

theorem deleteMetadata_count : ∀ (fuel : Nat) (c : Cnr) (id : Nat) (isParent : Bool), c.WF →
    (∀ r ∈ c.recs, r.root = true → r.typ = .regular) →
    ∀ k, k < 5 → ((((c.deleteMetadata fuel id isParent).1.recs.countP (flag k)) : Nat) : Int) =
      (c.recs.countP (flag k) : Nat) + getD k (c.deleteMetadata fuel id isParent).2.1 := by
  intro fuel
  induction fuel with
  | zero => intro c id ip _ _ k _; exact (getD_gc k 0 ▸ Int.add_zero _).symm
  | succ f ih =>
    intro c id ip hwf hroot k hk
    unfold Cnr.deleteMetadata
    cases hf : c.find? id with
    | none =>
      dsimp only
      by_cases hm : (c.garb.find? (·.1 == id)).isSome = true
      · rw [if_pos hm]; exact (getD_gc k (-1) ▸ Int.add_zero _).symm
      · rw [if_neg hm]; exact (getD_gc k 0 ▸ Int.add_zero _).symm
    | some r =>
      obtain ⟨hrm, hid⟩ := find_some c id r hf
      subst hid
      dsimp only
      by_cases hs : (!ip && !r.phy) = true
      · rw [if_pos hs]; exact (getD_gc k 0 ▸ Int.add_zero _).symm
      rw [if_neg hs]
      -- the payload is not a typed counter; the parent step adds its diff to the record's
      have hc := dropId_count c hwf hroot r hrm (c.garb.find? (·.1 == r.id)).isSome k hk
      have hpay : ∀ (b : Bool) (d : Diff) (p : Int),
          getD k (if b = true then { d with payload := p } else d) = getD k d :=
        fun b d p => by cases b; exact rfl; exact getD_payload k d p
      rw [hpay, getD_add]
      by_cases hp : (r.parentId != 0 && (c.dropId r.id).parentInfo r.parentId == .none) = true
      · have := ih _ r.parentId true ((dropId_pruned c r.id).wf hwf)
          (fun x hx => hroot x ((dropId_pruned c r.id).recs.subset hx)) k hk
        simp only [if_pos hp]
        omega
      · simp only [if_neg hp, getD_gc]
        omega

theorem deleteMetadata_frame : ∀ (fuel : Nat) (c : Cnr) (id : Nat) (isParent : Bool), c.WF →
    (∀ r ∈ c.recs, r.root = true → r.typ = .regular) →
    (c.deleteMetadata fuel id isParent).1.ctr = c.ctr ∧ (c.deleteMetadata fuel id isParent).1.gcMark = c.gcMark ∧
      (∀ r ∈ (c.deleteMetadata fuel id isParent).1.recs, r ∈ c.recs) ∧
      ∀ k, k < 5 → ((((c.deleteMetadata fuel id isParent).1.recs.countP (flag k)) : Nat) : Int) =
        (c.recs.countP (flag k) : Nat) + getD k (c.deleteMetadata fuel id isParent).2.1 :=
  fun fuel c id ip hwf hroot =>
    have hp := deleteMetadata_pruned fuel c id ip
    ⟨hp.ctr, hp.gcMark, fun _ hr => hp.recs.subset hr, deleteMetadata_count fuel c id ip hwf hroot⟩

theorem ctrOK_empty : CtrOK ({} : Cnr) := ⟨forall_lt_five rfl rfl rfl rfl rfl, fun r hr => by cases hr⟩

theorem putChain_ctrOK (epoch : Nat) (chain : List Hdr) (c : Cnr) (hwf : c.WF) (hok : CtrOK c)
    (v : ValidChain 0 chain) : CtrOK (putChain c epoch 0 chain).1 := by
  cases hg : c.gcMark
  · exact (putChain_inv epoch chain c 0 (hok.inv hg) hwf v).ok ((putChain_frame epoch chain c 0).gcMark.trans hg)
  · -- nothing is written into a removed container
    cases chain with
    | nil => exact hok
    | cons hd tl =>
      exact putChain_cons_rule (P := fun r => CtrOK r.1) c epoch 0 hd tl (fun _ => hok)
        (fun h => by rw [hg] at h; cases h)

theorem ctrOK_of_typed_eq (c c' : Cnr) (hr : c'.recs = c.recs) (hg : c'.gcMark = c.gcMark)
    (ht : ∀ k, k < 5 → getC k c'.ctr = getC k c.ctr) (h : CtrOK c) : CtrOK c' :=
  ⟨fun k hk => by rw [ht k hk, hr, hg]; exact h.typed k hk, fun r hrr => by rw [hr] at hrr; exact h.rootReg r hrr⟩

theorem apply_removal (c cur : Cnr) (d : Diff) (hok : CtrOK c)
    (hctr : cur.ctr = c.ctr) (hg : cur.gcMark = c.gcMark) (hsub : cur.recs.Sublist c.recs)
    (hcnt : ∀ k, k < 5 → ((cur.recs.countP (flag k) : Nat) : Int) = (c.recs.countP (flag k) : Nat) + getD k d) :
    CtrOK { cur with ctr := cur.ctr.apply d } := by
  refine ⟨fun k hk => ?_, fun r hr => hok.rootReg r (hsub.subset hr)⟩
  have h2 := hcnt k hk
  show getC k (cur.ctr.apply d) = _
  rw [getC_apply, hctr, hok.typed k hk, hg]
  split
  · -- a removed container counts 0 and stays there: the diff is not positive
    have hl : cur.recs.countP (flag k) ≤ c.recs.countP (flag k) := hsub.countP_le
    unfold updCounter
    split <;> omega
  · exact updCounter_eq h2

end NeoFS.Meta
