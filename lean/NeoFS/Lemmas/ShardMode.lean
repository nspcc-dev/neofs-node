import NeoFS.Model.ShardMode
import NeoFS.Lemmas.GuardChain
/-!
Lemmas shared by the shard-mode properties (C14, C43).

The section "facts" states the regenerated facts of `Gen/ShardMode.lean` the proofs rest on: if a guard disappears
from the code the fact turns `false`, `rfl` fails and everything downstream stops checking.
-/
namespace NeoFS.ShardMode
open NeoFS.Gen.ShardMode

/-! ### facts regenerated from the source -/

section facts
@[simp] theorem f_put : put_guardRO = true := rfl
@[simp] theorem f_del : deleteObjs_guardRO = true := rfl
@[simp] theorem f_mark : markGarbage_guardRO = true := rfl
@[simp] theorem f_inh : inhumeContainer_guardRO = true := rfl
@[simp] theorem f_delc : deleteContainer_guardRO = true := rfl
@[simp] theorem f_rev : reviveObject_guardRO = true := rfl
@[simp] theorem f_flush : flushWriteCache_guardRO = true := rfl
@[simp] theorem f_restore : restore_guardRO = true := rfl
@[simp] theorem f_gc : removeGarbage_rwOnly = true := rfl
@[simp] theorem f_worker : flushWorker_guardRO = true := rfl
@[simp] theorem f_list : list_guardDegraded = true := rfl
@[simp] theorem f_select : select_guardDegraded = true := rfl
@[simp] theorem f_listc : listContainers_guardDegraded = true := rfl
@[simp] theorem f_cinfo : containerInfo_guardDegraded = true := rfl
@[simp] theorem f_locked : isLocked_guardDegraded = true := rfl
/-- the flush loop is started by `Init` only: `Open` after `Close` (engine maintenance cycle) and `SetMode` do not
start it -/
@[simp] theorem f_wcInit : wcInit_startsFlushLoop = true := rfl
@[simp] theorem f_wcOpen : wcOpen_startsFlushLoop = false := rfl
@[simp] theorem f_wcSetMode : wcSetMode_startsFlushLoop = false := rfl
/-- `Shard.Open` opens the components and does nothing else: no `Init`, no mode switch -/
@[simp] theorem f_shardOpen : shardOpen_initsOrSetsMode = false := rfl

/-- read-write is not a read-only mode; the two read-only modes (and `Disabled`) are -/
theorem modes_table :
    isReadOnly readWrite = false ∧ isReadOnly readOnly = true ∧ isReadOnly degraded = false ∧
    isReadOnly degradedReadOnly = true ∧ isReadOnly disabled = true ∧
    noMetabase readWrite = false ∧ noMetabase readOnly = false ∧ noMetabase degraded = true ∧
    noMetabase degradedReadOnly = true ∧ noMetabase disabled = true := by decide

end facts

theorem ro_ne_rw {m : Nat} (h : isReadOnly m = true) : (m != modeRW) = true :=
  bne_iff_ne.2 fun e => by
    rw [e] at h
    exact absurd h (by decide)

theorem metaErr_not_mode (e : Meta.Err) : metaErr e ≠ .readOnly ∧ metaErr e ≠ .degraded ∧ metaErr e ≠ .compRefused := by
  cases e <;> simp [metaErr]

/-! ### only a mode switch changes modes -/

/-- the mode-related part of the state (everything `SetMode` is about) -/
def St.cfg (t : St) : Bool × Nat × Nat × Bool × Bool × Nat × Bool :=
  (t.hasWC, t.mode, t.metaMode, t.metaOpen, t.blobRO, t.wcMode, t.wcStoreRO)

theorem cfg_eq_iff {s t : St} : t.cfg = s.cfg ↔ t.hasWC = s.hasWC ∧ t.mode = s.mode ∧ t.metaMode = s.metaMode ∧
    t.metaOpen = s.metaOpen ∧ t.blobRO = s.blobRO ∧ t.wcMode = s.wcMode ∧ t.wcStoreRO = s.wcStoreRO := by
  simp only [St.cfg, Prod.mk.injEq]

theorem mode_of_cfg {s t : St} (h : t.cfg = s.cfg) : t.mode = s.mode := (cfg_eq_iff.1 h).2.1
theorem blobRO_of_cfg {s t : St} (h : t.cfg = s.cfg) : t.blobRO = s.blobRO := (cfg_eq_iff.1 h).2.2.2.2.1

theorem ite_cfg {c : Prop} [Decidable c] {x y s : St} (hx : x.cfg = s.cfg) (hy : y.cfg = s.cfg) :
    (if c then x else y).cfg = s.cfg :=
  ite_rule (P := fun t : St => t.cfg = s.cfg) hx fun _ => hy

theorem ite_fst_cfg {α : Type} {c : Prop} [Decidable c] {x y : St × α} {s : St} (hx : x.1.cfg = s.cfg)
    (hy : y.1.cfg = s.cfg) : (if c then x else y).1.cfg = s.cfg :=
  ite_rule (P := fun t : St × α => t.1.cfg = s.cfg) hx fun _ => hy

theorem foldl_cfg {β : Type} {f : St → β → St} (h : ∀ st x, (f st x).cfg = st.cfg) (l : List β) (s : St) :
    (l.foldl f s).cfg = s.cfg :=
  List.foldlRecOn (motive := fun st => st.cfg = s.cfg) l f rfl fun st hst x _ => (h st x).trans hst

theorem foldl_fst_cfg {α β : Type} {f : St × α → β → St × α} (h : ∀ st x, (f st x).1.cfg = st.1.cfg) (l : List β)
    (s : St × α) : (l.foldl f s).1.cfg = s.1.cfg :=
  List.foldlRecOn (motive := fun st => st.1.cfg = s.1.cfg) l f rfl fun st hst x _ => (h st x).trans hst

theorem wcPut_cfg (s : St) (a : Addr) : (wcPut s a).1.cfg = s.cfg := by
  unfold wcPut
  exact ite_fst_cfg rfl rfl
theorem wcDelete_cfg (s : St) (a : Addr) : (wcDelete s a).cfg = s.cfg := by
  unfold wcDelete
  exact ite_cfg rfl rfl
theorem blobPut_cfg (s : St) (a : Addr) : (blobPut s a).1.cfg = s.cfg := by
  unfold blobPut
  exact ite_fst_cfg rfl rfl
theorem blobDelete_cfg (s : St) (a : Addr) : (blobDelete s a).cfg = s.cfg := by
  unfold blobDelete
  exact ite_cfg rfl rfl

theorem flushOne_cfg (st : St × Bool) (a : Addr) : (flushOne st a).1.cfg = st.1.cfg := by
  have hp := blobPut_cfg st.1 a
  unfold flushOne
  exact ite_fst_cfg rfl (ite_fst_cfg hp (ite_cfg hp hp))

theorem wcFlushAll_cfg (t : St) : (wcFlushAll t).1.cfg = t.cfg := foldl_fst_cfg flushOne_cfg _ _

theorem foldl_wcDelete_cfg (cn : Nat) (l : List Nat) (st : St) : (l.foldl (fun st id => wcDelete st (cn, id)) st).cfg = st.cfg :=
  foldl_cfg (fun st id => wcDelete_cfg st (cn, id)) l st

theorem deleteObjs_cache_cfg (s : St) (cn : Nat) (ids : List Nat) :
    (if s.hasWC then ids.foldl (fun st id => wcDelete st (cn, id)) s else s).cfg = s.cfg :=
  ite_cfg (foldl_wcDelete_cfg cn ids s) rfl

theorem deleteObjs_cfg (s : St) (cn : Nat) (ids : List Nat) : (deleteObjs s cn ids).1.cfg = s.cfg := by
  have h1 := deleteObjs_cache_cfg s cn ids
  unfold deleteObjs
  refine ite_fst_cfg rfl (ite_fst_cfg rfl (ite_fst_cfg rfl ?_))
  dsimp only
  split
  · exact (foldl_cfg (fun st id => blobDelete_cfg st (cn, id)) _ _).trans (ite_cfg ((foldl_wcDelete_cfg cn _ _).trans h1) h1)
  · exact h1

/-- `b`: the state once write-cache or blobstor has taken the object (`b.2`: one of them did), `rb`: after the roll-back -/
theorem put_cases (s : St) (cn : Nat) (h : Meta.Hdr) : ∃ (b : St × Bool) (rb : St),
    b.1.cfg = s.cfg ∧ rb.cfg = s.cfg ∧ (s.blobRO = false → b.2 = true) ∧
    put s cn h =
      if put_guardRO && isRO s.mode then (s, .readOnly)
      else if !b.2 then (b.1, .compRefused)
      else if noMeta s.mode then (b.1, .ok)
      else match metaWrite b.1 with
        | .ok =>
          if (Meta.dbPut b.1.db b.1.metaEpoch cn [h]).2 == .ok
          then ({ b.1 with db := (Meta.dbPut b.1.db b.1.metaEpoch cn [h]).1 }, .ok)
          else (rb, metaErr (Meta.dbPut b.1.db b.1.metaEpoch cn [h]).2)
        | _ => (rb, .compRefused) := by
  have hc : (if s.hasWC then wcPut s (cn, h.id) else (s, false)).1.cfg = s.cfg := ite_fst_cfg (wcPut_cfg s _) rfl
  unfold put
  dsimp only
  generalize (if s.hasWC = true then wcPut s (cn, h.id) else (s, false)) = c at hc
  have hb : (if c.2 = true then (c.1, true) else blobPut c.1 (cn, h.id)).1.cfg = s.cfg :=
    ite_fst_cfg hc ((blobPut_cfg _ _).trans hc)
  have hb2 : s.blobRO = false → (if c.2 = true then (c.1, true) else blobPut c.1 (cn, h.id)).2 = true := fun h0 =>
    ite_rule (P := fun x : St × Bool => x.2 = true) rfl fun _ => by simp [blobPut, (blobRO_of_cfg hc).trans h0]
  generalize (if c.2 = true then (c.1, true) else blobPut c.1 (cn, h.id)) = b at hb hb2
  exact ⟨b, _, hb, (blobDelete_cfg _ _).trans (ite_cfg ((wcDelete_cfg _ _).trans hb) hb), hb2, rfl⟩

theorem put_cfg (s : St) (cn : Nat) (h : Meta.Hdr) : (put s cn h).1.cfg = s.cfg := by
  obtain ⟨b, rb, hb, hr, _, he⟩ := put_cases s cn h
  rw [he]
  refine ite_fst_cfg rfl (ite_fst_cfg hb (ite_fst_cfg hb ?_))
  split
  · exact ite_fst_cfg hb hr
  · exact hr

/-- what `MarkGarbage`, `InhumeContainer`, `DeleteContainer`, `ReviveObject` unfold to, `x` being the body -/
def metaGuarded (g₁ g₂ : Bool) (s : St) (x : St × Err) : St × Err :=
  if g₁ && isRO s.mode then (s, .readOnly)
  else if g₂ && noMeta s.mode then (s, .degraded)
  else match metaWrite s with
    | .ok => x
    | _ => (s, .compRefused)

theorem metaGuarded_cfg (g₁ g₂ : Bool) (s : St) (x : St × Err) (hx : x.1.cfg = s.cfg) :
    (metaGuarded g₁ g₂ s x).1.cfg = s.cfg := by
  unfold metaGuarded
  refine ite_fst_cfg rfl (ite_fst_cfg rfl ?_)
  split
  · exact hx
  · rfl

theorem markGarbage_cfg (s : St) (cn : Nat) (ids : List Nat) (r : Bool) : (markGarbage s cn ids r).1.cfg = s.cfg :=
  metaGuarded_cfg _ _ s _ (ite_cfg (foldl_wcDelete_cfg cn ids _) rfl)

theorem inhumeContainer_cfg (s : St) (cn : Nat) : (inhumeContainer s cn).1.cfg = s.cfg :=
  metaGuarded_cfg _ _ s _ rfl

theorem deleteContainer_cfg (s : St) (cn : Nat) : (deleteContainer s cn).1.cfg = s.cfg :=
  metaGuarded_cfg _ _ s _ rfl

theorem reviveObject_cfg (s : St) (cn id : Nat) : (reviveObject s cn id).1.cfg = s.cfg := by
  refine metaGuarded_cfg _ _ s _ ?_
  dsimp only
  split
  · rfl
  · rfl
  · rfl
  · rfl
  · exact deleteObjs_cfg _ cn _

theorem wcFlushEach_cfg (s : St) : (wcFlushEach s).cfg = s.cfg :=
  foldl_cfg (fun st a => flushOne_cfg (st, true) a) _ _

theorem flushWriteCache_cfg (s : St) : (flushWriteCache s).1.cfg = s.cfg := by
  unfold flushWriteCache
  exact ite_fst_cfg rfl (ite_fst_cfg rfl (ite_fst_cfg rfl (wcFlushAll_cfg s)))

theorem flushTick_cfg (s : St) : (flushTick s).cfg = s.cfg := by
  unfold flushTick
  exact ite_cfg rfl (ite_cfg rfl (ite_cfg rfl (wcFlushEach_cfg s)))

theorem restore_cfg (s : St) (cn : Nat) (hs : List Meta.Hdr) : (restore s cn hs).1.cfg = s.cfg := by
  unfold restore
  refine ite_fst_cfg rfl (foldl_fst_cfg (fun st h => ?_) hs (s, Err.ok))
  exact ite_fst_cfg rfl (put_cfg st.1 cn h)

theorem collectExpired_cfg (s : St) : (collectExpired s).cfg = s.cfg := by
  unfold collectExpired
  refine ite_cfg rfl (ite_cfg rfl ?_)
  refine (foldl_cfg (fun st b => ?_) _ _).trans (ite_cfg rfl rfl)
  exact deleteObjs_cfg st b.1 b.2

theorem removeGarbage_cfg (s : St) : (removeGarbage s).cfg = s.cfg := by
  unfold removeGarbage
  refine ite_cfg rfl ?_
  dsimp only
  split
  · refine (foldl_cfg (fun st b => ?_) _ _).trans (collectExpired_cfg s)
    refine ite_cfg ?_ (deleteObjs_cfg st b.1 b.2)
    split
    · rfl
    · rfl
  · exact collectExpired_cfg s

theorem handleEpoch_cfg (s : St) (e : Nat) : (handleEpoch s e).cfg = s.cfg := by
  unfold handleEpoch
  dsimp only
  refine ite_cfg rfl ?_
  split
  · exact foldl_cfg (fun st cn => ite_cfg (deleteContainer_cfg st cn) rfl) _ _
  · rfl

def Op.isSwitch : Op → Bool
  | .setMode .. | .restart _ | .reopen => true
  | _ => false

/-- **Only a mode switch changes modes**: every other operation, background jobs included, leaves the reported mode
and all component modes as they are -/
theorem step_cfg (s : St) (o : Op) (ho : o.isSwitch = false) : (step s o).1.cfg = s.cfg := by
  cases o with
  | put cn h => exact put_cfg s cn h
  | delete cn ids => exact deleteObjs_cfg s cn ids
  | mark cn ids r => exact markGarbage_cfg s cn ids r
  | inhumeCnr cn => exact inhumeContainer_cfg s cn
  | deleteCnr cn => exact deleteContainer_cfg s cn
  | revive cn id => exact reviveObject_cfg s cn id
  | flush => exact flushWriteCache_cfg s
  | flushTick | settle => exact flushTick_cfg s
  | gc => exact removeGarbage_cfg s
  | epoch e => exact handleEpoch_cfg s e
  | restore cn hs => exact restore_cfg s cn hs
  | setMode _ _ | restart _ | reopen => cases ho
  | _ => rfl

/-! ### what the configuration decides -/

/-- reported and actual modes agree (what fault-free histories maintain; C43 is about this invariant); `wcStoreRO` is
left open -/
structure Consistent (s : St) : Prop where
  metaMode : s.metaMode = s.mode
  metaOpen : s.metaOpen = !noMetabase s.mode
  blob : s.blobRO = isReadOnly s.mode
  wc : s.hasWC = true → s.wcMode = s.mode

/-- the metabase component is always coherent in itself: its handle is open exactly in the modes with a metabase -/
def MetaWF (s : St) : Prop := s.metaOpen = !noMetabase s.metaMode

theorem metaWrite_of_cfg {s t : St} (h : t.cfg = s.cfg) : metaWrite t = metaWrite s := by
  obtain ⟨_, _, h3, h4, _⟩ := cfg_eq_iff.1 h
  unfold metaWrite
  rw [h3, h4]

theorem consistent_of_cfg {s t : St} (h : t.cfg = s.cfg) (hc : Consistent s) : Consistent t := by
  obtain ⟨h1, h2, h3, h4, h5, h6, _⟩ := cfg_eq_iff.1 h
  obtain ⟨c1, c2, c3, c4⟩ := hc
  exact ⟨by rw [h3, h2, c1], by rw [h4, h2, c2], by rw [h5, h2, c3], fun hw => by rw [h6, h2]; exact c4 (by rw [← h1]; exact hw)⟩

theorem metaWF_of_cfg {s t : St} (h : t.cfg = s.cfg) (hw : MetaWF s) : MetaWF t := by
  obtain ⟨_, _, h3, h4, _⟩ := cfg_eq_iff.1 h
  unfold MetaWF at hw ⊢
  rw [h4, h3]; exact hw

theorem Consistent.metaWF {s : St} (hc : Consistent s) : MetaWF s := by
  unfold MetaWF; rw [hc.metaOpen, hc.metaMode]

theorem Consistent.metaRead_eq {s : St} (hc : Consistent s) :
    metaRead s = if noMetabase s.mode then .degraded else .ok := by
  unfold metaRead noMeta
  rw [hc.metaMode, hc.metaOpen]
  cases noMetabase s.mode
  · rfl
  · rfl

theorem Consistent.metaWrite_eq {s : St} (hc : Consistent s) :
    metaWrite s = if noMetabase s.mode then .degraded else if isReadOnly s.mode then .readOnly else .ok := by
  unfold metaWrite noMeta isRO
  rw [hc.metaMode, hc.metaOpen]
  cases noMetabase s.mode
  · rfl
  · rfl

theorem consistent_rw {s : St} (h1 : s.mode = modeRW) (h2 : s.metaMode = modeRW) (h3 : s.metaOpen = true)
    (h4 : s.blobRO = false) (h5 : s.wcMode = modeRW) : Consistent s :=
  ⟨h2.trans h1.symm, by rw [h3, h1]; decide, by rw [h4, h1]; decide, fun _ => h5.trans h1.symm⟩

theorem restartBase_consistent (s : St) : Consistent (restartBase s) := consistent_rw rfl rfl rfl rfl rfl

/-! ### the frame -/

/-- what a read-only period looks like from inside: the shard reports a read-only mode, its blobstor is opened
read-only and its write-cache (if any) is in a read-only mode -/
structure ROStable (s : St) : Prop where
  mode : isReadOnly s.mode = true
  blob : s.blobRO = true
  wc : s.hasWC = true → isReadOnly s.wcMode = true

/-- operations of a read-only period: everything except a request to leave it (a switch to a writable mode) and
injected component failures (those belong to C43) -/
def Op.staysRO : Op → Bool
  | .setMode m f => isReadOnly m && f == .none
  | .restart _ => false
  | .reopen => false   -- opens the components for writing: what continues is the weaker `ROQuiet` period
  | _ => true

theorem Consistent.roStable {s : St} (hc : Consistent s) (hm : isReadOnly s.mode = true) : ROStable s :=
  ⟨hm, by rw [hc.blob, hm], fun h => by rw [hc.wc h]; exact hm⟩

theorem wcFlushAll_ro (s : St) (hb : s.blobRO = true) : (wcFlushAll s).1 = s := by
  refine List.foldlRecOn (motive := fun st => st.1 = s) s.wc flushOne (b := (s, true)) rfl fun st h a _ => ?_
  obtain ⟨t, b⟩ := st
  subst (h : t = s)
  cases b
  · rfl
  · unfold flushOne blobPut
    rw [hb]
    rfl

theorem wcFlushAll_ok (s : St) (hb : s.blobRO = false) : (wcFlushAll s).2 = true := by
  refine (List.foldlRecOn (motive := fun st => st.1.blobRO = false ∧ st.2 = true) s.wc flushOne (b := (s, true)) ⟨hb, rfl⟩
    fun st h a _ => ⟨?_, ?_⟩).2
  · exact (blobRO_of_cfg (flushOne_cfg st a)).trans h.1
  · simp [flushOne, blobPut, h.1, h.2]

/-- the shape of the shard's read-only guards: `g` is one of the regenerated facts -/
theorem ro_guard {s : St} (hm : isReadOnly s.mode = true) {g : Bool} (hg : g = true) : (g && isRO s.mode) = true := by
  rw [hg, show isRO s.mode = true from hm]
  rfl

theorem deleteContainer_ro (s : St) (h : isReadOnly s.mode = true) (cn : Nat) : deleteContainer s cn = (s, .readOnly) :=
  if_pos (ro_guard h f_delc)

theorem removeGarbage_ro (s : St) (hm : isReadOnly s.mode = true) : removeGarbage s = s :=
  if_pos (by rw [f_gc, ro_ne_rw hm]; rfl)

theorem handleEpoch_ro (s : St) (h : isReadOnly s.mode = true) (e : Nat) :
    handleEpoch s e = { s with curEpoch := e, metaEpoch := e } := by
  unfold handleEpoch
  dsimp only
  split
  · rfl
  · split
    · refine List.foldlRecOn (motive := fun st => st = { s with curEpoch := e, metaEpoch := e }) _ _ rfl
        fun st hst cn _ => ?_
      subst hst
      split
      · exact congrArg Prod.fst (deleteContainer_ro { s with curEpoch := e, metaEpoch := e } h cn)
      · rfl
    · rfl

/-! ### a mode switch, component by component -/

/-- the four outcomes of the metabase's switch: refused at entry; reopening failed and the metabase stays closed,
in degraded read-only; already in the mode; switched -/
theorem metaSetMode_cases (t : St) (m : Nat) (f : Fault) :
    metaSetMode t m f = (t, .injected) ∨
    metaSetMode t m f = ({ t with metaOpen := false, metaMode := degradedReadOnly }, .injected) ∨
    (metaSetMode t m f = (t, .ok) ∧ t.metaMode = m) ∨
    metaSetMode t m f = ({ t with metaMode := m, metaOpen := !noMeta m }, .ok) := by
  unfold metaSetMode
  by_cases h1 : (f == Fault.metaEntry) = true
  · rw [if_pos h1]
    exact Or.inl rfl
  rw [if_neg h1]
  by_cases h2 : (t.metaMode == m) = true
  · rw [if_pos h2]
    exact Or.inr (Or.inr (Or.inl ⟨rfl, eq_of_beq h2⟩))
  rw [if_neg h2]
  cases noMeta m
  · rw [if_neg Bool.false_ne_true]
    by_cases h3 : (f == Fault.metaOpen) = true
    · rw [if_pos h3]
      exact Or.inr (Or.inl rfl)
    · rw [if_neg h3]
      exact Or.inr (Or.inr (Or.inr rfl))
  · exact Or.inr (Or.inr (Or.inr rfl))

theorem metaSetMode_frame (t : St) (m : Nat) (f : Fault) :
    (metaSetMode t m f).1 =
      { t with metaMode := (metaSetMode t m f).1.metaMode, metaOpen := (metaSetMode t m f).1.metaOpen } := by
  rcases metaSetMode_cases t m f with h | h | ⟨h, _⟩ | h <;> rw [h]

theorem metaSetMode_wf (t : St) (m : Nat) (f : Fault) (hw : MetaWF t) : MetaWF (metaSetMode t m f).1 := by
  rcases metaSetMode_cases t m f with h | h | ⟨h, _⟩ | h <;> rw [h]
  · exact hw
  · show false = !noMetabase degradedReadOnly
    decide
  · exact hw
  · exact rfl

theorem metaSetMode_ok (t : St) (m : Nat) (f : Fault) (hok : (metaSetMode t m f).2 = .ok) :
    (metaSetMode t m f).1.metaMode = m := by
  rcases metaSetMode_cases t m f with h | h | ⟨h, hm⟩ | h <;> rw [h] at hok ⊢
  · cases hok
  · cases hok
  · exact hm

theorem metaSetMode_none (t : St) (m : Nat) :
    metaSetMode t m .none =
      ({ t with metaMode := m, metaOpen := if t.metaMode == m then t.metaOpen else !noMetabase m }, .ok) := by
  unfold metaSetMode
  by_cases h : t.metaMode = m
  · subst h; simp
  · have hb : (t.metaMode == m) = false := by simpa using h
    simp only [hb]
    by_cases hn : noMetabase m = true
    · simp [hn]
    · simp [hn]

theorem blobSetMode_frame (t : St) (m : Nat) (f : Fault) :
    (blobSetMode t m f).1 = { t with blobRO := (blobSetMode t m f).1.blobRO } := by
  unfold blobSetMode
  split
  · rfl
  · rfl

theorem blobSetMode_ok (t : St) (m : Nat) (f : Fault) (hok : (blobSetMode t m f).2 = .ok) :
    (blobSetMode t m f).1.blobRO = isReadOnly m := by
  unfold blobSetMode at hok ⊢
  split
  · rename_i h; rw [if_pos h] at hok; cases hok
  · rfl

theorem blobSetMode_none (t : St) (m : Nat) :
    blobSetMode t m .none = ({ t with blobRO := isReadOnly m }, .ok) := by
  simp [blobSetMode]

/-- `u`: the input, flushed or not -/
theorem wcSetMode_cases (t : St) (m : Nat) (f : Fault) : ∃ u, (u = t ∨ u = (wcFlushAll t).1) ∧
    ((wcSetMode t m f).1 = u ∧ (wcSetMode t m f).2 ≠ .ok ∨
      wcSetMode t m f = ({ u with wcMode := m, wcStoreRO := if noMeta m then u.wcStoreRO else isRO m }, .ok)) := by
  unfold wcSetMode
  by_cases h1 : (f == Fault.wc) = true
  · rw [if_pos h1]
    exact ⟨t, Or.inl rfl, Or.inl ⟨rfl, Err.noConfusion⟩⟩
  rw [if_neg h1]
  dsimp only
  generalize hr : (if (noMeta m && !noMeta t.wcMode) = true then wcFlushAll t else (t, true)) = r
  have hu : r.1 = t ∨ r.1 = (wcFlushAll t).1 := by
    rw [← hr]
    split
    · exact Or.inr rfl
    · exact Or.inl rfl
  refine ⟨r.1, hu, ?_⟩
  cases r.2
  · exact Or.inl ⟨rfl, Err.noConfusion⟩
  · exact Or.inr (by cases noMeta m <;> rfl)

theorem wcSetMode_frame (t : St) (m : Nat) (f : Fault) :
    (wcSetMode t m f).1.hasWC = t.hasWC ∧ (wcSetMode t m f).1.mode = t.mode ∧
    (wcSetMode t m f).1.metaMode = t.metaMode ∧ (wcSetMode t m f).1.metaOpen = t.metaOpen ∧
    (wcSetMode t m f).1.blobRO = t.blobRO := by
  obtain ⟨u, hu, h⟩ := wcSetMode_cases t m f
  have hc : u.cfg = t.cfg := by
    rcases hu with rfl | rfl
    · rfl
    · exact wcFlushAll_cfg t
  obtain ⟨h1, h2, h3, h4, h5, _⟩ := cfg_eq_iff.1 hc
  rcases h with ⟨h, _⟩ | h <;> rw [h] <;> exact ⟨h1, h2, h3, h4, h5⟩

theorem wcSetMode_ok (t : St) (m : Nat) (f : Fault) (hok : (wcSetMode t m f).2 = .ok) :
    (wcSetMode t m f).1.wcMode = m := by
  obtain ⟨u, _, h⟩ := wcSetMode_cases t m f
  rcases h with ⟨_, h⟩ | h
  · exact absurd hok h
  · rw [h]

theorem wcSetMode_none (t : St) (m : Nat) :
    (wcSetMode t m .none).1.hasWC = t.hasWC ∧ (wcSetMode t m .none).1.mode = t.mode ∧
    (wcSetMode t m .none).1.metaMode = t.metaMode ∧ (wcSetMode t m .none).1.metaOpen = t.metaOpen ∧
    (wcSetMode t m .none).1.blobRO = t.blobRO ∧
    ((wcSetMode t m .none).2 = .ok → (wcSetMode t m .none).1.wcMode = m) :=
  have ⟨h1, h2, h3, h4, h5⟩ := wcSetMode_frame t m .none
  ⟨h1, h2, h3, h4, h5, wcSetMode_ok t m .none⟩

theorem runComps_inv (P : St → Prop) (m : Nat) (f : Fault) (h : ∀ t c, P t → P (compSetMode t m f c).1) :
    ∀ (l : List Comp) (st : St × Err), P st.1 → P (runComps m f st l).1 := by
  intro l
  induction l with
  | nil => exact fun _ hst => hst
  | cons c cs ih =>
    intro st hst
    unfold runComps
    split
    · exact hst
    · exact ih _ (h _ c hst)

/-- what every component step of a switch between read-only modes preserves, relative to the state `s` the switch
started from -/
structure Kept (s t : St) : Prop where
  persist : t.persist = s.persist
  mode : t.mode = s.mode
  hasWC : t.hasWC = s.hasWC
  blob : t.blobRO = true
  wc : t.hasWC = true → isReadOnly t.wcMode = true

theorem comp_kept (s t : St) (m : Nat) (hm : isReadOnly m = true) (k : Kept s t) (c : Comp) :
    Kept s (compSetMode t m .none c).1 := by
  cases c with
  | mb =>
    unfold compSetMode
    rw [metaSetMode_frame]
    exact ⟨k.persist, k.mode, k.hasWC, k.blob, k.wc⟩
  | bs =>
    unfold compSetMode
    rw [blobSetMode_none]
    exact ⟨k.persist, k.mode, k.hasWC, hm, k.wc⟩
  | wc =>
    unfold compSetMode
    obtain ⟨u, hu, h⟩ := wcSetMode_cases t m .none
    -- the blobstor is read-only: if the cache flushes, nothing moves
    have hut : u = t := hu.elim id (fun h => h.trans (wcFlushAll_ro t k.blob))
    subst hut
    rcases h with ⟨h, _⟩ | h
    · rw [h]; exact k
    · rw [h]; exact ⟨k.persist, k.mode, k.hasWC, k.blob, fun _ => hm⟩

/-- a switch between read-only modes: the components change mode, the data does not -/
theorem setMode_ro (s : St) (hs : ROStable s) (m : Nat) (hm : isReadOnly m = true) :
    (setMode s m .none).1.persist = s.persist ∧ ROStable (setMode s m .none).1 := by
  have k : Kept s (runComps m .none (s, .ok) (order s.hasWC m)).1 :=
    runComps_inv (Kept s) m .none (fun t c k => comp_kept s t m hm k c) _ _ ⟨rfl, rfl, rfl, hs.blob, hs.wc⟩
  unfold setMode
  dsimp only
  split
  · exact ⟨k.persist, ⟨hm, k.blob, k.wc⟩⟩
  · exact ⟨k.persist, ⟨by rw [k.mode]; exact hs.mode, k.blob, k.wc⟩⟩

theorem setMode_ro_meta (s : St) (m : Nat) (hm : isReadOnly m = true) (hn : noMetabase m = false) :
    (setMode s m .none).1.persist = s.persist ∧ ROStable (setMode s m .none).1 := by
  have hne := ro_ne_rw hm
  have hm' : isRO m = true := hm
  have hn' : noMeta m = false := hn
  cases hw : s.hasWC
  · simp [setMode, order, hw, hne, runComps, compSetMode, blobSetMode, metaSetMode_none, St.persist]
    exact ⟨hm, hm, fun h => Bool.noConfusion h⟩
  · simp [setMode, order, hw, hne, runComps, compSetMode, blobSetMode, wcSetMode, metaSetMode_none, St.persist, hn']
    exact ⟨hm, hm, fun _ => hm⟩

/-- component `c` is in mode `m` -/
def Done (m : Nat) (t : St) : Comp → Prop
  | .mb => t.metaMode = m
  | .bs => t.blobRO = isReadOnly m
  | .wc => t.wcMode = m

theorem comp_shard (t : St) (m : Nat) (f : Fault) (c : Comp) :
    (compSetMode t m f c).1.mode = t.mode ∧ (compSetMode t m f c).1.hasWC = t.hasWC := by
  cases c with
  | mb =>
    unfold compSetMode
    rw [metaSetMode_frame]
    exact ⟨rfl, rfl⟩
  | bs =>
    unfold compSetMode
    rw [blobSetMode_frame]
    exact ⟨rfl, rfl⟩
  | wc => exact ⟨(wcSetMode_frame t m f).2.1, (wcSetMode_frame t m f).1⟩

theorem comp_metaWF (t : St) (m : Nat) (f : Fault) (c : Comp) (hw : MetaWF t) : MetaWF (compSetMode t m f c).1 := by
  cases c with
  | mb => exact metaSetMode_wf t m f hw
  | bs =>
    unfold compSetMode
    rw [blobSetMode_frame]
    exact hw
  | wc =>
    obtain ⟨_, _, a3, a4, _⟩ := wcSetMode_frame t m f
    unfold MetaWF compSetMode
    rw [a3, a4]
    exact hw

theorem comp_done (m : Nat) (f : Fault) (t : St) (c : Comp) (hok : (compSetMode t m f c).2 = .ok) :
    Done m (compSetMode t m f c).1 c := by
  cases c with
  | mb => exact metaSetMode_ok t m f hok
  | bs => exact blobSetMode_ok t m f hok
  | wc => exact wcSetMode_ok t m f hok

theorem comp_pres (m : Nat) (f : Fault) (t : St) (c c' : Comp) (hne : c ≠ c') (hd : Done m t c') :
    Done m (compSetMode t m f c).1 c' := by
  cases c with
  | mb =>
    unfold compSetMode
    rw [metaSetMode_frame]
    cases c' with
    | mb => exact absurd rfl hne
    | bs => exact hd
    | wc => exact hd
  | bs =>
    unfold compSetMode
    rw [blobSetMode_frame]
    cases c' with
    | mb => exact hd
    | bs => exact absurd rfl hne
    | wc => exact hd
  | wc =>
    obtain ⟨_, _, a3, _, a5⟩ := wcSetMode_frame t m f
    cases c' with
    | mb => exact a3.trans hd
    | bs => exact a5.trans hd
    | wc => exact absurd rfl hne

theorem runComps_stop (m : Nat) (f : Fault) : ∀ (l : List Comp) (st : St × Err), st.2 ≠ .ok → runComps m f st l = st := by
  intro l
  induction l with
  | nil => intro st _; rfl
  | cons x xs _ => intro st hne; simp [runComps, hne]

theorem runComps_done (m : Nat) (f : Fault) : ∀ (l : List Comp) (st : St × Err), (runComps m f st l).2 = .ok →
    ∀ c, (c ∈ l ∨ Done m st.1 c) → Done m (runComps m f st l).1 c := by
  intro l
  induction l with
  | nil => exact fun st _ c hc => hc.resolve_left List.not_mem_nil
  | cons c cs ih =>
    intro st hok c' hc'
    unfold runComps at hok ⊢
    by_cases hst : (st.2 != .ok) = true
    · rw [if_pos hst] at hok
      rw [hok] at hst
      cases hst
    · rw [if_neg hst] at hok ⊢
      have hk : (compSetMode st.1 m f c).2 = .ok := Decidable.byContradiction fun hne => by
        rw [runComps_stop m f cs _ hne] at hok
        exact hne hok
      refine ih _ hok c' ?_
      by_cases hcc : c = c'
      · subst hcc
        exact Or.inr (comp_done m f st.1 c hk)
      · rcases hc' with hc' | hc'
        · exact Or.inl ((List.mem_cons.1 hc').resolve_left (Ne.symm hcc))
        · exact Or.inr (comp_pres m f st.1 c c' hcc hc')

theorem order_mem (b : Bool) (m : Nat) (c : Comp) : c ∈ order b m ↔ (c = .mb ∨ c = .bs ∨ (c = .wc ∧ b = true)) := by
  have : c ∈ order b m ↔ c ∈ (if b then [Comp.mb, .bs, .wc] else [.mb, .bs]) := by
    unfold order
    dsimp only
    split
    · exact List.mem_reverse
    · exact Iff.rfl
  rw [this]
  cases b <;> cases c <;> decide

theorem setMode_of_ok (s : St) (m : Nat) (f : Fault) (hok : (setMode s m f).2 = .ok) :
    (runComps m f (s, .ok) (order s.hasWC m)).2 = .ok ∧
    (setMode s m f).1 = { (runComps m f (s, .ok) (order s.hasWC m)).1 with mode := m } := by
  unfold setMode at hok ⊢
  dsimp only at hok ⊢
  by_cases h : ((runComps m f (s, .ok) (order s.hasWC m)).2 == .ok) = true
  · rw [if_pos h]
    exact ⟨eq_of_beq h, rfl⟩
  · rw [if_neg h] at hok
    exact absurd (by rw [hok]; rfl) h

theorem setMode_ok_mode (s : St) (m : Nat) (f : Fault) (hok : (setMode s m f).2 = .ok) : (setMode s m f).1.mode = m := by
  rw [(setMode_of_ok s m f hok).2]

theorem runComps_shard (s : St) (m : Nat) (f : Fault) (l : List Comp) :
    (runComps m f (s, .ok) l).1.mode = s.mode ∧ (runComps m f (s, .ok) l).1.hasWC = s.hasWC :=
  runComps_inv (fun t => t.mode = s.mode ∧ t.hasWC = s.hasWC) m f
    (fun t c h => ⟨(comp_shard t m f c).1.trans h.1, (comp_shard t m f c).2.trans h.2⟩) l _ ⟨rfl, rfl⟩

theorem runComps_metaWF (s : St) (hw : MetaWF s) (m : Nat) (f : Fault) (l : List Comp) :
    MetaWF (runComps m f (s, .ok) l).1 :=
  runComps_inv MetaWF m f (fun t c h => comp_metaWF t m f c h) l _ hw

/-- **Recovery.** From ANY state whose metabase component is coherent — whatever the other components' modes are,
e.g. after any number of failed switches — a `SetMode` that succeeds leaves reported and actual modes in agreement. -/
theorem setMode_recovers (s : St) (hw : MetaWF s) (m : Nat) (f : Fault) (hok : (setMode s m f).2 = .ok) :
    Consistent (setMode s m f).1 := by
  obtain ⟨hr, he⟩ := setMode_of_ok s m f hok
  have kw := runComps_metaWF s hw m f (order s.hasWC m)
  have ks := runComps_shard s m f (order s.hasWC m)
  have hd := fun c hc => runComps_done m f _ _ hr c (Or.inl ((order_mem s.hasWC m c).2 hc))
  have hmb : Done m _ .mb := hd .mb (Or.inl rfl)
  rw [he]
  exact ⟨hmb, kw.trans (congrArg (fun x => !noMetabase x) hmb), hd .bs (Or.inr (Or.inl rfl)),
    fun hwc => hd .wc (Or.inr (Or.inr ⟨rfl, ks.2.symm.trans hwc⟩))⟩

theorem setMode_metaWF (s : St) (hw : MetaWF s) (m : Nat) (f : Fault) : MetaWF (setMode s m f).1 := by
  have k := runComps_metaWF s hw m f (order s.hasWC m)
  unfold setMode
  dsimp only
  split
  · exact k
  · exact k

theorem setMode_failed_mode (s : St) (m : Nat) (f : Fault) (hne : (setMode s m f).2 ≠ .ok) :
    (setMode s m f).1.mode = s.mode := by
  have k := runComps_shard s m f (order s.hasWC m)
  unfold setMode at hne ⊢
  dsimp only at hne ⊢
  split
  · rename_i h
    rw [if_pos h] at hne
    exact absurd rfl hne
  · exact k.1

theorem setMode_establishes (s : St) (hc : Consistent s) (m : Nat) (hok : (setMode s m .none).2 = .ok) :
    Consistent (setMode s m .none).1 := setMode_recovers s hc.metaWF m .none hok

/-! ### no switch loses data -/

/-- nothing stored is lost and the metabase content is untouched -/
def Keeps (s t : St) : Prop := t.db = s.db ∧ ∀ x, (x ∈ s.blob ∨ x ∈ s.wc) → (x ∈ t.blob ∨ x ∈ t.wc)

theorem Keeps.refl (s : St) : Keeps s s := ⟨rfl, fun _ h => h⟩
theorem Keeps.trans {a b c : St} (h1 : Keeps a b) (h2 : Keeps b c) : Keeps a c :=
  ⟨h2.1.trans h1.1, fun x hx => h2.2 x (h1.2 x hx)⟩
theorem Keeps.of_persist {s t : St} (h : t.persist = s.persist) : Keeps s t := by
  simp only [St.persist, Persist.mk.injEq] at h
  exact ⟨h.1, fun x hx => by rw [h.2.1, h.2.2]; exact hx⟩

theorem mem_addA (a x : Addr) (l : List Addr) : x ∈ l → x ∈ addA a l := by
  intro h; unfold addA; split
  · exact h
  · exact List.mem_cons_of_mem _ h
theorem self_mem_addA (a : Addr) (l : List Addr) : a ∈ addA a l := by
  unfold addA; split
  · rename_i h; simpa using h
  · simp
theorem mem_delA (a x : Addr) (l : List Addr) (hne : x ≠ a) : x ∈ l → x ∈ delA a l := by
  intro h; unfold delA; simp [List.mem_filter, h, hne]

theorem flushOne_keeps (st : St × Bool) (a : Addr) : Keeps st.1 (flushOne st a).1 := by
  -- once the blobstor holds `a` the cache may drop its copy
  have moved : ∀ w : List Addr, (∀ x ∈ st.1.wc, x ≠ a → x ∈ w) →
      Keeps st.1 { st.1 with blob := addA a st.1.blob, wc := w } := fun w hw =>
    ⟨rfl, fun x hx => hx.elim (fun h => Or.inl (mem_addA a x _ h)) fun h =>
      if hxa : x = a then Or.inl (hxa ▸ self_mem_addA a _) else Or.inr (hw x h hxa)⟩
  unfold flushOne
  by_cases h2 : st.2 = true
  · simp only [h2, Bool.not_true, Bool.false_eq_true, if_false, blobPut]
    by_cases hb : st.1.blobRO = true
    · simp only [hb, if_true, Bool.not_false]
      exact Keeps.refl _
    · simp only [hb, Bool.false_eq_true, if_false, Bool.not_true]
      by_cases hro : st.1.wcStoreRO = true
      · simp only [hro, if_true]
        exact moved _ (fun x hx _ => hx)
      · simp only [hro, Bool.false_eq_true, if_false]
        exact moved _ (fun x hx hne => mem_delA a x _ hne hx)
  · have : st.2 = false := by simpa using h2
    simp only [this, Bool.not_false, if_true]
    exact Keeps.refl _

theorem wcFlushAll_keeps (t : St) : Keeps t (wcFlushAll t).1 :=
  List.foldlRecOn (motive := fun st => Keeps t st.1) t.wc flushOne (b := (t, true)) (Keeps.refl t) fun st h a _ =>
    h.trans (flushOne_keeps st a)

theorem comp_keeps (t : St) (m : Nat) (f : Fault) (c : Comp) : Keeps t (compSetMode t m f c).1 := by
  cases c with
  | mb => unfold compSetMode; rw [metaSetMode_frame]; exact Keeps.refl t
  | bs => unfold compSetMode; rw [blobSetMode_frame]; exact Keeps.refl t
  | wc =>
    unfold compSetMode
    obtain ⟨u, hu, h⟩ := wcSetMode_cases t m f
    have hk : Keeps t u := by
      rcases hu with rfl | rfl
      · exact Keeps.refl _
      · exact wcFlushAll_keeps t
    rcases h with ⟨h, _⟩ | h <;> rw [h] <;> exact hk

theorem runComps_keeps (m : Nat) (f : Fault) (l : List Comp) (st : St × Err) : Keeps st.1 (runComps m f st l).1 :=
  runComps_inv (Keeps st.1) m f (fun t c h => h.trans (comp_keeps t m f c)) l st (Keeps.refl _)

end NeoFS.ShardMode
