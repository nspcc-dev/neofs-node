import NeoFS.Model.WCSched
/-! Lemmas about the flush scheduler's batch cutting (`Model/WCSched.lean`). -/
namespace NeoFS.WCSched

def Res.mark (r : Res) (a : Addr) : Res := { r with marked := r.marked ++ [a] }
def Res.send (r : Res) (b : List Addr) : Res := { r with sent := r.sent ++ [b] }
def Res.abort (r : Res) (u : List Addr) : Res := { r with unmarked := r.unmarked ++ u, aborted := true }

/-- The invariant rule of the cutting loop. `I l b o r`: candidates left (the visited one first), open batch, oracle,
result. A refused hand-over unmarks the open batch, which before the repair did not yet hold the address that forced
it out (`unqueued`). An open batch exists only while candidates are left (`l = [] → b = []`), so `stop` sees none. -/
theorem cut_rule {I : List (Addr × Nat) → List Addr → List Bool → Res → Prop} {Q : Res → Prop} (cfg : Cfg) (fixed : Bool)
    (stop : ∀ o r, I [] [] o r → Q r)
    (visit : ∀ a sz rest b o r, I ((a, sz) :: rest) b o r → I rest (b ++ [a]) o (r.mark a))
    (taken : ∀ l b o r, I l b o r → (takes o).1 = true → I l [] (takes o).2 (r.send b))
    (refused : ∀ l b o r, I l b o r → ¬ (takes o).1 = true → Q (r.abort b))
    (unqueued : fixed = false → ∀ a sz rest b o r, I ((a, sz) :: rest) b o r → ¬ (takes o).1 = true →
      Q ((r.mark a).abort b)) (l : List (Addr × Nat)) :
    ∀ b bs o r, (l = [] → b = []) → I l b o r → Q (cut cfg fixed l b bs o r) := by
  induction l with
  | nil => intro b bs o r hb h; rw [cut]; exact stop o r (hb rfl ▸ h)
  | cons x rest ih =>
    obtain ⟨a, sz⟩ := x
    intro b bs o r _ h
    -- second half of a visit: `a` is in the batch
    have close : ∀ b bs o r, I rest (b ++ [a]) o r →
        Q (if decide (sz > cfg.thr) || decide ((b ++ [a]).length ≥ cfg.maxCount) || decide (bs + sz > cfg.maxSize) ||
            rest.isEmpty then
          if (takes o).1 then cut cfg fixed rest [] 0 (takes o).2 (r.send (b ++ [a])) else r.abort (b ++ [a])
        else cut cfg fixed rest (b ++ [a]) (bs + sz) o r) := by
      intro b bs o r h
      split
      · by_cases ht : (takes o).1 = true
        · rw [if_pos ht]; exact ih _ _ _ _ (fun _ => rfl) (taken _ _ _ _ h ht)
        · rw [if_neg ht]; exact refused _ _ _ _ h ht
      · rename_i hl
        exact ih _ _ _ _ (fun hr => absurd (by simp [hr]) hl) h
    rw [cut]
    by_cases h1 : (decide (sz > cfg.thr) && !b.isEmpty) = true
    · by_cases ht : (takes o).1 = true
      · have := close [] 0 _ _ (visit _ _ _ _ _ _ (taken _ _ _ _ h ht))
        generalize takes o = t at ht this ⊢
        obtain ⟨ok, o'⟩ := t
        subst ht
        simp only [h1, if_true]
        exact this
      · have hq : Q ((r.mark a).abort (b ++ if fixed then [a] else [])) := by
          cases fixed
          · simpa using unqueued rfl _ _ _ _ _ _ h ht
          · exact refused _ _ _ _ (visit _ _ _ _ _ _ h) ht
        generalize takes o = t at ht hq ⊢
        obtain ⟨ok, o'⟩ := t
        cases ok
        · simp only [h1, if_true, Bool.false_eq_true, if_false, List.append_assoc]
          exact hq
        · exact absurd rfl ht
    · simp only [h1, Bool.false_eq_true, if_false]
      exact close b bs o _ (visit _ _ _ _ _ _ h)

theorem takes_all {o : List Bool} (h : o.all id = true) : (takes o).1 = true ∧ (takes o).2.all id = true := by
  cases o with
  | nil => exact ⟨rfl, rfl⟩
  | cons x xs => simpa [takes] using h

/-- accounted: every marker of the (partial) result is owned by a sent batch, was removed, or is in the open batch -/
def Owned (r : Res) (b : List Addr) : Prop := ∀ a ∈ r.marked, a ∈ r.sent.flatten ∨ a ∈ r.unmarked ∨ a ∈ b

namespace Owned

theorem mark {r : Res} {b : List Addr} (h : Owned r b) (a : Addr) : Owned (r.mark a) (b ++ [a]) := by
  intro x hx
  rcases List.mem_append.mp hx with hx | hx
  · exact (h x hx).imp_right (Or.imp_right (List.mem_append_left _))
  · exact Or.inr (Or.inr (List.mem_append_right _ hx))

theorem send {r : Res} {b : List Addr} (h : Owned r b) : Owned (r.send b) [] := by
  intro x hx
  have hs : x ∈ (r.sent ++ [b]).flatten ↔ x ∈ r.sent.flatten ∨ x ∈ b := by simp
  rcases h x hx with h' | h' | h'
  · exact Or.inl (hs.mpr (Or.inl h'))
  · exact Or.inr (Or.inl h')
  · exact Or.inl (hs.mpr (Or.inr h'))

theorem abort {r : Res} {b : List Addr} (h : Owned r b) : Owned (r.abort b) [] := by
  intro x hx
  rcases h x hx with h' | h' | h'
  · exact Or.inl h'
  · exact Or.inr (Or.inl (List.mem_append_left _ h'))
  · exact Or.inr (Or.inl (List.mem_append_right _ h'))

end Owned

/-- the repaired loop: a refused hand-over unmarks the open batch and the address being visited -/
theorem pass_owned (cfg : Cfg) (cands : List (Addr × Nat)) (o : List Bool) : Owned (pass cfg true cands o) [] :=
  cut_rule (I := fun _ b _ r => Owned r b) (Q := fun r => Owned r []) cfg true (fun _ _ h => h)
    (fun a _ _ _ _ _ h => h.mark a) (fun _ _ _ _ h _ => h.send) (fun _ _ _ _ h _ => h.abort) nofun
    cands [] 0 o {} (fun _ => rfl) (List.forall_mem_nil _)

/-- handed over ++ open batch ++ still to visit = the pass's sorted-address array `arr` -/
def Queued (arr : List Addr) (r : Res) (b : List Addr) (l : List (Addr × Nat)) : Prop :=
  r.sent.flatten ++ b ++ l.map (·.1) = arr

namespace Queued

theorem mark {arr r b a sz rest} (h : Queued arr r b ((a, sz) :: rest)) : Queued arr (r.mark a) (b ++ [a]) rest := by
  simpa [Queued, Res.mark] using h

theorem send {arr r b l} (h : Queued arr r b l) : Queued arr (r.send b) [] l := by
  simpa [Queued, Res.send] using h

end Queued

/-- the batches a pass hands over are consecutive pieces of a prefix of its sorted-address array -/
theorem pass_sent_prefix (cfg : Cfg) (fixed : Bool) (cands : List (Addr × Nat)) (o : List Bool) :
    ∃ rest, (pass cfg fixed cands o).sent.flatten ++ rest = cands.map (·.1) :=
  cut_rule (I := fun l b _ r => Queued (cands.map Prod.fst) r b l)
    (Q := fun res => ∃ rest, res.sent.flatten ++ rest = cands.map Prod.fst) cfg fixed
    (fun _ _ h => ⟨[], by simpa [Queued] using h⟩) (fun _ _ _ _ _ _ h => h.mark) (fun _ _ _ _ h _ => h.send)
    (fun _ _ _ _ h _ => ⟨_, (List.append_assoc ..).symm.trans h⟩)
    (fun _ _ _ _ _ _ _ h _ => ⟨_, (List.append_assoc ..).symm.trans h⟩) cands [] 0 o {} (fun _ => rfl) rfl

theorem mem_insertBySize (x y : Addr × Nat) (l : List (Addr × Nat)) : y ∈ insertBySize x l ↔ y = x ∨ y ∈ l := by
  induction l with
  | nil => simp [insertBySize]
  | cons z zs ih =>
    simp only [insertBySize]
    split
    · simp
    · simp only [List.mem_cons, ih]; exact or_left_comm

theorem mem_sortBySize (y : Addr × Nat) (l : List (Addr × Nat)) : y ∈ sortBySize l ↔ y ∈ l := by
  induction l with
  | nil => simp [sortBySize]
  | cons z zs ih =>
    have : sortBySize (z :: zs) = insertBySize z (sortBySize zs) := rfl
    rw [this, mem_insertBySize, ih]; simp

/-- every marker has a running job that will clear it -/
def NoLeak (s : Sys) : Prop := ∀ a ∈ s.inflight, ∃ j ∈ s.jobs, a ∈ j

theorem mem_removeAll {l xs : List Addr} {a : Addr} : a ∈ removeAll l xs ↔ a ∈ l ∧ a ∉ xs := by
  simp [removeAll]

theorem removeAll_eq_nil {l xs : List Addr} (h : ∀ a ∈ l, a ∈ xs) : removeAll l xs = [] := by
  simp only [removeAll, List.filter_eq_nil_iff]
  intro a ha
  simp [h a ha]

theorem noLeak_step (cfg : Cfg) (s : Sys) (op : Op) (h : NoLeak s) : NoLeak (stepSys cfg true s op) := by
  cases op with
  | put a sz => simp only [stepSys]; split <;> exact h
  | pass oracle =>
    simp only [stepSys]
    intro a ha
    rw [mem_removeAll, List.mem_append] at ha
    obtain ⟨ha, hnu⟩ := ha
    rcases ha with ha | ha
    · obtain ⟨j, hj, haj⟩ := h a ha
      exact ⟨j, List.mem_append_left _ hj, haj⟩
    · rcases pass_owned cfg (candidates s) oracle a ha with h' | h' | h'
      · obtain ⟨j, hj, haj⟩ := List.mem_flatten.mp h'
        exact ⟨j, List.mem_append_right _ hj, haj⟩
      · exact absurd h' hnu
      · cases h'
  | finish i ok =>
    simp only [stepSys]
    split
    · exact h
    · rename_i j hj
      intro a ha
      rw [mem_removeAll] at ha
      obtain ⟨j', hj', haj'⟩ := h a ha.1
      -- j' is another job than the finished one, so it is still running
      obtain ⟨k, hk⟩ := List.mem_iff_getElem?.mp hj'
      exact ⟨j', List.mem_eraseIdx_iff_getElem?.mpr
        ⟨k, fun e => ha.2 (Option.some.inj ((e ▸ hk).symm.trans hj) ▸ haj'), hk⟩, haj'⟩

theorem noLeak_run (cfg : Cfg) (ops : List Op) (s : Sys) (h : NoLeak s) : NoLeak (runSys cfg true s ops) :=
  List.foldlRecOn ops _ h fun s hs op _ => noLeak_step cfg s op hs

/-- all running jobs end with an accepting main storage -/
def drain (s : Sys) : List Op := List.replicate s.jobs.length (.finish 0 true)

theorem not_contains_append (xs ys : List Addr) (a : Addr) :
    (!(xs ++ ys).contains a) = (!ys.contains a && !xs.contains a) := by
  simp [Bool.and_comm]

theorem run_drain (cfg : Cfg) (fixed : Bool) (s : Sys) :
    runSys cfg fixed s (drain s) =
      { cache := s.cache.filter fun p => !s.jobs.flatten.contains p.1, inflight := removeAll s.inflight s.jobs.flatten,
        jobs := [] } := by
  suffices H : ∀ (js : List (List Addr)) (c : List (Addr × Nat)) (i : List Addr),
      runSys cfg fixed { cache := c, inflight := i, jobs := js } (List.replicate js.length (.finish 0 true)) =
        { cache := c.filter fun p => !js.flatten.contains p.1, inflight := removeAll i js.flatten, jobs := [] } from
    H s.jobs s.cache s.inflight
  intro js
  induction js with
  | nil =>
    intro c i
    have ft : ∀ {α : Type} (l : List α), l.filter (fun _ => true) = l := fun l => List.filter_eq_self.mpr fun _ _ => rfl
    simp [runSys, removeAll, ft]
  | cons j js ih =>
    intro c i
    rw [List.length_cons, List.replicate_succ, runSys, List.foldl_cons]
    have := ih (c.filter fun p => !j.contains p.1) (removeAll i j)
    rw [runSys] at this
    simp only [stepSys, List.getElem?_cons_zero, if_true, List.eraseIdx_cons_zero]
    rw [this, List.flatten_cons]
    simp only [removeAll, List.filter_filter, not_contains_append]

theorem windows_given (id : Nat) : ∀ (bs : List (List Addr)) (lo : Nat), (windows id lo bs).map (·.given) = bs := by
  intro bs
  induction bs with
  | nil => intro lo; rfl
  | cons b bs ih => intro lo; simp [windows, ih]

/-- each window of the array it was cut from holds exactly its batch -/
theorem windows_spec (id : Nat) (arr : List Addr) : ∀ (bs : List (List Addr)) (lo : Nat) (rest : List Addr),
    arr.drop lo = bs.flatten ++ rest →
    ∀ j ∈ windows id lo bs, j.buf = id ∧ (arr.drop j.lo).take j.given.length = j.given := by
  intro bs
  induction bs with
  | nil => intro lo rest _ j hj; simp [windows] at hj
  | cons b bs ih =>
    intro lo rest h j hj
    simp only [windows, List.mem_cons] at hj
    rcases hj with rfl | hj
    · refine ⟨rfl, ?_⟩
      simp only []
      rw [h]
      simp [List.flatten_cons, List.append_assoc]
    · apply ih (lo + b.length) rest ?_ j hj
      rw [← List.drop_drop, h]
      simp [List.flatten_cons, List.append_assoc]

/-- every running job's window still holds what the job was given (and its array exists) -/
def Views (s : BSys) : Prop := ∀ j ∈ s.jobs, j.buf < s.bufs.length ∧ window s.bufs j = j.given

theorem views_init : Views {} := by intro j hj; simp at hj

theorem map_eraseIdx {α β : Type} (f : α → β) (l : List α) : ∀ (i : Nat), (l.eraseIdx i).map f = (l.map f).eraseIdx i := by
  induction l with
  | nil => exact fun _ => rfl
  | cons x xs ih =>
    intro i
    cases i with
    | zero => rfl
    | succ n => exact congrArg (f x :: ·) (ih n)

theorem getElem?_map_given (jobs : List Job) (i : Nat) : (jobs.map (·.given))[i]? = (jobs[i]?).map (·.given) := by
  simp

/-- with a fresh array per pass (the code) a step keeps every window intact, and forgetting the arrays gives exactly
the step of `Sys` -/
theorem stepB_fresh (cfg : Cfg) (s : BSys) (op : Op) (h : Views s) :
    Views (stepB cfg false s op) ∧ toSys (stepB cfg false s op) = stepSys cfg true (toSys s) op := by
  cases op with
  | put a sz =>
    have e : (toSys s).cache = s.cache := rfl
    simp only [stepB, stepSys, e]
    split
    · exact ⟨h, rfl⟩
    · exact ⟨h, rfl⟩
  | pass oracle =>
    constructor
    · intro j hj
      simp only [stepB, Bool.false_eq_true, if_false, List.mem_append] at hj
      simp only [stepB, Bool.false_eq_true, if_false, List.length_append, List.length_singleton]
      rcases hj with hj | hj
      · obtain ⟨h1, h2⟩ := h j hj
        refine ⟨by omega, ?_⟩
        rw [← h2]
        simp only [window, List.getD_eq_getElem?_getD]
        rw [List.getElem?_append_left h1]
      · obtain ⟨rest, hp⟩ := pass_sent_prefix cfg true (candidates (toSys s)) oracle
        have := windows_spec s.bufs.length ((candidates (toSys s)).map (·.1)) _ 0 rest (by simpa using hp.symm) j hj
        refine ⟨by omega, ?_⟩
        simp only [window, List.getD_eq_getElem?_getD, this.1]
        rw [List.getElem?_append_right (Nat.le_refl _)]
        simpa using this.2
    · simp only [stepB, stepSys, toSys, Bool.false_eq_true, if_false, List.map_append, windows_given]
  | finish i ok =>
    simp only [stepB, stepSys]
    have hm : (toSys s).jobs[i]? = (s.jobs[i]?).map (·.given) := getElem?_map_given s.jobs i
    cases hj : s.jobs[i]? with
    | none =>
      rw [hm, hj]
      exact ⟨h, rfl⟩
    | some j =>
      rw [hm, hj]
      simp only [Option.map_some]
      have hjm : j ∈ s.jobs := List.mem_of_getElem? hj
      refine ⟨?_, ?_⟩
      · intro j' hj'
        exact h j' (List.mem_of_mem_eraseIdx hj')
      · simp only [toSys, (h j hjm).2, map_eraseIdx]

theorem runB_fresh (cfg : Cfg) (ops : List Op) : ∀ (s : BSys), Views s →
    Views (runB cfg false s ops) ∧ toSys (runB cfg false s ops) = runSys cfg true (toSys s) ops := by
  induction ops with
  | nil => intro s h; exact ⟨h, rfl⟩
  | cons op ops ih =>
    intro s h
    have hs := stepB_fresh cfg s op h
    have := ih _ hs.1
    simp only [runB, runSys, List.foldl_cons] at this ⊢
    rw [hs.2] at this
    exact this

end NeoFS.WCSched
