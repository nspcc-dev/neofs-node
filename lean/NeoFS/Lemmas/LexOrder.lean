/-
Order theory of `bytes.Compare` (`Int256.lexCmp` on byte lists) used by the search proofs (C03, C04):
total order, compatibility with common prefixes, convexity of the set of strings with a given prefix, and the
key-order lemmas (`attr 00 val 00 oid` is ordered like `(val, oid)` for delimiter-free values; fixed-width values
followed by an id are ordered like the pair).
-/
import NeoFS.Model.Int256
namespace NeoFS.Int256

theorem lexCmp_cons (x y : Nat) (xs ys : List Nat) :
    lexCmp (x :: xs) (y :: ys) = (compare x y).then (lexCmp xs ys) := by
  rw [lexCmp, Nat.compare_eq_ite_lt, apply_ite (Ordering.then · (lexCmp xs ys)), apply_ite (Ordering.then · (lexCmp xs ys))]
  rfl

theorem lexCmp_refl (a : List Nat) : lexCmp a a = .eq := by
  induction a with
  | nil => rfl
  | cons x xs ih => rw [lexCmp_cons, ih, Nat.compare_eq_eq.mpr rfl]; rfl

theorem lexCmp_eq_iff (a b : List Nat) : lexCmp a b = .eq ↔ a = b := by
  induction a generalizing b with
  | nil => cases b <;> simp [lexCmp]
  | cons x xs ih =>
    cases b with
    | nil => simp [lexCmp]
    | cons y ys => rw [lexCmp_cons, Ordering.then_eq_eq, Nat.compare_eq_eq, ih, List.cons.injEq]

theorem lexCmp_swap (a b : List Nat) : (lexCmp a b).swap = lexCmp b a := by
  induction a generalizing b with
  | nil => cases b <;> rfl
  | cons x xs ih =>
    cases b with
    | nil => rfl
    | cons y ys => rw [lexCmp_cons, lexCmp_cons, Ordering.swap_then, Nat.compare_swap, ih]

theorem lexCmp_gt_iff (a b : List Nat) : lexCmp a b = .gt ↔ lexCmp b a = .lt := by
  rw [← lexCmp_swap a b]; cases lexCmp a b <;> simp [Ordering.swap]

/-- `a ≤ b`. -/
def bLe (a b : List Nat) : Prop := lexCmp a b ≠ .gt
/-- `a < b`. -/
def bLt (a b : List Nat) : Prop := lexCmp a b = .lt

theorem bLe_refl (a : List Nat) : bLe a a := by simp [bLe, lexCmp_refl]

theorem bLt_iff_not_bLe (a b : List Nat) : bLt a b ↔ ¬ bLe b a := by
  unfold bLt bLe
  have := lexCmp_gt_iff b a
  constructor
  · intro h; simp [this.2 h]
  · intro h; exact this.1 (by simpa using h)

theorem then_ne_gt {a b : Ordering} : a.then b ≠ .gt ↔ a = .lt ∨ (a = .eq ∧ b ≠ .gt) := by
  cases a <;> simp

theorem bLe_cons (x y : Nat) (xs ys : List Nat) : bLe (x :: xs) (y :: ys) ↔ x < y ∨ (x = y ∧ bLe xs ys) := by
  unfold bLe
  rw [lexCmp_cons, then_ne_gt, Nat.compare_eq_lt, Nat.compare_eq_eq]

theorem bLt_cons (x y : Nat) (xs ys : List Nat) : bLt (x :: xs) (y :: ys) ↔ x < y ∨ (x = y ∧ bLt xs ys) := by
  unfold bLt
  rw [lexCmp_cons, Ordering.then_eq_lt, Nat.compare_eq_lt, Nat.compare_eq_eq]

theorem bLe_nil (b : List Nat) : bLe [] b := by cases b <;> simp [bLe, lexCmp]
theorem not_bLe_cons_nil (x : Nat) (xs : List Nat) : ¬ bLe (x :: xs) [] := by simp [bLe, lexCmp]
theorem not_bLt_nil (a : List Nat) : ¬ bLt a [] := by cases a <;> simp [bLt, lexCmp]

theorem bLe_trans {a b c : List Nat} (h1 : bLe a b) (h2 : bLe b c) : bLe a c := by
  induction a generalizing b c with
  | nil => exact bLe_nil c
  | cons x xs ih =>
    cases b with
    | nil => exact absurd h1 (not_bLe_cons_nil x xs)
    | cons y ys =>
      cases c with
      | nil => exact absurd h2 (not_bLe_cons_nil y ys)
      | cons z zs =>
        rw [bLe_cons] at h1 h2 ⊢
        rcases h1 with h1 | ⟨rfl, h1⟩
        · rcases h2 with h2 | ⟨rfl, _⟩
          · left; exact Nat.lt_trans h1 h2
          · left; exact h1
        · rcases h2 with h2 | ⟨rfl, h2⟩
          · left; exact h2
          · right; exact ⟨rfl, ih h1 h2⟩

theorem bLt_of_bLt_of_bLe {a b c : List Nat} (h1 : bLt a b) (h2 : bLe b c) : bLt a c := by
  rw [bLt_iff_not_bLe] at h1 ⊢
  intro h3; exact h1 (bLe_trans h2 h3)

theorem bLt_of_bLe_of_bLt {a b c : List Nat} (h1 : bLe a b) (h2 : bLt b c) : bLt a c := by
  rw [bLt_iff_not_bLe] at h2 ⊢
  intro h3; exact h2 (bLe_trans h3 h1)

theorem bLe_of_bLt {a b : List Nat} (h : bLt a b) : bLe a b := by
  unfold bLt at h; unfold bLe; rw [h]; simp

theorem bLe_total (a b : List Nat) : bLe a b ∨ bLe b a := by
  by_cases h : bLe a b
  · exact Or.inl h
  · right; have := (bLt_iff_not_bLe b a).2 h; exact bLe_of_bLt this

theorem bLe_antisymm {a b : List Nat} (h1 : bLe a b) (h2 : bLe b a) : a = b := by
  rw [← lexCmp_eq_iff]
  unfold bLe at h1 h2
  have := lexCmp_gt_iff b a
  cases h : lexCmp a b
  · exact absurd (this.2 h) h2
  · rfl
  · exact absurd h h1

theorem bLe_iff_lt_or_eq (a b : List Nat) : bLe a b ↔ bLt a b ∨ a = b := by
  constructor
  · intro h
    by_cases h2 : bLe b a
    · exact Or.inr (bLe_antisymm h h2)
    · exact Or.inl ((bLt_iff_not_bLe a b).2 h2)
  · rintro (h | rfl)
    · exact bLe_of_bLt h
    · exact bLe_refl a

/-- common prefixes do not matter. -/
theorem lexCmp_append_left (p a b : List Nat) : lexCmp (p ++ a) (p ++ b) = lexCmp a b := by
  induction p with
  | nil => rfl
  | cons x xs ih => rw [List.cons_append, List.cons_append, lexCmp_cons, ih, Nat.compare_eq_eq.mpr rfl]; rfl

theorem lexCmp_cons_same (x : Nat) (a b : List Nat) : lexCmp (x :: a) (x :: b) = lexCmp a b :=
  lexCmp_append_left [x] a b

/-- a prefix is below its extensions. -/
theorem bLe_of_prefix {c w : List Nat} (h : c <+: w) : bLe c w := by
  obtain ⟨t, rfl⟩ := h
  have := lexCmp_append_left c [] t
  simp only [List.append_nil] at this
  unfold bLe; rw [this]; cases t <;> simp [lexCmp]

/-- the strings with a given prefix form an interval. -/
theorem prefix_convex {c w w' : List Nat} (h1 : bLe c w) (h2 : bLe w w') (h3 : c <+: w') : c <+: w := by
  induction c generalizing w w' with
  | nil => exact List.nil_prefix
  | cons x cs ih =>
    obtain ⟨t, rfl⟩ := h3
    cases w with
    | nil => exact absurd h1 (not_bLe_cons_nil x cs)
    | cons y ys =>
      rw [List.cons_append, bLe_cons] at h2
      rw [bLe_cons] at h1
      rcases h1 with h1 | ⟨rfl, h1⟩
      · rcases h2 with h2 | ⟨rfl, _⟩
        · exact absurd h1 (Nat.lt_asymm h2)
        · exact absurd h1 (Nat.lt_irrefl _)
      · rcases h2 with h2 | ⟨_, h2⟩
        · exact absurd h2 (Nat.lt_irrefl _)
        · exact (List.prefix_cons_inj x).2 (ih h1 h2 (List.prefix_append cs t))

/-! ### key order -/

def thenCmp (a b : Ordering) : Ordering := match a with | .eq => b | o => o

theorem thenCmp_eq_then (a b : Ordering) : thenCmp a b = a.then b := by cases a <;> rfl

/-- delimiter-free values followed by the delimiter and anything: ordered like the pair. -/
theorem lexCmp_delim (v1 v2 r1 r2 : List Nat) (h1 : ∀ x ∈ v1, x ≠ 0) (h2 : ∀ x ∈ v2, x ≠ 0) :
    lexCmp (v1 ++ 0 :: r1) (v2 ++ 0 :: r2) = thenCmp (lexCmp v1 v2) (lexCmp r1 r2) := by
  induction v1 generalizing v2 with
  | nil =>
    cases v2 with
    | nil => rw [List.nil_append, List.nil_append, lexCmp_cons]; rfl
    | cons y ys =>
      have hy : 0 < y := Nat.pos_of_ne_zero (h2 y List.mem_cons_self)
      rw [List.nil_append, List.cons_append, lexCmp_cons, Nat.compare_eq_lt.mpr hy]; rfl
  | cons x xs ih =>
    cases v2 with
    | nil =>
      have hx : 0 < x := Nat.pos_of_ne_zero (h1 x List.mem_cons_self)
      rw [List.nil_append, List.cons_append, lexCmp_cons, Nat.compare_eq_gt.mpr hx]; rfl
    | cons y ys =>
      rw [List.cons_append, List.cons_append, lexCmp_cons, lexCmp_cons,
        ih ys (fun z hz => h1 z (List.mem_cons_of_mem _ hz)) (fun z hz => h2 z (List.mem_cons_of_mem _ hz)),
        thenCmp_eq_then, thenCmp_eq_then, Ordering.then_assoc]

/-- fixed-width values followed by anything: ordered like the pair. -/
theorem lexCmp_fixed (e1 e2 r1 r2 : List Nat) (hl : e1.length = e2.length) :
    lexCmp (e1 ++ r1) (e2 ++ r2) = thenCmp (lexCmp e1 e2) (lexCmp r1 r2) := by
  induction e1 generalizing e2 with
  | nil =>
    cases e2 with
    | nil => rfl
    | cons y ys => simp at hl
  | cons x xs ih =>
    cases e2 with
    | nil => simp at hl
    | cons y ys =>
      rw [List.cons_append, List.cons_append, lexCmp_cons, lexCmp_cons, ih ys (by simpa using hl),
        thenCmp_eq_then, thenCmp_eq_then, Ordering.then_assoc]

theorem lexCmp_split (n : Nat) {a b : List Nat} (h : a.length = b.length) :
    lexCmp a b = (lexCmp (a.take n) (b.take n)).then (lexCmp (a.drop n) (b.drop n)) := by
  conv => lhs; rw [← List.take_append_drop n a, ← List.take_append_drop n b]
  rw [lexCmp_fixed _ _ _ _ (by rw [List.length_take, List.length_take, h]), thenCmp_eq_then]

end NeoFS.Int256
