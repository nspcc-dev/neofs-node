import NeoFS.Model.Policer
import Mathlib.Data.List.Nodup
/-! What each step of a policer pass does, as equations and case rules, and the invariants built on them. -/
namespace NeoFS.Policer

/-! ### the replicator -/

/-- a sound report of a node loop: at most `q` entries, each a `good` node of `ns` -/
def Report (good : Nat → Prop) (q : Nat) (ns L : List Nat) : Prop :=
  L.length ≤ q ∧ ∀ n ∈ L, n ∈ ns ∧ good n

section
variable {good : Nat → Prop} {q a : Nat} {as L : List Nat}

theorem Report.nil : Report good q as [] :=
  ⟨Nat.zero_le _, fun _ h => nomatch h⟩

theorem Report.skip (h : Report good q as L) : Report good q (a :: as) L :=
  ⟨h.1, fun n hn => ⟨List.mem_cons_of_mem _ (h.2 n hn).1, (h.2 n hn).2⟩⟩

theorem Report.take (hq : q ≠ 0) (ha : good a) (h : Report good (q - 1) as L) : Report good q (a :: as) (a :: L) := by
  refine ⟨Nat.succ_le_of_lt (Nat.lt_of_le_pred (Nat.pos_of_ne_zero hq) h.1), fun n hn => ?_⟩
  rcases List.mem_cons.mp hn with rfl | hn
  · exact ⟨List.mem_cons_self, ha⟩
  · exact ⟨List.mem_cons_of_mem _ (h.2 n hn).1, (h.2 n hn).2⟩

end

theorem sendLoop_eq (e : Env) (q : Nat) (nodes : List Nat) :
    sendLoop e q nodes = (nodes.filter fun n => decide (n ≠ e.me) && e.repl n).take q := by
  induction nodes generalizing q with
  | nil => simp [sendLoop]
  | cons a as ih =>
    cases q with
    | zero => simp [sendLoop]
    | succ q =>
      by_cases h1 : a = e.me
      · simp [sendLoop, h1, ih]
      · cases h2 : e.repl a <;> simp [sendLoop, h1, h2, ih]

theorem sendLoop_eq_take (e : Env) (h : ∀ n, e.repl n = true) (K : List Nat) (hk : ∀ k ∈ K, k ≠ e.me) (q : Nat) :
    sendLoop e q K = K.take q := by
  rw [sendLoop_eq, List.filter_eq_self.mpr]
  exact fun k hk' => by simp [h k, hk k hk']

theorem handleTask_sound (e : Env) (q : Nat) (nodes : List Nat) :
    (handleTask e q nodes).length ≤ q ∧
      ∀ n ∈ handleTask e q nodes, n ∈ nodes ∧ n ≠ e.me ∧ e.repl n = true := by
  unfold handleTask
  split_ifs
  · rw [sendLoop_eq]
    refine ⟨List.length_take_le _ _, fun n hn => ?_⟩
    simpa using List.mem_filter.mp (List.mem_of_mem_take hn)
  · simp

/-- `HandleTask`'s report for one task: at most `quantity` successes, each a node of the task, not the local
node, that accepted the object -/
def TaskSound (e : Env) (t : Task) : Prop :=
  t.done.length ≤ t.quantity ∧ ∀ n ∈ t.done, n ∈ t.nodes ∧ n ≠ e.me ∧ e.repl n = true

theorem taskSound_iff {e : Env} {t : Task} :
    TaskSound e t ↔ Report (fun n => n ≠ e.me ∧ e.repl n = true) t.quantity t.nodes t.done :=
  Iff.rfl

/-! ### the loop body -/

theorem dec32_of_ne_zero {n : Nat} (h : n ≠ 0) : dec32 n = n - 1 := by
  unfold dec32; simp [h]

theorem dec32_le {n : Nat} (h : n ≠ 0) : dec32 n ≤ n := by
  rw [dec32_of_ne_zero h]; omega

theorem cacheGet_cons_ne (c : List (Nat × Bool)) (a n : Nat) (b : Bool) (h : n ≠ a) :
    cacheGet ((a, b) :: c) n = cacheGet c n := by
  unfold cacheGet
  rw [List.find?_cons_of_neg]
  simp [Ne.symm h]

theorem cacheGet_cons_self (c : List (Nat × Bool)) (a : Nat) (b : Bool) :
    cacheGet ((a, b) :: c) a = some b := by
  unfold cacheGet
  simp

theorem cacheGet_foldl_cons_true (done : List Nat) (c : List (Nat × Bool)) (n : Nat)
    (h : cacheGet (done.foldl (fun acc m => (m, true) :: acc) c) n = some true) :
    n ∈ done ∨ cacheGet c n = some true := by
  induction done generalizing c with
  | nil => exact Or.inr h
  | cons a as ih =>
    rcases ih _ h with h | h
    · exact Or.inl (List.mem_cons_of_mem _ h)
    · by_cases hna : n = a
      · exact Or.inl (hna ▸ List.mem_cons_self)
      · rw [cacheGet_cons_ne _ _ _ _ hna] at h
        exact Or.inr h

/-- the context with the container flag updated, as every loop iteration leaves it at least -/
def seen (e : Env) (c : Ctx) (n : Nat) : Ctx := { c with inCnr := c.inCnr || decide (n = e.me) }

def asked (e : Env) (c : Ctx) (n : Nat) : Ctx := { seen e c n with heads := c.heads ++ [n] }

structure Fresh (e : Env) (c : Ctx) (l : Loop) (n : Nat) : Prop where
  short : l.shortage ≠ 0
  remote : n ≠ e.me
  unflagged : e.flag n = false
  uncached : cacheGet c.cache n = none

theorem nodeStep_cases {P : Ctx × Loop → Prop} {e : Env} {c : Ctx} {l : Loop} {n : Nat}
    (zero : l.shortage = 0 → P (seen e c n, l))
    (loc : l.shortage ≠ 0 → n = e.me → P ({ seen e c n with need := true }, { l with shortage := l.shortage - 1 }))
    (flag : l.shortage ≠ 0 → e.flag n = true → P (onMaint (seen e c n) l n))
    (cached : ∀ b, cacheGet c.cache n = some b → P (seen e c n, if b then l else { l with cands := l.cands ++ [n] }))
    (notFound : Fresh e c l n → e.ans n = .notFound →
      P ({ asked e c n with cache := (n, false) :: c.cache }, { l with cands := l.cands ++ [n] }))
    (maint : Fresh e c l n → e.ans n = .maint → P (onMaint (asked e c n) l n))
    (err : Fresh e c l n → e.ans n = .err → P (asked e c n, l))
    (holds : Fresh e c l n → e.ans n = .holds →
      P ({ asked e c n with cache := (n, true) :: c.cache }, { l with shortage := l.shortage - 1 })) :
    P (nodeStep e c l n) := by
  unfold nodeStep
  dsimp only
  by_cases h0 : l.shortage = 0
  · rw [if_pos h0]; exact zero h0
  rw [if_neg h0, dec32_of_ne_zero h0]
  by_cases hl : n = e.me
  · rw [if_pos hl]; exact loc h0 hl
  rw [if_neg hl]
  cases hf : e.flag n with
  | true => exact flag h0 hf
  | false =>
    rw [if_neg Bool.false_ne_true]
    cases hc : cacheGet c.cache n with
    | some b => cases b <;> exact cached _ hc
    | none =>
      cases ha : e.ans n with
      | notFound => exact notFound ⟨h0, hl, hf, hc⟩ ha
      | maint => exact maint ⟨h0, hl, hf, hc⟩ ha
      | err => exact err ⟨h0, hl, hf, hc⟩ ha
      | holds => exact holds ⟨h0, hl, hf, hc⟩ ha

/-! ### monotonicity of the context through a pass -/

theorem eq_false_of_imp {a b : Bool} (h : a = true → b = true) (hb : b = false) : a = false := by
  cases a
  · rfl
  · rw [h rfl] at hb; cases hb

/-- need, HEAD log and `unchecked` only grow, the shortage only falls, the tasks stay -/
structure StepMono (c c' : Ctx) (l l' : Loop) : Prop where
  need : c.need = true → c'.need = true
  heads : ∀ n ∈ c.heads, n ∈ c'.heads
  unchecked : l.unchecked ≤ l'.unchecked
  shortage : l'.shortage ≤ l.shortage
  tasks : c'.tasks = c.tasks

theorem StepMono.refl (c : Ctx) (l : Loop) : StepMono c c l l :=
  ⟨id, fun _ h => h, Nat.le_refl _, Nat.le_refl _, rfl⟩

theorem StepMono.trans {c c' c'' : Ctx} {l l' l'' : Loop} (s : StepMono c c' l l') (r : StepMono c' c'' l' l'') :
    StepMono c c'' l l'' :=
  ⟨fun h => r.need (s.need h), fun n h => r.heads n (s.heads n h), Nat.le_trans s.unchecked r.unchecked,
    Nat.le_trans r.shortage s.shortage, r.tasks.trans s.tasks⟩

theorem nodeStep_mono (e : Env) (c : Ctx) (l : Loop) (n : Nat) :
    StepMono c (nodeStep e c l n).1 l (nodeStep e c l n).2 := by
  have headed : ∀ m ∈ c.heads, m ∈ c.heads ++ [n] := fun _ h => List.mem_append_left _ h
  refine nodeStep_cases (P := fun r => StepMono c r.1 l r.2) ?_ ?_ ?_ ?_ ?_ ?_ ?_ ?_
  · exact fun _ => ⟨id, fun _ h => h, Nat.le_refl _, Nat.le_refl _, rfl⟩
  · exact fun _ _ => ⟨fun _ => rfl, fun _ h => h, Nat.le_refl _, Nat.sub_le _ _, rfl⟩
  · exact fun h0 _ => ⟨id, fun _ h => h, Nat.le_succ _, dec32_le h0, rfl⟩
  · intro b _
    cases b <;> exact ⟨id, fun _ h => h, Nat.le_refl _, Nat.le_refl _, rfl⟩
  · exact fun _ _ => ⟨id, headed, Nat.le_refl _, Nat.le_refl _, rfl⟩
  · exact fun f _ => ⟨id, headed, Nat.le_succ _, dec32_le f.short, rfl⟩
  · exact fun _ _ => ⟨id, headed, Nat.le_refl _, Nat.le_refl _, rfl⟩
  · exact fun _ _ => ⟨id, headed, Nat.le_refl _, Nat.sub_le _ _, rfl⟩

theorem nodeStep_inCnr (e : Env) (c : Ctx) (l : Loop) (n : Nat) :
    (nodeStep e c l n).1.inCnr = (c.inCnr || decide (n = e.me)) := by
  refine nodeStep_cases (P := fun r => r.1.inCnr = (c.inCnr || decide (n = e.me))) ?_ ?_ ?_ ?_ ?_ ?_ ?_ ?_
  -- every outcome is built on `seen e c n`
  all_goals intros; rfl

theorem walk_mono (e : Env) (ns : List Nat) (c : Ctx) (l : Loop) :
    StepMono c (walk e c l ns).1 l (walk e c l ns).2 := by
  fun_induction walk e c l ns with
  | case1 c l => exact .refl c l
  | case2 c l => exact .refl c l
  | case3 c l a as _ _ ih => exact (nodeStep_mono e c l a).trans ih

/-! ### the decision chain -/

theorem replicate_inCnr (e : Env) (c : Ctx) (q : Nat) (ns : List Nat) : (replicate e c q ns).inCnr = c.inCnr := rfl
theorem replicate_heads (e : Env) (c : Ctx) (q : Nat) (ns : List Nat) : (replicate e c q ns).heads = c.heads := rfl
theorem replicate_unchk (e : Env) (c : Ctx) (q : Nat) (ns : List Nat) : (replicate e c q ns).unchk = c.unchk := rfl

theorem finish_cases {P : Ctx → Prop} {e : Env} {legacy : Bool} {c : Ctx} {l : Loop} (keep : P c)
    (repl : ∀ q, q = l.shortage ∨ q = l.cands.length → P (replicate e c q l.cands))
    (need : ∀ c', P c' → P { c' with need := true }) : P (finish e legacy c l) := by
  unfold finish
  cases legacy
  · rw [if_neg Bool.false_ne_true]
    by_cases hs : l.shortage > 0
    · rw [if_pos hs]; exact repl _ (Or.inl rfl)
    rw [if_neg hs]
    have h1 : P (if l.cands ≠ [] then replicate e c l.cands.length l.cands else c) := by
      by_cases hc : l.cands ≠ []
      · rw [if_pos hc]; exact repl _ (Or.inr rfl)
      · rw [if_neg hc]; exact keep
    by_cases hu : l.unchecked > 0
    · rw [if_pos hu]; exact need _ h1
    · rw [if_neg hu]; exact h1
  · rw [if_pos rfl]
    by_cases hs : l.shortage > 0
    · rw [if_pos hs]; exact repl _ (Or.inl rfl)
    rw [if_neg hs]
    by_cases hc : l.cands ≠ []
    · rw [if_pos hc]; exact repl _ (Or.inr rfl)
    rw [if_neg hc]
    by_cases hu : l.unchecked > 0
    · rw [if_pos hu]; exact need _ keep
    · rw [if_neg hu]; exact keep

theorem finish_of_shortage {e : Env} {legacy : Bool} {c : Ctx} {l : Loop} (h : l.shortage > 0) :
    finish e legacy c l = replicate e c l.shortage l.cands := by
  cases legacy <;> simp [finish, h]

theorem finish_repaired_need_of_unchecked {e : Env} {c : Ctx} {l : Loop} (hs : l.shortage = 0) (hu : l.unchecked > 0) :
    (finish e false c l).need = true := by
  simp [finish, hs, hu]

theorem finish_need (e : Env) (legacy : Bool) (c : Ctx) (l : Loop) : c.need = true → (finish e legacy c l).need = true :=
  fun h => finish_cases (P := fun c' => c'.need = true) h (fun _ _ => h) (fun _ _ => rfl)

theorem finish_heads (e : Env) (legacy : Bool) (c : Ctx) (l : Loop) : (finish e legacy c l).heads = c.heads :=
  finish_cases (P := fun c' => c'.heads = c.heads) rfl (fun _ _ => rfl) (fun _ h => h)

/-! ### the pass over the lists -/

theorem walk_invariant {P : Ctx → Prop} (e : Env) (ns : List Nat) (step : ∀ c l, ∀ n ∈ ns, P c → P (nodeStep e c l n).1)
    (c : Ctx) (l : Loop) (h : P c) : P (walk e c l ns).1 := by
  fun_induction walk e c l ns with
  | case1 => exact h
  | case2 => exact h
  | case3 c l a as _ _ ih =>
    exact ih (fun c l n hn => step c l n (List.mem_cons_of_mem _ hn)) (step c l a List.mem_cons_self h)

theorem runVectors_invariant {P : Ctx → Prop} (e : Env) (legacy : Bool) (t : OType) (vs : List (List Nat × Nat))
    (step : ∀ c l, ∀ v ∈ vs, ∀ n ∈ v.1, P c → P (nodeStep e c l n).1)
    (repl : ∀ c q ns, P c → P (replicate e c q ns)) (need : ∀ c, P c → P { c with need := true })
    (c : Ctx) (h : P c) : P (runVectors e legacy t c vs) := by
  induction vs generalizing c with
  | nil => exact h
  | cons v vs ih =>
    refine ih (fun c l w hw => step c l w (List.mem_cons_of_mem _ hw)) _ ?_
    have hw := walk_invariant e v.1 (fun c l => step c l v List.mem_cons_self) c { shortage := startShortage t v.1 v.2 } h
    exact finish_cases hw (fun q _ => repl _ q _ hw) need

theorem runVectors_need_heads (e : Env) (legacy : Bool) (t : OType) (vs : List (List Nat × Nat)) (c : Ctx) :
    (c.need = true → (runVectors e legacy t c vs).need = true) ∧ ∀ n ∈ c.heads, n ∈ (runVectors e legacy t c vs).heads :=
  runVectors_invariant (P := fun c' => (c.need = true → c'.need = true) ∧ ∀ n ∈ c.heads, n ∈ c'.heads) e legacy t vs
    (fun c' l _ _ m _ h => ⟨fun hn => (nodeStep_mono e c' l m).need (h.1 hn), fun n hn => (nodeStep_mono e c' l m).heads n (h.2 n hn)⟩)
    (fun _ _ _ h => h) (fun _ h => ⟨fun _ => rfl, h.2⟩) c ⟨id, fun _ h => h⟩

/-! ### the local node is reached only with the shortage covered -/

theorem walk_shortage_eq_zero {e : Env} {ns : List Nat} {c : Ctx} {l : Loop} (hm : e.me ∈ ns)
    (hn : (walk e c l ns).1.need = false) : (walk e c l ns).2.shortage = 0 := by
  fun_induction walk e c l ns with
  | case1 => simp at hm
  | case2 c l a as hstop =>
    simp only [Bool.and_eq_true, decide_eq_true_eq] at hstop
    exact hstop.2
  | case3 c l a as _ r ih =>
    rcases List.mem_cons.mp hm with ha | hm
    · -- the local node itself: met with a shortage it would have declared the copy needed
      by_cases hz : l.shortage = 0
      · exact Nat.le_zero.mp (hz ▸ ((nodeStep_mono e c l a).trans (walk_mono e as _ _)).shortage)
      · have h1 : r.1.need = true := by simp [r, nodeStep, hz, ha.symm]
        rw [(walk_mono e as _ _).need h1] at hn
        exact Bool.noConfusion hn
    · exact ih hm hn

/-! ### every unit of covered shortage is a distinct node whose header was read -/

/-- as many distinct nodes of the list of rule `v` as the rule asks for have the property `Q` -/
def CoveredBy (Q : Nat → Prop) (t : OType) (v : List Nat × Nat) : Prop :=
  ∃ D : List Nat, D.Nodup ∧ D.length = startShortage t v.1 v.2 ∧ ∀ n ∈ D, n ∈ v.1 ∧ Q n

theorem CoveredBy.mono {Q Q' : Nat → Prop} {t : OType} {v : List Nat × Nat} (h : CoveredBy Q t v)
    (hq : ∀ n ∈ v.1, Q n → Q' n) : CoveredBy Q' t v :=
  let ⟨D, nd, len, ok⟩ := h
  ⟨D, nd, len, fun n hn => ⟨(ok n hn).1, hq n (ok n hn).1 (ok n hn).2⟩⟩

/-- a node whose header was read in this pass -/
def HeadOK (e : Env) (heads : List Nat) (n : Nat) : Prop :=
  n ≠ e.me ∧ e.flag n = false ∧ e.ans n = .holds ∧ n ∈ heads

theorem HeadOK.mono {e : Env} {h h' : List Nat} {n : Nat} (x : HeadOK e h n) (hh : ∀ m ∈ h, m ∈ h') : HeadOK e h' n :=
  ⟨x.1, x.2.1, x.2.2.1, hh n x.2.2.2⟩

structure Wit (e : Env) (c : Ctx) (D : List Nat) : Prop where
  nodup : D.Nodup
  cached : ∀ n ∈ D, cacheGet c.cache n = some true
  ok : ∀ n ∈ D, HeadOK e c.heads n

theorem Wit.mono {e : Env} {c c' : Ctx} {D : List Nat} (w : Wit e c D)
    (hc : ∀ n ∈ D, cacheGet c'.cache n = some true) (hh : ∀ n ∈ c.heads, n ∈ c'.heads) : Wit e c' D :=
  ⟨w.nodup, hc, fun n hn => (w.ok n hn).mono hh⟩

theorem nodeStep_wit {e : Env} {c : Ctx} {l : Loop} {a : Nat} {D : List Nat} (w : Wit e c D)
    (hn1 : (nodeStep e c l a).1.need = false) (hu1 : (nodeStep e c l a).2.unchecked = l.unchecked) :
    ∃ D1, Wit e (nodeStep e c l a).1 D1 ∧
      D1.length + (nodeStep e c l a).2.shortage = D.length + l.shortage ∧ ∀ n ∈ D1, n ∈ D ∨ n = a := by
  have headed : ∀ m ∈ c.heads, m ∈ c.heads ++ [a] := fun _ h => List.mem_append_left _ h
  -- an uncached node is not among the witnesses, so a new cache entry for it leaves theirs alone
  have fresh : cacheGet c.cache a = none → ∀ n ∈ D, n ≠ a := fun hc n hn heq => by
    have := w.cached n hn
    rw [heq, hc] at this
    cases this
  have cons : cacheGet c.cache a = none → ∀ b, ∀ n ∈ D, cacheGet ((a, b) :: c.cache) n = some true :=
    fun hc b n hn => (cacheGet_cons_ne _ _ _ _ (fresh hc n hn)).trans (w.cached n hn)
  revert hn1 hu1
  refine nodeStep_cases (P := fun r => r.1.need = false → r.2.unchecked = l.unchecked →
    ∃ D1, Wit e r.1 D1 ∧ D1.length + r.2.shortage = D.length + l.shortage ∧ ∀ n ∈ D1, n ∈ D ∨ n = a)
    ?_ ?_ ?_ ?_ ?_ ?_ ?_ ?_
  · exact fun _ _ _ => ⟨D, w.mono w.cached (fun _ h => h), rfl, fun n h => Or.inl h⟩
  · exact fun _ _ hn => Bool.noConfusion hn
  · exact fun _ _ _ hu => absurd hu (Nat.succ_ne_self _)
  · intro b _ _ _
    refine ⟨D, w.mono w.cached (fun _ h => h), ?_, fun n h => Or.inl h⟩
    cases b <;> rfl
  · exact fun f _ _ _ => ⟨D, w.mono (cons f.uncached false) headed, rfl, fun n h => Or.inl h⟩
  · exact fun _ _ _ hu => absurd hu (Nat.succ_ne_self _)
  · exact fun _ _ _ _ => ⟨D, w.mono w.cached headed, rfl, fun n h => Or.inl h⟩
  · -- a header read: `a` becomes a witness
    intro f hans _ _
    refine ⟨a :: D, ⟨List.nodup_cons.mpr ⟨fun hmem => fresh f.uncached a hmem rfl, w.nodup⟩, ?_, ?_⟩, ?_, ?_⟩
    · intro n hn
      rcases List.mem_cons.mp hn with rfl | hn
      · exact cacheGet_cons_self _ _ _
      · exact cons f.uncached true n hn
    · intro n hn
      rcases List.mem_cons.mp hn with rfl | hn
      · exact ⟨f.remote, f.unflagged, hans, List.mem_append_right _ List.mem_cons_self⟩
      · exact (w.ok n hn).mono headed
    · rw [List.length_cons, Nat.add_right_comm, Nat.add_assoc, Nat.sub_add_cancel (Nat.pos_of_ne_zero f.short)]
    · exact fun n hn => (List.mem_cons.mp hn).symm

theorem walk_wit {e : Env} {ns : List Nat} {c : Ctx} {l : Loop} {D : List Nat} (w : Wit e c D)
    (hn : (walk e c l ns).1.need = false) (hu : (walk e c l ns).2.unchecked = l.unchecked) :
    ∃ D', Wit e (walk e c l ns).1 D' ∧ D'.length + (walk e c l ns).2.shortage = D.length + l.shortage ∧
      ∀ n ∈ D', n ∈ D ∨ n ∈ ns := by
  fun_induction walk e c l ns generalizing D with
  | case1 => exact ⟨D, w, rfl, fun n h => Or.inl h⟩
  | case2 => exact ⟨D, w, rfl, fun n h => Or.inl h⟩
  | case3 c l a as _ r =>
    rename_i ih
    -- neither flag changes after the step, so the step did not change it either
    have sm : StepMono c r.1 l r.2 := nodeStep_mono e c l a
    have wm := walk_mono e as r.1 r.2
    have hu1 : r.2.unchecked = l.unchecked :=
      Nat.le_antisymm (Nat.le_trans wm.unchecked (Nat.le_of_eq hu)) sm.unchecked
    obtain ⟨D1, w1, len1, sub1⟩ := nodeStep_wit w (eq_false_of_imp wm.need hn) hu1
    obtain ⟨D2, w2, len2, sub2⟩ := ih w1 hn (hu.trans hu1.symm)
    refine ⟨D2, w2, len2.trans len1, fun n hn' => ?_⟩
    rcases sub2 n hn' with h | h
    · exact (sub1 n h).imp_right fun (h : n = a) => h ▸ List.mem_cons_self
    · exact Or.inr (List.mem_cons_of_mem _ h)

/-- the repaired `processNodes`: if the list contains the local node and the local copy is not declared needed,
then as many distinct other nodes of the list as the rule asks for had their header read in this pass -/
theorem processNodes_confirmed (e : Env) (t : OType) (c : Ctx) (nodes : List Nat) (k : Nat) (hm : e.me ∈ nodes)
    (hn : (processNodes e false t c nodes k).need = false) :
    ∃ D : List Nat, D.Nodup ∧ D.length = startShortage t nodes k ∧
      ∀ n ∈ D, n ∈ nodes ∧ HeadOK e (processNodes e false t c nodes k).heads n := by
  unfold processNodes at hn ⊢
  dsimp only at hn ⊢
  have hwn : (walk e c { shortage := startShortage t nodes k } nodes).1.need = false :=
    eq_false_of_imp (finish_need e false _ _) hn
  have hs := walk_shortage_eq_zero hm hwn
  have hu : (walk e c { shortage := startShortage t nodes k } nodes).2.unchecked = 0 := by
    by_contra hne
    rw [finish_repaired_need_of_unchecked hs (Nat.pos_of_ne_zero hne)] at hn
    exact Bool.noConfusion hn
  obtain ⟨D, w, len, sub⟩ := walk_wit (D := []) ⟨List.nodup_nil, fun _ h => (nomatch h), fun _ h => (nomatch h)⟩ hwn hu
  rw [hs] at len
  refine ⟨D, w.nodup, by simpa using len, fun n hn' => ⟨(sub n hn').resolve_left (List.not_mem_nil), ?_⟩⟩
  rw [finish_heads]
  exact w.ok n hn'

/-! ### the container flag -/

theorem runVectors_inCnr (e : Env) (legacy : Bool) (t : OType) (vs : List (List Nat × Nat)) (c : Ctx)
    (hm : ∀ v ∈ vs, e.me ∉ v.1) : (runVectors e legacy t c vs).inCnr = c.inCnr := by
  refine runVectors_invariant (P := fun c' => c'.inCnr = c.inCnr) e legacy t vs (fun c' l v hv n hn h => ?_)
    (fun _ _ _ h => h) (fun _ h => h) c rfl
  have : n ≠ e.me := fun heq => hm v hv (heq ▸ hn)
  simp [nodeStep_inCnr, h, this]

/-! ### every checked holder of the node cache is confirmed -/

/-- a remote node confirmed to hold the object by what the pass saw: its header was read, or the replicator
reported a successful replication to it -/
def Confirmed (e : Env) (heads : List Nat) (tasks : List Task) (n : Nat) : Prop :=
  n ≠ e.me ∧ ((e.ans n = .holds ∧ n ∈ heads) ∨ ∃ t ∈ tasks, n ∈ t.done ∧ n ∈ t.nodes ∧ e.repl n = true)

def CacheInv (e : Env) (c : Ctx) : Prop :=
  ∀ n, cacheGet c.cache n = some true → n ∈ c.unchk ∨ Confirmed e c.heads c.tasks n

theorem Confirmed.mono {e : Env} {h h' : List Nat} {t t' : List Task} {n : Nat} (x : Confirmed e h t n)
    (hh : ∀ m ∈ h, m ∈ h') (ht : ∀ m ∈ t, m ∈ t') : Confirmed e h' t' n :=
  ⟨x.1, x.2.elim (fun y => Or.inl ⟨y.1, hh n y.2⟩) (fun ⟨tk, m, d⟩ => Or.inr ⟨tk, ht tk m, d⟩)⟩

theorem CacheInv.keep {e : Env} {c c' : Ctx} (i : CacheInv e c) (hc : c'.cache = c.cache)
    (hu : ∀ m ∈ c.unchk, m ∈ c'.unchk) (hh : ∀ m ∈ c.heads, m ∈ c'.heads) (ht : ∀ m ∈ c.tasks, m ∈ c'.tasks) :
    CacheInv e c' := by
  intro n hn
  rw [hc] at hn
  exact (i n hn).elim (fun h => Or.inl (hu n h)) (fun h => Or.inr (h.mono hh ht))

theorem CacheInv.cons {e : Env} {c c' : Ctx} (i : CacheInv e c) (n : Nat) (b : Bool) (hc : c'.cache = (n, b) :: c.cache)
    (hu : ∀ m ∈ c.unchk, m ∈ c'.unchk) (hh : ∀ m ∈ c.heads, m ∈ c'.heads) (ht : ∀ m ∈ c.tasks, m ∈ c'.tasks)
    (hn : b = true → n ∈ c'.unchk ∨ Confirmed e c'.heads c'.tasks n) : CacheInv e c' := by
  intro m hm
  rw [hc] at hm
  by_cases hmn : m = n
  · rw [hmn, cacheGet_cons_self] at hm
    exact hmn ▸ hn (Option.some.inj hm)
  · rw [cacheGet_cons_ne _ _ _ _ hmn] at hm
    exact (i m hm).elim (fun h => Or.inl (hu m h)) (fun h => Or.inr (h.mono hh ht))

theorem nodeStep_cacheInv {e : Env} {c : Ctx} (l : Loop) (n : Nat) (i : CacheInv e c) :
    CacheInv e (nodeStep e c l n).1 := by
  have same : ∀ m ∈ c.unchk, m ∈ c.unchk := fun _ h => h
  have headed : ∀ m ∈ c.heads, m ∈ c.heads ++ [n] := fun _ h => List.mem_append_left _ h
  have hseen : CacheInv e (seen e c n) := i.keep rfl same (fun _ h => h) (fun _ h => h)
  have hasked : CacheInv e (asked e c n) := i.keep rfl same headed (fun _ h => h)
  have hmaint : ∀ c1 : Ctx, CacheInv e c1 → CacheInv e (onMaint c1 l n).1 := fun c1 i1 =>
    i1.cons n true rfl (fun _ h => List.mem_cons_of_mem _ h) (fun _ h => h) (fun _ h => h)
      (fun _ => Or.inl List.mem_cons_self)
  refine nodeStep_cases (P := fun r => CacheInv e r.1) (fun _ => hseen) ?_ (fun _ _ => hmaint _ hseen)
    (fun _ _ => hseen) ?_ (fun _ _ => hmaint _ hasked) (fun _ _ => hasked) ?_
  · exact fun _ _ => i.keep rfl same (fun _ h => h) (fun _ h => h)
  · exact fun _ _ => i.cons n false rfl same headed (fun _ h => h) (fun h => Bool.noConfusion h)
  · exact fun f hans => i.cons n true rfl same headed (fun _ h => h)
      (fun _ => Or.inr ⟨f.remote, Or.inl ⟨hans, List.mem_append_right _ List.mem_cons_self⟩⟩)

theorem replicate_cacheInv (e : Env) (c : Ctx) (q : Nat) (ns : List Nat) (i : CacheInv e c) :
    CacheInv e (replicate e c q ns) := by
  intro n hn
  simp only [replicate] at hn ⊢
  rcases cacheGet_foldl_cons_true _ _ _ hn with h | h
  · have s := (handleTask_sound e q ns).2 n h
    exact Or.inr ⟨s.2.1, Or.inr ⟨_, List.mem_append_right _ List.mem_cons_self, h, s.1, s.2.2⟩⟩
  · exact (i n h).elim Or.inl (fun x => Or.inr (x.mono (fun _ y => y) (fun _ y => List.mem_append_left _ y)))

theorem runVectors_cacheInv (e : Env) (legacy : Bool) (t : OType) (vs : List (List Nat × Nat)) (c : Ctx)
    (i : CacheInv e c) : CacheInv e (runVectors e legacy t c vs) :=
  runVectors_invariant (P := CacheInv e) e legacy t vs (fun _ l _ _ n _ => nodeStep_cacheInv l n) (replicate_cacheInv e)
    (fun _ i => i.keep rfl (fun _ h => h) (fun _ h => h) (fun _ h => h)) c i

theorem atLeastOneHolder_confirmed (e : Env) (c : Ctx) (i : CacheInv e c) (h : atLeastOneHolder false c = true) :
    ∃ n, Confirmed e c.heads c.tasks n := by
  unfold atLeastOneHolder at h
  obtain ⟨p, _, hp⟩ := List.any_eq_true.mp h
  simp only [Bool.false_or, Bool.and_eq_true, beq_iff_eq, Bool.not_eq_true', List.contains_eq_mem,
    decide_eq_false_iff_not] at hp
  rcases i p.1 hp.1 with h | h
  · exact absurd h hp.2
  · exact ⟨p.1, h⟩

/-! ### the EC part loop -/

/-- what the EC part loop from `l` has done when it returns `r`; `pre`: the nodes before the local one -/
def ECSpec (e : Env) (l : ECLoop) (pre : List Nat) (r : ECLoop × ECStop) : Prop :=
  (∀ n ∈ r.1.cands, n ∈ l.cands ∨ (n ∈ pre ∧ e.ans n = .notFound)) ∧
  (∀ n ∈ l.heads, n ∈ r.1.heads) ∧
  (r.2 = .drop → ∃ n ∈ pre, e.ans n = .holds ∧ n ∈ r.1.heads)

theorem ECSpec.cons {e : Env} {l l' : ECLoop} {a : Nat} {as : List Nat} {r : ECLoop × ECStop} (h : ECSpec e l' as r)
    (hh : l'.heads = l.heads ++ [a]) (hc : ∀ n ∈ l'.cands, n ∈ l.cands ∨ (n = a ∧ e.ans a = .notFound)) :
    ECSpec e l (a :: as) r := by
  obtain ⟨i1, i2, i3⟩ := h
  refine ⟨fun n h => ?_, fun n h => i2 n (hh ▸ List.mem_append_left _ h), fun h => ?_⟩
  · rcases i1 n h with x | x
    · exact (hc n x).imp_right fun ⟨y1, y2⟩ => ⟨y1 ▸ List.mem_cons_self, y1 ▸ y2⟩
    · exact Or.inr ⟨List.mem_cons_of_mem _ x.1, x.2⟩
  · obtain ⟨n, m, x⟩ := i3 h
    exact ⟨n, List.mem_cons_of_mem _ m, x⟩

theorem ecWalk_spec (e : Env) (seq : List Nat) (l : ECLoop) :
    ECSpec e l (seq.takeWhile fun m => decide (m ≠ e.me)) (ecWalk e l seq) := by
  induction seq generalizing l with
  | nil => exact ⟨fun n h => Or.inl h, fun n h => h, nofun⟩
  | cons a as ih =>
    unfold ecWalk
    by_cases ha : a = e.me
    · rw [if_pos ha]
      exact ⟨fun n h => Or.inl h, fun n h => h, fun h => by split_ifs at h⟩
    · rw [if_neg ha, List.takeWhile_cons_of_pos (by simpa using ha)]
      cases hans : e.ans a with
      | holds =>
        exact ⟨fun n h => Or.inl h, fun n h => List.mem_append_left _ h,
          fun _ => ⟨a, List.mem_cons_self, hans, List.mem_append_right _ List.mem_cons_self⟩⟩
      | maint => exact (ih _).cons rfl fun n h => Or.inl h
      | notFound =>
        exact (ih _).cons rfl fun n h => (List.mem_append.mp h).imp_right fun y => ⟨List.mem_singleton.mp y, hans⟩
      | err => exact (ih _).cons rfl fun n h => Or.inl h

/-! ### what a pass returns -/

theorem verdict_tasks (e : Env) (legacy : Bool) (o : Obj) (c : Ctx) (pre : List Mark) :
    (verdict e legacy o c pre).tasks = c.tasks := by
  simp only [verdict, apply_ite Out.tasks, ite_self]

theorem verdict_heads (e : Env) (legacy : Bool) (o : Obj) (c : Ctx) (pre : List Mark) :
    (verdict e legacy o c pre).heads = c.heads := by
  simp only [verdict, apply_ite Out.heads, ite_self]

theorem verdict_dels (e : Env) (legacy : Bool) (o : Obj) (c : Ctx) (pre : List Mark) :
    (verdict e legacy o c pre).dels = pre ∨
      ((verdict e legacy o c pre).dels = pre ++ [.redundant] ∧ c.need = false ∧
        (c.inCnr = false → e.inNetmap = true ∧ atLeastOneHolder legacy c = true)) := by
  unfold verdict
  cases c.need
  · cases c.inCnr
    · cases e.inNetmap
      · exact Or.inl rfl
      · cases atLeastOneHolder legacy c
        · exact Or.inl rfl
        · exact Or.inr ⟨rfl, rfl, fun _ => ⟨rfl, rfl⟩⟩
    · exact Or.inr ⟨rfl, rfl, nofun⟩
  · exact Or.inl rfl

/-- `r` is a variable (give `_ rfl`) so that the premises do not carry the loop term -/
theorem ecPartByRule_cases {P : Out → Prop} {e : Env} {seq : List Nat} (r : ECLoop × ECStop) (hr : ecWalk e {} seq = r)
    (quiet : P { heads := r.1.heads })
    (drop : r.2 = .drop → P { dels := [.redundant], heads := r.1.heads })
    (move : ∀ dels, dels = [] ∨ (dels = [.redundant] ∧ handleTask e 1 r.1.cands ≠ []) →
      P { dels := dels, heads := r.1.heads, tasks := [⟨1, r.1.cands, handleTask e 1 r.1.cands⟩] }) :
    P (ecPartByRule e seq) := by
  unfold ecPartByRule
  rw [hr]
  obtain ⟨l, st⟩ := r
  cases st with
  | hold => exact quiet
  | drop => exact drop rfl
  | after =>
    dsimp only
    by_cases hm : l.maint = true
    · rw [if_pos hm]; exact quiet
    rw [if_neg hm]
    by_cases hc : l.cands.isEmpty = true
    · rw [if_pos hc]; exact quiet
    rw [if_neg hc]
    by_cases hd : handleTask e 1 l.cands ≠ []
    · rw [if_pos hd]; exact move _ (Or.inr ⟨rfl, hd⟩)
    · rw [if_neg hd]; exact move _ (Or.inl rfl)

theorem processObject_cases {P : Out → Prop} {e : Env} {legacy : Bool} {o : Obj} {p : Placement}
    (noTask : ∀ dels, Mark.redundant ∉ dels → P { dels := dels })
    (rep : ∀ pre, Mark.redundant ∉ pre → (o.ec = none ∨ p.ecRules.isEmpty = true) → P (repPart e legacy o p pre))
    (ec : ∀ ri pi d par, o.ec = some (ri, pi) → p.ecRules.isEmpty = false → p.ecRules[ri]? = some (d, par) →
      pi < d + par → P (ecPartByRule e (partSeq (ecNodes p ri) pi (d + par)))) :
    P (processObject e legacy o p) := by
  have dflt : P { dels := [.dflt] } := noTask _ (by simp)
  unfold processObject
  split
  · exact dflt
  · exact noTask _ (by simp)
  · split
    · next ri pi hec =>
      split_ifs with hemp
      · split
        · exact dflt
        · next d par hr =>
          split_ifs with hge
          · exact dflt
          · exact ec ri pi d par hec (by simpa using hemp) hr (Nat.lt_of_not_le hge)
      · exact rep _ (by simp) (Or.inr (by simpa using hemp))
    · next hec =>
      split_ifs
      · exact dflt
      · exact rep _ (by simp) (Or.inl hec)

/-! ### the tasks of a pass -/

theorem nodeStep_cands_length (e : Env) (c : Ctx) (l : Loop) (n : Nat) :
    (nodeStep e c l n).2.cands.length ≤ l.cands.length + 1 := by
  have one : (l.cands ++ [n]).length ≤ l.cands.length + 1 := by simp
  refine nodeStep_cases (P := fun r => r.2.cands.length ≤ l.cands.length + 1) (fun _ => Nat.le_succ _)
    (fun _ _ => Nat.le_succ _) (fun _ _ => Nat.le_succ _) ?_ (fun _ _ => one) (fun _ _ => Nat.le_succ _)
    (fun _ _ => Nat.le_succ _) (fun _ _ => Nat.le_succ _)
  intro b _
  cases b
  · exact one
  · exact Nat.le_succ _

theorem walk_cands_length (e : Env) (ns : List Nat) (c : Ctx) (l : Loop) :
    (walk e c l ns).2.cands.length ≤ l.cands.length + ns.length := by
  fun_induction walk e c l ns with
  | case1 => exact Nat.le_refl _
  | case2 => exact Nat.le_add_right _ _
  | case3 c l a as _ r ih =>
    have hs : r.2.cands.length ≤ l.cands.length + 1 := nodeStep_cands_length e c l a
    simp only [List.length_cons]
    omega

/-- a task is bounded when it asks for at most `bound` copies, or for exactly one copy per candidate -/
def TaskBounded (bound : Nat) (t : Task) : Prop := t.quantity ≤ bound ∨ t.quantity = t.nodes.length

/-- a task issued for a rule requiring `bound` copies over `len` nodes -/
def IssuedFor (e : Env) (bound len : Nat) (tk : Task) : Prop :=
  tk.done = handleTask e tk.quantity tk.nodes ∧ TaskBounded bound tk ∧ tk.nodes.length ≤ len

theorem processNodes_tasks (e : Env) (legacy : Bool) (t : OType) (c : Ctx) (nodes : List Nat) (k : Nat) :
    ∀ tk ∈ (processNodes e legacy t c nodes k).tasks,
      tk ∈ c.tasks ∨ IssuedFor e (startShortage t nodes k) nodes.length tk := by
  unfold processNodes
  dsimp only
  have wm := walk_mono e nodes c { shortage := startShortage t nodes k }
  have hcl := walk_cands_length e nodes c { shortage := startShortage t nodes k }
  generalize walk e c { shortage := startShortage t nodes k } nodes = r at wm hcl ⊢
  refine finish_cases (P := fun c' => ∀ tk ∈ c'.tasks, tk ∈ c.tasks ∨ IssuedFor e (startShortage t nodes k) nodes.length tk)
    (fun tk h => Or.inl (wm.tasks ▸ h)) ?_ (fun _ h => h)
  -- the new task: the shortage left, or a copy per candidate
  intro q hq tk h
  rcases List.mem_append.mp h with h | h
  · exact Or.inl (wm.tasks ▸ h)
  · rw [List.mem_singleton.mp h]
    exact Or.inr ⟨rfl, hq.imp (fun h => Nat.le_trans (Nat.le_of_eq h) wm.shortage) id, by simpa using hcl⟩

theorem runVectors_tasks (e : Env) (legacy : Bool) (t : OType) (vs : List (List Nat × Nat)) (c : Ctx) :
    ∀ tk ∈ (runVectors e legacy t c vs).tasks,
      tk ∈ c.tasks ∨ ∃ v ∈ vs, IssuedFor e (startShortage t v.1 v.2) v.1.length tk := by
  induction vs generalizing c with
  | nil => exact fun tk h => Or.inl h
  | cons v vs ih =>
    intro tk htk
    rcases ih _ tk htk with h | ⟨w, hw, hi⟩
    · exact (processNodes_tasks e legacy t c v.1 v.2 tk h).imp_right fun hi => ⟨v, List.mem_cons_self, hi⟩
    · exact Or.inr ⟨w, List.mem_cons_of_mem _ hw, hi⟩

theorem ecPartByRule_tasks (e : Env) (seq : List Nat) :
    ∀ tk ∈ (ecPartByRule e seq).tasks, tk.done = handleTask e tk.quantity tk.nodes ∧ tk.quantity = 1 :=
  ecPartByRule_cases (P := fun out => ∀ tk ∈ out.tasks, tk.done = handleTask e tk.quantity tk.nodes ∧ tk.quantity = 1)
    _ rfl nofun (fun _ => nofun) fun _ _ _ htk => List.mem_singleton.mp htk ▸ ⟨rfl, rfl⟩

theorem processObject_tasks (e : Env) (legacy : Bool) (o : Obj) (p : Placement) :
    ∀ tk ∈ (processObject e legacy o p).tasks, (tk.done = handleTask e tk.quantity tk.nodes ∧ tk.quantity = 1) ∨
      ∃ v ∈ effVectors o p, IssuedFor e (startShortage o.typ v.1 v.2) v.1.length tk := by
  refine processObject_cases (P := fun out => ∀ tk ∈ out.tasks, (tk.done = handleTask e tk.quantity tk.nodes ∧
    tk.quantity = 1) ∨ ∃ v ∈ effVectors o p, IssuedFor e (startShortage o.typ v.1 v.2) v.1.length tk)
    (fun _ _ => nofun) ?_ (fun _ _ _ _ _ _ _ _ tk htk => Or.inl (ecPartByRule_tasks e _ tk htk))
  intro pre _ _ tk htk
  rw [repPart, verdict_tasks] at htk
  exact Or.inr ((runVectors_tasks e legacy o.typ (effVectors o p) {} tk htk).resolve_left List.not_mem_nil)

end NeoFS.Policer
