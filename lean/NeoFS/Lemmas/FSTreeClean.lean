import NeoFS.Lemmas.FSTreeInv
/-! Writers of the file-tree model under an oracle that injects nothing: every call succeeds. Core Lean only. -/
namespace NeoFS.FSTree

/-- from here on the oracle injects nothing and the process has not been stopped -/
def Clean (o : Oracle) (k : K) : Prop := k.crashed = false ∧ ∀ i, k.n ≤ i → o i = none

theorem Clean.next {o : Oracle} {k k' : K} (h : Clean o k) (hc : k'.crashed = false) (hn : k.n ≤ k'.n) : Clean o k' :=
  ⟨hc, fun i hi => h.2 i (Nat.le_trans hn hi)⟩

theorem faultAt_clean {o : Oracle} {k : K} (h : Clean o k) : faultAt o k = none := by
  unfold faultAt; rw [h.1]; simp [h.2 k.n (Nat.le_refl _)]

theorem sysSync_clean {o : Oracle} {k : K} (h : Clean o k) : ∃ k', sysSync o k = (k', true) ∧ Clean o k' := by
  unfold sysSync; rw [faultAt_clean h]
  exact ⟨_, rfl, h.next h.1 (Nat.le_succ _)⟩

theorem sysOpen_clean {o : Oracle} {k : K} (h : Clean o k) :
    ∃ k', sysOpen o k = (k', some k.inodes.length) ∧ Clean o k' := by
  unfold sysOpen; rw [faultAt_clean h]
  exact ⟨_, rfl, h.next h.1 (Nat.le_succ _)⟩

theorem openBatch_clean {o : Oracle} {k : K} (h : Clean o k) :
    ∃ k', openBatch o k = (k', some { ino := k.inodes.length }) ∧ Clean o k' := by
  obtain ⟨k', he, hc⟩ := sysOpen_clean h
  exact ⟨k', by rw [openBatch, he], hc⟩

theorem sysWrite_clean {o : Oracle} {k : K} (h : Clean o k) (i : Nat) (b : Bytes) :
    ∃ k', sysWrite o k i b = (k', true) ∧ Clean o k' := by
  unfold sysWrite; rw [faultAt_clean h]
  exact ⟨_, rfl, h.next h.1 (Nat.le_succ _)⟩

theorem sysLink_clean {o : Oracle} {k : K} (h : Clean o k) (i a : Nat) :
    ∃ k' r, sysLink o k i a = (k', r) ∧ r ≠ .err ∧ Clean o k' := by
  unfold sysLink; rw [faultAt_clean h]
  simp only
  split
  · exact ⟨_, _, rfl, nofun, h.next h.1 (Nat.le_succ _)⟩
  · exact ⟨_, _, rfl, nofun, h.next h.1 (Nat.le_succ _)⟩

theorem intSync_clean {o : Oracle} {k : K} (h : Clean o k) (cfg : Cfg) (b : Batch) :
    ∃ k', intSync cfg o k b = (k', { b with ready := true }) ∧ Clean o k' ∧ k'.done.lookup b.ino = some b.err := by
  have h1 : ∃ k1, (if (!b.err && !cfg.noSync) = true then sysSync o k else (k, true)) = (k1, true) ∧ Clean o k1 := by
    split
    · exact sysSync_clean h
    · exact ⟨k, rfl, h⟩
  obtain ⟨k1, e1, c1⟩ := h1
  obtain ⟨k2, e2, c2⟩ := sysSync_clean c1
  simp only [intSync, e1, e2, Bool.not_true, Bool.or_false]
  exact ⟨_, rfl, c2.next c2.1 (Nat.le_refl _), by simp [List.lookup]⟩

theorem sbWrite_clean {o : Oracle} {k : K} (h : Clean o k) (cfg : Cfg) (b : Batch) (a : Nat) (d : Bytes) :
    ∃ k' b', sbWrite cfg o k b a d = (k', b', true) ∧ Clean o k' ∧
      b'.ino = b.ino ∧ b'.ready = b.ready ∧ b'.err = b.err := by
  obtain ⟨k1, hw, c1⟩ := sysWrite_clean h b.ino (record a d)
  obtain ⟨k2, r, hl, hr, c2⟩ := sysLink_clean c1 b.ino a
  refine ⟨k2, { b with size := b.size + (dataOff + d.length), cnt := b.cnt + 1 }, ?_, c2, rfl, rfl, rfl⟩
  cases r with
  | err => exact absurd rfl hr
  | _ => simp only [sbWrite, hw, hl, Bool.not_true, Bool.false_eq_true, if_false]

theorem writeFile_clean {o : Oracle} {k : K} (h : Clean o k) (a : Nat) (d : Bytes) :
    (writeFile o k a d).2 = true ∧ Clean o (writeFile o k a d).1 := by
  obtain ⟨k0, ho, c0⟩ := sysOpen_clean h
  obtain ⟨k1, hw, c1⟩ := sysWrite_clean c0 k.inodes.length d
  obtain ⟨k2, r, hl, hr, c2⟩ := sysLink_clean c1 k.inodes.length a
  obtain ⟨k3, hc, c3⟩ := sysSync_clean c2
  simp only [writeFile, ho, hw, if_true, hl, hc]
  exact ⟨by simp [hr], c3⟩

theorem batchLoop_clean {o : Oracle} (cfg : Cfg) (items : List (Nat × Bytes)) :
    ∀ (k : K) (b : Batch), Clean o k → ∃ k' b', batchLoop cfg o k b items = (k', b', true) ∧ Clean o k' ∧ b'.err = b.err := by
  induction items with
  | nil => exact fun k b h => ⟨k, b, rfl, h, rfl⟩
  | cons it rest ih =>
    intro k b h
    obtain ⟨a, d⟩ := it
    obtain ⟨k1, b1, hw, c1, -, -, he1⟩ := sbWrite_clean h cfg b a d
    obtain ⟨k', b', hl, c', he⟩ := ih k1 b1 c1
    exact ⟨k', b', by simp only [batchLoop, hw, if_true, hl], c', he.trans he1⟩

theorem writeBatch_clean {o : Oracle} {k : K} (h : Clean o k) (cfg : Cfg) (items : List (Nat × Bytes)) :
    (writeBatch cfg o k items).2 = true ∧ Clean o (writeBatch cfg o k items).1 := by
  obtain ⟨k0, ho, c0⟩ := sysOpen_clean h
  obtain ⟨k1, b1, hl, c1, he⟩ := batchLoop_clean cfg items k0 { ino := k.inodes.length, hasReady := false } c0
  obtain ⟨k2, hs, c2, -⟩ := intSync_clean c1 cfg b1
  simp only [writeBatch, ho, hl, hs, Bool.not_true, Bool.false_eq_true, if_false]
  exact ⟨by rw [he]; rfl, c2⟩

theorem wcTail_tick_clean {o : Oracle} {k : K} (h : Clean o k) (cfg : Cfg) (b : Batch) (a : Nat) (d : Bytes)
    (hbr : b.ready = false) :
    (wcTail cfg o k b a d).2 = .pending b.ino ∧ Clean o (tick cfg o (wcTail cfg o k b a d).1) ∧
    (tick cfg o (wcTail cfg o k b a d).1).done.lookup b.ino = some b.err := by
  obtain ⟨k1, b1, hw, c1, hino, hrdy, herr⟩ := sbWrite_clean h cfg b a d
  simp only [wcTail, hw, if_true]
  rw [← hino, ← herr]
  split
  · obtain ⟨k2, hs, c2, hdone⟩ := intSync_clean c1 cfg b1
    rw [hs, tick_quiet cfg o (fun b' hb' => by cases hb'; rfl)]
    exact ⟨trivial, c2.next c2.1 (Nat.le_refl _), hdone⟩
  · obtain ⟨k2, hs, c2, hdone⟩ := intSync_clean (c1.next (k' := { k1 with batch := some b1, lockHeld := false }) c1.1
      (Nat.le_refl _)) cfg b1
    simp only [tick, hrdy, hbr, Bool.false_eq_true, if_false, hs]
    exact ⟨trivial, c2.next c2.1 (Nat.le_refl _), hdone⟩

/-- writes that meet no failure succeed (`FSTree.Put` on the O_TMPFILE writer) -/
theorem put_clean {P} {o : Oracle} {k : K} (cfg : Cfg) (hg : cfg.generic = false) (hs : SInv P k) (h : Clean o k)
    (a : Nat) (d : Bytes) (hd : d ≠ []) : (put cfg o k a d).2 = .ok ∧ Clean o (put cfg o k a d).1 := by
  by_cases hb : d.length > cfg.threshold ∨ cfg.countLimit < 2
  · have := writeFile_clean h a d
    rw [put_file cfg o k a hd hg hb, this.1]
    exact ⟨rfl, this.2⟩
  · -- combined write, then the timer: on the open batch, or on a new one
    obtain ⟨k1, b, hwc, c1, hbr, hbe⟩ : ∃ k1 b, writeCombined cfg o k a d = wcTail cfg o k1 b a d ∧ Clean o k1 ∧
        b.ready = false ∧ b.err = false := by
      rcases batch_cases k with ⟨b, hb, hr⟩ | hq
      · exact ⟨k, b, writeCombined_open cfg o a d hs.lock hb hr, h, hr, (hs.binv b hb hr).2.1⟩
      · obtain ⟨k0, ho, c0⟩ := openBatch_clean h
        exact ⟨k0, _, by rw [writeCombined_new cfg o a d hs.lock hq, ho], c0, rfl, rfl⟩
    obtain ⟨tr, tc, tdone⟩ := wcTail_tick_clean c1 cfg b a d hbr
    rw [put_combined cfg o k a hd hg hb, hwc, tr]
    simp only [doneErr, tdone, hbe, Option.getD_some, Bool.false_eq_true, if_false]
    exact ⟨trivial, tc⟩

end NeoFS.FSTree
