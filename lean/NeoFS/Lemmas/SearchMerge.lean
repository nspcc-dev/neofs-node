import NeoFS.Lemmas.SearchOrder
/-!
The loops of `MergeSearchResults` (`selectMin`, `advance`, `moreAtLimit`, `mergeLoop`) and of
`calcMaxUniqueSearchResults` (`calcItems`, `calcSets`) under the hypotheses of C04: result sets that are strictly
sorted in the merge's own order, over a universe `P` of items in which the comparison succeeds and equal ids mean
equal items.
-/
namespace NeoFS.SearchMerge
open NeoFS.Int256

/-- `x` occurs in one of the sets -/
def Mem (x : Item) (sets : List (List Item)) : Prop := ∃ s ∈ sets, x ∈ s

/-- the universe of items the merge works on -/
structure Univ (k : MKind) (ord : Item → Item → Ordering) (P : Item → Prop) : Prop where
  laws : OrdLaws ord
  cmp_ok : ∀ x y, P x → P y → cmpAttr k x y = .ok (ord x y)
  first_ok : ∀ x, P x → firstCheck k x = .ok ()
  coherent : ∀ x y, P x → P y → x.id = y.id → x = y

/-- every set is strictly sorted and inside the universe -/
def SetsOK (ord : Item → Item → Ordering) (P : Item → Prop) (sets : List (List Item)) : Prop :=
  ∀ s ∈ sets, SortedI ord s ∧ ∀ x ∈ s, P x

def leI (ord : Item → Item → Ordering) (a b : Item) : Prop := a = b ∨ ltI ord a b = true

section
variable {k : MKind} {ord : Item → Item → Ordering} {P : Item → Prop}

theorem better_eq (hu : Univ k ord P) {x m : Item} (hx : P x) (hm : P m) : better k x m = .ok (ltI ord x m) := by
  unfold better
  by_cases h : x.id = m.id
  · simp [h, ltI]
  · simp only [h, if_false]
    rw [hu.cmp_ok x m hx hm]
    unfold ltI
    cases ord x m <;> simp [h]

theorem leI_trans (hu : Univ k ord P) {a b c : Item} (ha : P a) (hc : P c) (h1 : leI ord a b) (h2 : leI ord b c) :
    leI ord a c := by
  rcases h1 with rfl | h1
  · exact h2
  · rcases h2 with rfl | h2
    · exact Or.inr h1
    · by_cases hid : a.id = c.id
      · exact Or.inl (hu.coherent a c ha hc hid)
      · exact Or.inr (ltI_trans hu.laws h1 h2 hid)

theorem leI_of_not_lt (hu : Univ k ord P) {x c : Item} (hx : P x) (hc : P c) (h : ltI ord x c = false) : leI ord c x := by
  by_cases hid : x.id = c.id
  · exact Or.inl (hu.coherent x c hx hc hid).symm
  · exact Or.inr (ltI_total hu.laws h hid)

theorem leI_of_mem (hu : Univ k ord P) {m : Item} (hm : P m) {sets : List (List Item)} (hok : SetsOK ord P sets)
    (hmin : ∀ s ∈ sets, ∀ h tl, s = h :: tl → leI ord m h) {x : Item} (hx : Mem x sets) : leI ord m x := by
  obtain ⟨s, hs, hxs⟩ := hx
  cases s with
  | nil => simp at hxs
  | cons h tl =>
    have h1 := hmin _ hs h tl rfl
    rw [List.mem_cons] at hxs
    rcases hxs with rfl | hxs
    · exact h1
    · have hsorted := (hok _ hs).1
      unfold SortedI at hsorted
      rw [List.pairwise_cons] at hsorted
      exact leI_trans hu hm ((hok _ hs).2 x (List.mem_cons_of_mem _ hxs)) h1 (Or.inr (hsorted.1 x hxs))

/-! ### the selection pass -/

/-- the postcondition of `selectMin_spec`, which spells it out -/
def SelPost (ord : Item → Item → Ordering) (P : Item → Prop) (sets : List (List Item)) (i : Nat)
    (cur res : Option (Nat × Item)) : Prop :=
  match res with
  | none => cur = none ∧ ∀ s ∈ sets, s = []
  | some (mi, m) =>
    P m ∧ (cur = some (mi, m) ∨ (i ≤ mi ∧ ∃ tl, sets[mi - i]? = some (m :: tl))) ∧
    (∀ c, cur = some c → leI ord m c.2) ∧ (∀ s ∈ sets, ∀ h tl, s = h :: tl → leI ord m h)

theorem getElem?_cons_shift {α : Type} (s : α) (l : List α) {i mi : Nat} (h : i + 1 ≤ mi) :
    (s :: l)[mi - i]? = l[mi - (i + 1)]? := by
  rw [show mi - i = (mi - (i + 1)) + 1 from (Nat.succ_pred_eq_of_pos (Nat.sub_pos_of_lt h)).symm, List.getElem?_cons_succ]

theorem SelPost.cons_skip {s : List Item} {rest : List (List Item)} {i : Nat} {cur res : Option (Nat × Item)}
    (h : SelPost ord P rest (i + 1) cur res) (hnone : res = none → s = [])
    (hhead : ∀ mi m, res = some (mi, m) → ∀ x tl, s = x :: tl → leI ord m x) : SelPost ord P (s :: rest) i cur res := by
  cases res with
  | none => exact ⟨h.1, List.forall_mem_cons.mpr ⟨hnone rfl, h.2⟩⟩
  | some p =>
    obtain ⟨mi, m⟩ := p
    obtain ⟨h1, h2, h3, h4⟩ := h
    refine ⟨h1, h2.imp_right fun ⟨hi, tl, ht⟩ => ⟨Nat.le_of_succ_le hi, tl, ?_⟩, h3, List.forall_mem_cons.mpr ⟨hhead mi m rfl, h4⟩⟩
    rw [getElem?_cons_shift _ _ hi]; exact ht

theorem SelPost.cons_take (hu : Univ k ord P) {x : Item} {xs : List Item} {rest : List (List Item)} {i : Nat}
    {cur res : Option (Nat × Item)} (h : SelPost ord P rest (i + 1) (some (i, x)) res)
    (hcur : ∀ c, cur = some c → P c.2 ∧ leI ord x c.2) : SelPost ord P ((x :: xs) :: rest) i cur res := by
  cases res with
  | none => exact absurd h.1 (by simp)
  | some p =>
    obtain ⟨mi, m⟩ := p
    obtain ⟨h1, h2, h3, h4⟩ := h
    have hmx : leI ord m x := h3 (i, x) rfl
    refine ⟨h1, Or.inr ?_, fun c hc => leI_trans hu h1 (hcur c hc).1 hmx (hcur c hc).2, ?_⟩
    · rcases h2 with h2 | ⟨hi, tl, ht⟩
      · cases h2; exact ⟨Nat.le_refl _, xs, by rw [Nat.sub_self]; rfl⟩
      · exact ⟨Nat.le_of_succ_le hi, tl, by rw [getElem?_cons_shift _ _ hi]; exact ht⟩
    · refine List.forall_mem_cons.mpr ⟨?_, h4⟩
      intro y tl e
      cases e; exact hmx

/-- **selection pass**: the result is a head, no head lies before it, and nothing is found only when every set is
empty. -/
theorem selectMin_spec (hu : Univ k ord P) :
    ∀ (sets : List (List Item)) (i : Nat) (cur : Option (Nat × Item)),
      (∀ s ∈ sets, ∀ x ∈ s, P x) → (∀ c, cur = some c → P c.2) →
      ∃ res, selectMin k sets i cur = .ok res ∧
        (match res with
         | none => cur = none ∧ ∀ s ∈ sets, s = []
         | some (mi, m) =>
            P m ∧ (cur = some (mi, m) ∨ (i ≤ mi ∧ ∃ tl, sets[mi - i]? = some (m :: tl))) ∧
            (∀ c, cur = some c → leI ord m c.2) ∧ (∀ s ∈ sets, ∀ h tl, s = h :: tl → leI ord m h)) := by
  intro sets
  induction sets with
  | nil =>
    intro i cur _ hc
    refine ⟨cur, rfl, ?_⟩
    cases cur with
    | none => exact ⟨rfl, by simp⟩
    | some c => exact ⟨hc c rfl, Or.inl rfl, fun c' hc' => by cases hc'; exact Or.inl rfl, by simp⟩
  | cons s rest ih =>
    intro i cur hP hc
    have hPr : ∀ s ∈ rest, ∀ x ∈ s, P x := fun s hs => hP s (List.mem_cons_of_mem _ hs)
    cases s with
    | nil =>
      obtain ⟨res, he, hr⟩ := ih (i + 1) cur hPr hc
      exact ⟨res, he, SelPost.cons_skip hr (fun _ => rfl) (fun _ _ _ _ _ e => by cases e)⟩
    | cons x xs =>
      have hx : P x := hP (x :: xs) List.mem_cons_self x List.mem_cons_self
      have hcx : ∀ c, some (i, x) = some c → P c.2 := fun c e => by cases e; exact hx
      cases cur with
      | none =>
        obtain ⟨res, he, hr⟩ := ih (i + 1) (some (i, x)) hPr hcx
        refine ⟨res, ?_, SelPost.cons_take hu hr (fun _ e => by cases e)⟩
        rw [selectMin, hu.first_ok x hx]; exact he
      | some c =>
        obtain ⟨ci, c⟩ := c
        have hcP : P c := hc (ci, c) rfl
        have hb := better_eq hu hx hcP
        cases hlt : ltI ord x c with
        | true =>
          obtain ⟨res, he, hr⟩ := ih (i + 1) (some (i, x)) hPr hcx
          refine ⟨res, ?_, SelPost.cons_take hu hr (fun c' e => by cases e; exact ⟨hcP, Or.inr hlt⟩)⟩
          rw [selectMin, hb, hlt]; exact he
        | false =>
          obtain ⟨res, he, hr⟩ := ih (i + 1) (some (ci, c)) hPr hc
          refine ⟨res, ?_, SelPost.cons_skip hr (fun e => ?_) (fun mi m e y tl e' => ?_)⟩
          · rw [selectMin, hb, hlt]; exact he
          · subst e; exact absurd hr.1 (by simp)
          · subst e; cases e'
            exact leI_trans hu hr.1 hx (hr.2.2.1 (ci, c) rfl) (leI_of_not_lt hu hx hcP hlt)

/-! ### cutting the duplicates -/

theorem dropThrough_head (m : Item) (tl : List Item) : dropThrough m.id (m :: tl) = tl := by
  unfold dropThrough
  simp [List.findIdx?_cons]

/-- in a sorted set whose head is not before `m`, only the head can carry `m`'s id -/
theorem dropThrough_spec (hu : Univ k ord P) {m : Item} (hm : P m) {s : List Item} (hs : SortedI ord s)
    (hP : ∀ x ∈ s, P x) (hmin : ∀ h tl, s = h :: tl → leI ord m h) :
    (∀ x, x ∈ dropThrough m.id s ↔ x ∈ s ∧ x ≠ m) ∧ (dropThrough m.id s).Sublist s ∧
      (m ∈ s → (dropThrough m.id s).length < s.length) := by
  cases s with
  | nil => simp [dropThrough]
  | cons h tl =>
    rcases hmin h tl rfl with rfl | hlt
    · -- the head is `m`, and it does not occur again
      have hnd : m ∉ tl := (List.nodup_cons.mp hs.nodup).1
      rw [dropThrough_head]
      exact ⟨fun x => ⟨fun hx => ⟨List.mem_cons_of_mem _ hx, fun e => hnd (e ▸ hx)⟩,
        fun hx => (List.mem_cons.mp hx.1).resolve_left hx.2⟩, List.sublist_cons_self _ _, fun _ => Nat.lt_succ_self _⟩
    · -- `m` is strictly before the head: it does not occur, so neither does its id
      have hmn : m ∉ h :: tl := by
        intro hmem
        rcases List.mem_cons.mp hmem with e | hmt
        · exact ltI_ne hlt e
        · have := ltI_asymm hu.laws ((List.pairwise_cons.mp hs).1 m hmt)
          rw [hlt] at this
          exact Bool.noConfusion this
      have hnone : (h :: tl).findIdx? (fun x => x.id == m.id) = none := by
        rw [List.findIdx?_eq_none_iff]
        intro y hy
        exact beq_eq_false_iff_ne.mpr fun hid => hmn (hu.coherent y m (hP y hy) hm hid ▸ hy)
      rw [dropThrough, hnone]
      exact ⟨fun x => ⟨fun hx => ⟨hx, fun e => hmn (e ▸ hx)⟩, fun hx => hx.1⟩, List.Sublist.refl _,
        fun hmem => absurd hmem hmn⟩

theorem advance_above (mi id : Nat) : ∀ (sets : List (List Item)) (i : Nat), mi < i →
    advance mi id sets i = sets.map (dropThrough id) := by
  intro sets
  induction sets with
  | nil => intro i _; rfl
  | cons s rest ih =>
    intro i hi
    rw [advance, if_neg (Nat.ne_of_gt hi), ih (i + 1) (Nat.lt_succ_of_lt hi), List.map_cons]

/-- when the set at `mi` starts with the chosen item, taking its tail is the same cut as everywhere else -/
theorem advance_eq_map {m : Item} {tl : List Item} (mi : Nat) : ∀ (sets : List (List Item)) (i : Nat), i ≤ mi →
    sets[mi - i]? = some (m :: tl) → advance mi m.id sets i = sets.map (dropThrough m.id) := by
  intro sets
  induction sets with
  | nil => intro i _ _; rfl
  | cons s rest ih =>
    intro i hi hget
    by_cases he : i = mi
    · rw [he, Nat.sub_self, List.getElem?_cons_zero, Option.some.injEq] at hget
      rw [advance, if_pos he, he, advance_above mi m.id rest (mi + 1) (Nat.lt_succ_self _), hget, List.map_cons,
        dropThrough_head, List.tail_cons]
    · have hlt : i + 1 ≤ mi := Nat.lt_of_le_of_ne hi he
      rw [getElem?_cons_shift _ _ hlt] at hget
      rw [advance, if_neg he, ih (i + 1) hlt hget, List.map_cons]

theorem totalLen_cons (s : List Item) (rest : List (List Item)) : totalLen (s :: rest) = s.length + totalLen rest := by
  simp [totalLen]

theorem totalLen_map_le {f : List Item → List Item} {l : List (List Item)} (hle : ∀ s ∈ l, (f s).length ≤ s.length) :
    totalLen (l.map f) ≤ totalLen l := by
  induction l with
  | nil => exact Nat.le_refl _
  | cons s rest ih =>
    rw [List.map_cons, totalLen_cons, totalLen_cons]
    exact Nat.add_le_add (hle s List.mem_cons_self) (ih fun t ht => hle t (List.mem_cons_of_mem _ ht))

theorem totalLen_map_lt {f : List Item → List Item} {l : List (List Item)} (hle : ∀ s ∈ l, (f s).length ≤ s.length)
    (hlt : ∃ s ∈ l, (f s).length < s.length) : totalLen (l.map f) < totalLen l := by
  induction l with
  | nil => obtain ⟨_, h, _⟩ := hlt; exact absurd h List.not_mem_nil
  | cons s rest ih =>
    have hrest : ∀ t ∈ rest, (f t).length ≤ t.length := fun t ht => hle t (List.mem_cons_of_mem _ ht)
    obtain ⟨t, ht, htlt⟩ := hlt
    rw [List.map_cons, totalLen_cons, totalLen_cons]
    rcases List.mem_cons.mp ht with rfl | ht
    · exact Nat.add_lt_add_of_lt_of_le htlt (totalLen_map_le hrest)
    · exact Nat.add_lt_add_of_le_of_lt (hle s List.mem_cons_self) (ih hrest ⟨t, ht, htlt⟩)

theorem mem_of_getElem? {α : Type} {l : List α} {i : Nat} {a : α} (h : l[i]? = some a) : a ∈ l :=
  List.mem_of_getElem? h

theorem advance_spec (hu : Univ k ord P) {m : Item} (hm : P m) {sets : List (List Item)} (hok : SetsOK ord P sets)
    (hmin : ∀ s ∈ sets, ∀ h tl, s = h :: tl → leI ord m h) (hmem : Mem m sets) :
    SetsOK ord P (sets.map (dropThrough m.id)) ∧
      (∀ x, Mem x (sets.map (dropThrough m.id)) ↔ Mem x sets ∧ x ≠ m) ∧
      totalLen (sets.map (dropThrough m.id)) < totalLen sets := by
  have hd := fun s hs => dropThrough_spec hu hm (hok s hs).1 (hok s hs).2 (hmin s hs)
  refine ⟨fun s' hs' => ?_, fun x => ⟨?_, ?_⟩, ?_⟩
  · obtain ⟨s, hs, rfl⟩ := List.mem_map.mp hs'
    exact ⟨(hok s hs).1.sublist (hd s hs).2.1, fun x hx => (hok s hs).2 x (((hd s hs).1 x).mp hx).1⟩
  · rintro ⟨s', hs', hx⟩
    obtain ⟨s, hs, rfl⟩ := List.mem_map.mp hs'
    have hx' := ((hd s hs).1 x).mp hx
    exact ⟨⟨s, hs, hx'.1⟩, hx'.2⟩
  · rintro ⟨⟨s, hs, hx⟩, hne⟩
    exact ⟨dropThrough m.id s, List.mem_map_of_mem hs, ((hd s hs).1 x).mpr ⟨hx, hne⟩⟩
  · obtain ⟨s0, hs0, hm0⟩ := hmem
    exact totalLen_map_lt (fun s hs => (hd s hs).2.1.length_le) ⟨s0, hs0, (hd s0 hs0).2.2 hm0⟩

theorem moreAtLimit_iff (hu : Univ k ord P) {m : Item} (hm : P m) {tl : List Item} {sets : List (List Item)}
    (hok : SetsOK ord P sets) (mi : Nat) (hget : sets[mi]? = some (m :: tl)) (anyMore : Bool) :
    moreAtLimit mi m.id anyMore sets = true ↔ (anyMore = true ∨ ∃ x, Mem x sets ∧ x ≠ m) := by
  have hsm : (m :: tl) ∈ sets := List.mem_of_getElem? hget
  have hnd : m ∉ tl := (List.nodup_cons.mp (hok _ hsm).1.nodup).1
  unfold moreAtLimit
  rw [hget]
  simp only [List.length_cons, Bool.or_eq_true, decide_eq_true_eq, List.any_eq_true, Bool.and_eq_true, bne_iff_ne, ne_eq]
  constructor
  · rintro ((h | h) | ⟨⟨s, j⟩, hsj, _, y, hy, hne⟩)
    · -- another element in the minimum's set
      obtain ⟨t, ht⟩ := List.exists_mem_of_length_pos (Nat.lt_of_succ_lt_succ h)
      exact Or.inr ⟨t, ⟨_, hsm, List.mem_cons_of_mem _ ht⟩, fun e => hnd (e ▸ ht)⟩
    · exact Or.inl h
    · have hs : s ∈ sets := List.mem_of_getElem? (List.mem_zipIdx_iff_getElem?.mp hsj)
      exact Or.inr ⟨y, ⟨s, hs, hy⟩, fun e => hne (e ▸ rfl)⟩
  · rintro (h | ⟨x, ⟨s, hs, hx⟩, hne⟩)
    · exact Or.inl (Or.inr h)
    · obtain ⟨j, hj⟩ := List.getElem?_of_mem hs
      by_cases hjm : j = mi
      · rw [hjm, hget, Option.some.injEq] at hj
        have hxt : x ∈ tl := (List.mem_cons.mp (hj ▸ hx)).resolve_left hne
        exact Or.inl (Or.inl (Nat.succ_lt_succ (List.length_pos_of_mem hxt)))
      · exact Or.inr ⟨(s, j), List.mem_zipIdx_iff_getElem?.mpr hj, hjm, x, hx,
          fun hid => hne (hu.coherent x m ((hok s hs).2 x hx) hm hid)⟩

/-! ### the merge loop -/

/-- `n`: items already emitted -/
structure LoopSpec (ord : Item → Item → Ordering) (lim n : Nat) (anyMore : Bool) (sets : List (List Item))
    (r : List Item) (more : Bool) : Prop where
  sorted : SortedI ord r
  src : ∀ x ∈ r, Mem x sets
  len : n + r.length ≤ lim
  /-- nothing is skipped: an item of the sets is in the result or lies after a result that reached the limit -/
  complete : ∀ x, Mem x sets → x ∈ r ∨ (n + r.length = lim ∧ ∀ y ∈ r, ltI ord y x = true)
  more_iff : more = true ↔ (n + r.length = lim ∧ (anyMore = true ∨ ∃ x, Mem x sets ∧ x ∉ r))

theorem LoopSpec.nil {lim n : Nat} {anyMore : Bool} {sets : List (List Item)} (hn : n < lim) (hempty : ∀ x, ¬ Mem x sets) :
    LoopSpec ord lim n anyMore sets [] false :=
  ⟨List.Pairwise.nil, fun _ hx => absurd hx List.not_mem_nil, Nat.le_of_lt hn, fun x hx => absurd hx (hempty x),
    ⟨fun h => absurd h Bool.false_ne_true, fun h => absurd h.1 (Nat.ne_of_lt hn)⟩⟩

theorem LoopSpec.last {lim n : Nat} {anyMore : Bool} {sets : List (List Item)} {m : Item} {more : Bool} (hlim : n + 1 = lim)
    (hmmem : Mem m sets) (hle : ∀ x, Mem x sets → leI ord m x)
    (hmore : more = true ↔ (anyMore = true ∨ ∃ x, Mem x sets ∧ x ≠ m)) : LoopSpec ord lim n anyMore sets [m] more := by
  refine ⟨List.pairwise_singleton _ _, fun x hx => List.mem_singleton.mp hx ▸ hmmem, Nat.le_of_eq hlim, fun x hx => ?_, ?_⟩
  · exact (hle x hx).imp (fun e => List.mem_singleton.mpr e.symm)
      fun h => ⟨hlim, fun y hy => List.mem_singleton.mp hy ▸ h⟩
  · simp only [hmore, List.mem_singleton]
    exact ⟨fun h => ⟨hlim, h⟩, fun h => h.2⟩

theorem LoopSpec.cons {lim n : Nat} {anyMore : Bool} {sets sets' : List (List Item)} {m : Item} {r' : List Item} {more : Bool}
    (hmmem : Mem m sets) (hle : ∀ x, Mem x sets → leI ord m x) (hmem' : ∀ x, Mem x sets' ↔ Mem x sets ∧ x ≠ m)
    (h : LoopSpec ord lim (n + 1) anyMore sets' r' more) : LoopSpec ord lim n anyMore sets (m :: r') more := by
  have hl : n + (m :: r').length = n + 1 + r'.length := by rw [List.length_cons, Nat.add_right_comm, Nat.add_assoc]
  have hlt : ∀ x, Mem x sets → x ≠ m → ltI ord m x = true := fun x hx hxm =>
    (hle x hx).resolve_left fun e => hxm e.symm
  refine ⟨List.pairwise_cons.mpr ⟨fun y hy => ?_, h.sorted⟩, fun x hx => ?_, hl ▸ h.len, fun x hx => ?_, ?_⟩
  · have hy' := (hmem' y).mp (h.src y hy)
    exact hlt y hy'.1 hy'.2
  · rcases List.mem_cons.mp hx with rfl | hx
    · exact hmmem
    · exact ((hmem' x).mp (h.src x hx)).1
  · by_cases hxm : x = m
    · exact Or.inl (hxm ▸ List.mem_cons_self)
    · refine (h.complete x ((hmem' x).mpr ⟨hx, hxm⟩)).imp (List.mem_cons_of_mem _) fun ⟨h1, h2⟩ => ⟨hl ▸ h1, ?_⟩
      exact List.forall_mem_cons.mpr ⟨hlt x hx hxm, h2⟩
  · rw [h.more_iff, hl]
    refine and_congr_right fun _ => or_congr_right (exists_congr fun x => ?_)
    rw [hmem', List.mem_cons, not_or, and_assoc]

theorem loop_spec (hu : Univ k ord P) (lim : Nat) (anyMore : Bool) :
    ∀ (fuel n : Nat) (sets : List (List Item)), SetsOK ord P sets → totalLen sets < fuel → n < lim →
      ∃ r more, mergeLoop k lim anyMore fuel n sets = .ok (r, more) ∧ LoopSpec ord lim n anyMore sets r more := by
  intro fuel
  induction fuel with
  | zero => intro n sets _ h _; exact absurd h (Nat.not_lt_zero _)
  | succ fuel ih =>
    intro n sets hok hfuel hn
    obtain ⟨res, hsel, hres⟩ := selectMin_spec hu sets 0 none (fun s hs => (hok s hs).2) (by simp)
    cases res with
    | none =>
      refine ⟨[], false, by rw [mergeLoop, hsel], LoopSpec.nil hn ?_⟩
      rintro x ⟨s, hs, hx⟩
      rw [hres.2 s hs] at hx
      exact absurd hx List.not_mem_nil
    | some p =>
      obtain ⟨mi, m⟩ := p
      obtain ⟨hm, hidx, _, hmin⟩ := hres
      obtain ⟨tl, hget⟩ : ∃ tl, sets[mi]? = some (m :: tl) := by
        rcases hidx with h | ⟨_, tl, h⟩
        · cases h
        · exact ⟨tl, h⟩
      have hmmem : Mem m sets := ⟨m :: tl, List.mem_of_getElem? hget, List.mem_cons_self⟩
      have hle : ∀ x, Mem x sets → leI ord m x := fun x hx => leI_of_mem hu hm hok hmin hx
      by_cases hlim : n + 1 = lim
      · exact ⟨[m], moreAtLimit mi m.id anyMore sets, by rw [mergeLoop, hsel]; exact if_pos hlim,
          LoopSpec.last hlim hmmem hle (moreAtLimit_iff hu hm hok mi hget anyMore)⟩
      · have hadv := advance_eq_map (m := m) (tl := tl) mi sets 0 (Nat.zero_le _) hget
        obtain ⟨hok', hmem', hlen'⟩ := advance_spec hu hm hok hmin hmmem
        obtain ⟨r', more', hrec, hspec⟩ := ih (n + 1) (sets.map (dropThrough m.id)) hok'
          (Nat.lt_of_lt_of_le hlen' (Nat.le_of_lt_succ hfuel)) (Nat.lt_of_le_of_ne hn hlim)
        exact ⟨m :: r', more', by rw [mergeLoop, hsel]; simp only [hlim, if_false, hadv, hrec],
          LoopSpec.cons hmmem hle hmem' hspec⟩

end

/-! ### `calcMaxUniqueSearchResults` -/

/-- the items of a set whose id does not occur in the earlier sets -/
def newItems (earlier : List Nat) (s : List Item) : List Item := s.filter fun x => !earlier.contains x.id

/-- first occurrences, set by set -/
def firsts : List Nat → List (List Item) → List Item
  | _, [] => []
  | earlier, s :: rest => newItems earlier s ++ firsts (earlier ++ ids s) rest

theorem newItems_cons (earlier : List Nat) (x : Item) (xs : List Item) :
    newItems earlier (x :: xs) = if earlier.contains x.id then newItems earlier xs else x :: newItems earlier xs := by
  unfold newItems
  rw [List.filter_cons]
  cases earlier.contains x.id <;> rfl

theorem newItems_nil (s : List Item) : newItems [] s = s := by simp [newItems]

theorem mem_newItems {earlier : List Nat} {s : List Item} {x : Item} :
    x ∈ newItems earlier s ↔ x ∈ s ∧ x.id ∉ earlier := by
  simp [newItems]

theorem calcItems_eq (lim : Nat) (earlier : List Nat) : ∀ (s : List Item) (n : Nat), n < lim →
    calcItems lim earlier s n =
      if lim ≤ n + (newItems earlier s).length then (lim, true) else (n + (newItems earlier s).length, false) := by
  intro s
  induction s with
  | nil => intro n hn; exact (if_neg (Nat.not_le_of_lt hn)).symm
  | cons x xs ih =>
    intro n hn
    rw [calcItems, newItems_cons]
    by_cases hc : earlier.contains x.id = true
    · rw [if_pos hc, if_pos hc]
      exact ih n hn
    · rw [if_neg hc, if_neg hc, List.length_cons, ← Nat.add_assoc, Nat.add_right_comm]
      by_cases hl : n + 1 = lim
      · rw [if_pos hl, if_pos (hl ▸ Nat.le_add_right _ _), hl]
      · rw [if_neg hl, ih (n + 1) (Nat.lt_of_le_of_ne hn hl)]

theorem calcSets_eq (lim : Nat) : ∀ (sets : List (List Item)) (earlier : List Nat) (n : Nat), n < lim →
    calcSets lim earlier sets n = min lim (n + (firsts earlier sets).length) := by
  intro sets
  induction sets with
  | nil => intro earlier n hn; exact (Nat.min_eq_right (Nat.le_of_lt hn)).symm
  | cons s rest ih =>
    intro earlier n hn
    rw [calcSets, calcItems_eq lim earlier s n hn, firsts, List.length_append, ← Nat.add_assoc]
    by_cases hl : lim ≤ n + (newItems earlier s).length
    · rw [if_pos hl]
      exact (Nat.min_eq_left (Nat.le_trans hl (Nat.le_add_right _ _))).symm
    · rw [if_neg hl]
      exact ih (earlier ++ ids s) _ (Nat.lt_of_not_le hl)

theorem calcMax_eq (lim : Nat) (sets : List (List Item)) : calcMax lim sets = min lim (firsts [] sets).length := by
  cases sets with
  | nil => exact (Nat.min_eq_right (Nat.zero_le _)).symm
  | cons s0 rest =>
    rw [calcMax, firsts, newItems_nil, List.nil_append, List.length_append]
    by_cases h : lim ≤ s0.length
    · rw [if_pos h]
      exact (Nat.min_eq_left (Nat.le_trans h (Nat.le_add_right _ _))).symm
    · rw [if_neg h]
      exact calcSets_eq lim rest (ids s0) s0.length (Nat.lt_of_not_le h)

theorem mem_firsts {P : Item → Prop} (hco : ∀ x y, P x → P y → x.id = y.id → x = y) :
    ∀ (sets : List (List Item)) (earlier : List Nat), (∀ s ∈ sets, ∀ x ∈ s, P x) →
      ∀ x, x ∈ firsts earlier sets ↔ (Mem x sets ∧ x.id ∉ earlier) := by
  intro sets
  induction sets with
  | nil => intro earlier _ x; simp [firsts, Mem]
  | cons s rest ih =>
    intro earlier hP x
    rw [firsts, List.mem_append, ih (earlier ++ ids s) (fun t ht => hP t (List.mem_cons_of_mem _ ht)) x, mem_newItems,
      List.mem_append, not_or]
    have key : ∀ t ∈ rest, x ∈ t → x.id ∈ ids s → x ∈ s := fun t ht hx hid => by
      obtain ⟨y, hy, hyid⟩ := List.mem_map.mp hid
      exact hco y x (hP s List.mem_cons_self y hy) (hP t (List.mem_cons_of_mem _ ht) x hx) hyid ▸ hy
    constructor
    · rintro (⟨hx, hn⟩ | ⟨⟨t, ht, hx⟩, hn, _⟩)
      · exact ⟨⟨s, List.mem_cons_self, hx⟩, hn⟩
      · exact ⟨⟨t, List.mem_cons_of_mem _ ht, hx⟩, hn⟩
    · rintro ⟨⟨t, ht, hx⟩, hn⟩
      rcases List.mem_cons.mp ht with rfl | ht
      · exact Or.inl ⟨hx, hn⟩
      · by_cases hid : x.id ∈ ids s
        · exact Or.inl ⟨key t ht hx hid, hn⟩
        · exact Or.inr ⟨⟨t, ht, hx⟩, hn, hid⟩

theorem firsts_nodup {P : Item → Prop} (hco : ∀ x y, P x → P y → x.id = y.id → x = y) :
    ∀ (sets : List (List Item)) (earlier : List Nat), (∀ s ∈ sets, s.Nodup ∧ ∀ x ∈ s, P x) →
      (firsts earlier sets).Nodup := by
  intro sets
  induction sets with
  | nil => intro _ _; simp [firsts]
  | cons s rest ih =>
    intro earlier h
    have hr : ∀ t ∈ rest, t.Nodup ∧ ∀ y ∈ t, P y := fun t ht => h t (List.mem_cons_of_mem _ ht)
    simp only [firsts]
    rw [List.nodup_append]
    refine ⟨(h s (by simp)).1.filter _, ih (earlier ++ ids s) hr, ?_⟩
    intro a ha b hb hab
    subst hab
    have h1 := (mem_firsts hco rest (earlier ++ ids s) (fun t ht => (hr t ht).2) a).mp hb
    exact h1.2 (List.mem_append_right _ (List.mem_map_of_mem (mem_newItems.mp ha).1))

/-- `calcMaxUniqueSearchResults` is `min lim (number of distinct items)` -/
theorem calcMax_spec {k : MKind} {ord : Item → Item → Ordering} {P : Item → Prop} (hu : Univ k ord P)
    (lim : Nat) (sets : List (List Item)) (hok : SetsOK ord P sets) (U : List Item) (hU : U.Nodup)
    (hUm : ∀ x, x ∈ U ↔ Mem x sets) : calcMax lim sets = min lim U.length := by
  rw [calcMax_eq]
  have hnd := firsts_nodup hu.coherent sets [] (fun s hs => ⟨(hok s hs).1.nodup, (hok s hs).2⟩)
  have hm : ∀ x, x ∈ firsts [] sets ↔ x ∈ U := by
    intro x
    rw [mem_firsts hu.coherent sets [] (fun s hs => (hok s hs).2) x, hUm]
    simp
  rw [((List.perm_ext_iff_of_nodup hnd hU).mpr hm).length_eq]

end NeoFS.SearchMerge
