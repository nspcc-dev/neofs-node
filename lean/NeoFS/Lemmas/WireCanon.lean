import NeoFS.Lemmas.WireRef
/-! C41: the abstract scan against the occurrences the full decoder sees; canonical encodings under both. -/
namespace NeoFS.Wire

/-- no LEN field numbered 1..3 stands after the point where the scan stops (the first field numbered ≥ 3) -/
def lateFree : List Field → Bool
  | [] => true
  | f :: fs =>
    if f.num ≥ 3 then fs.all fun g => !(g.wt == 2 && (g.num == 1 || g.num == 2 || g.num == 3))
    else lateFree fs

def notEarlyLEN (g : Field) : Bool := !(g.wt == 2 && (g.num == 1 || g.num == 2 || g.num == 3))

theorem occ_cons (k : Nat) (f : Field) (fs : List Field) :
    occ k (f :: fs) = if f.num = k ∧ f.wt = 2 then fbOf f :: occ k fs else occ k fs := by
  unfold occ
  by_cases h : f.num = k ∧ f.wt = 2
  · simp [h, fbOf]
  · have : (f.num == k && f.wt == 2) = false := by simpa using h
    rw [List.filter_cons, this, if_neg h]
    rfl

theorem occ_nil_of_all {k : Nat} {fs : List Field} (hk : 1 ≤ k ∧ k ≤ 3) (h : fs.all notEarlyLEN = true) :
    occ k fs = [] := by
  induction fs with
  | nil => rfl
  | cons g gs ih =>
    rw [List.all_cons, Bool.and_eq_true] at h
    rw [occ_cons, ih h.2, if_neg]
    rintro ⟨rfl, hwt⟩
    simp [notEarlyLEN, hwt] at h
    omega

theorem occ_at_stop {f : Field} {fs : List Field} (hf : f.num ≥ 3) (hl : lateFree (f :: fs) = true) :
    occ 1 (f :: fs) = [] ∧ occ 2 (f :: fs) = [] ∧
      occ 3 (f :: fs) = if f.num = 3 ∧ f.wt = 2 then [fbOf f] else [] := by
  rw [lateFree, if_pos hf] at hl
  rw [occ_cons, occ_cons, occ_cons, if_neg (by omega), if_neg (by omega), occ_nil_of_all (k := 1) (by omega) hl,
    occ_nil_of_all (k := 2) (by omega) hl, occ_nil_of_all (k := 3) (by omega) hl]
  exact ⟨rfl, rfl, rfl⟩

theorem objSlot_eq_zero (n : Nat) : objSlot n = 0 ↔ n = 1 := by
  unfold objSlot fObjID fObjSig
  split
  · omega
  · split <;> omega

theorem objSlot_eq_one (n : Nat) : objSlot n = 1 ↔ n = 2 := by
  unfold objSlot fObjID fObjSig
  split
  · omega
  · split <;> omega

theorem slot_append_occ_step {slot : Nat → Nat} {j k : Nat} (hslot : ∀ n, slot n = j ↔ n = k) {f : Field}
    (hwt : f.wt = 2) {x : Option FB} (hx : f.num = k → x = none) (fs : List Field) :
    (if slot f.num = j then some (fbOf f) else x).toList ++ occ k fs = x.toList ++ occ k (f :: fs) := by
  rw [occ_cons]
  by_cases h : f.num = k
  · rw [if_pos ((hslot _).2 h), if_pos ⟨h, hwt⟩, hx h]
    rfl
  · rw [if_neg (mt (hslot _).1 h), if_neg fun c => h c.1]

/-- `h1`, `h2`: an accumulator is still empty while `prev` is below its field number -/
theorem scan_agrees {fs : List Field} {prev : Nat} {idf sigf i s h : Option FB}
    (hs : scanSpec 3 objSlot fs prev idf sigf = .ok (i, s, h)) (hl : lateFree fs = true)
    (h1 : prev = 0 → idf = none) (h2 : prev ≤ 1 → sigf = none) :
    idf.toList ++ occ 1 fs = i.toList ∧ sigf.toList ++ occ 2 fs = s.toList ∧ occ 3 fs = h.toList := by
  fun_induction scanSpec 3 objSlot fs prev idf sigf with
  | case1 =>
    cases hs
    exact ⟨List.append_nil _, List.append_nil _, rfl⟩
  | case2 f fs prev idf sigf c1 =>
    cases hs
    obtain ⟨o1, o2, o3⟩ := occ_at_stop (Nat.le_of_lt c1) hl
    rw [o1, o2, o3, if_neg (by omega)]
    exact ⟨List.append_nil _, List.append_nil _, rfl⟩
  | case3 | case4 | case5 => nomatch hs
  | case6 f fs prev idf sigf _ _ _ hwt c5 =>
    cases hs
    obtain ⟨o1, o2, o3⟩ := occ_at_stop (Nat.le_of_eq c5.symm) hl
    rw [o1, o2, o3, if_pos ⟨c5, not_not.mp hwt⟩]
    exact ⟨List.append_nil _, List.append_nil _, rfl⟩
  | case7 f fs prev idf sigf c1 c2 c3 hwt c5 ih =>
    rw [lateFree, if_neg (by omega)] at hl
    have hwt := not_not.mp hwt
    have h3 : ¬(f.num = 3 ∧ f.wt = 2) := fun c => c5 c.1
    rw [← slot_append_occ_step objSlot_eq_zero hwt (fun _ => h1 (by omega)),
      ← slot_append_occ_step objSlot_eq_one hwt (fun _ => h2 (by omega)), occ_cons 3, if_neg h3]
    refine ih hs hl (by omega) fun h => ?_
    rw [if_neg (by rw [objSlot_eq_one]; omega)]
    exact h2 (by omega)

/-- LEN fields in the order written: number, value if present -/
abbrev Msg := List (Nat × Option Bytes)

/-- `Object.Marshal`: an absent field is not written -/
def encOpts : Msg → Bytes
  | [] => []
  | kx :: l => encOpt kx.1 kx.2 ++ encOpts l

def lenLen (v : Bytes) : Nat := (encodeVarint v.length).length

/-- the fields of `encOpts l` at offset `off` -/
def fieldsAt : Nat → Msg → List Field
  | _, [] => []
  | off, (_, none) :: l => fieldsAt off l
  | off, (k, some v) :: l =>
    ⟨k, 2, off, off + 1 + lenLen v, off + 1 + (lenLen v + v.length)⟩ :: fieldsAt (off + 1 + (lenLen v + v.length)) l

/-- ascending above `prev`, one-byte tags -/
def Asc : Nat → Msg → Prop
  | _, [] => True
  | prev, kx :: l => prev < kx.1 ∧ kx.1 ≤ 15 ∧ Asc kx.1 l

theorem Asc.mono {p k : Nat} {l : Msg} (h : Asc k l) (hpk : p ≤ k) : Asc p l := by
  cases l with
  | nil => trivial
  | cons kx l => exact ⟨Nat.lt_of_le_of_lt hpk h.1, h.2⟩

theorem encodeVarint_small {t : Nat} (h : t < 128) : encodeVarint t = [UInt8.ofNat t] := by
  rw [encodeVarint, if_pos h]

theorem decodeTag_oneByteLEN {k : Nat} (hk : 1 ≤ k ∧ k ≤ 15) (rest : Bytes) :
    decodeTag numOKFull (UInt8.ofNat (k * 8 + 2) :: rest) = some (k, 2, 1) := by
  have h := consumeVarint_encode (k * 8 + 2) rest (by omega)
  rw [encodeVarint_small (by omega)] at h
  have hok : numOKFull k = true := by
    unfold numOKFull maxValidNumber
    simp only [Bool.and_eq_true, decide_eq_true_eq]
    omega
  rw [decodeTag, ← List.singleton_append, h]
  simp only [show (k * 8 + 2) / 8 = k by omega, show (k * 8 + 2) % 8 = 2 by omega, hok, if_true,
    List.length_singleton]

theorem refLoop_lenField {k m n : Nat} {b : Bytes} {fuel off : Nat} {fs : List Field} (hk : 1 ≤ k ∧ k ≤ 15)
    (hcv : consumeVarint b = .ok (m, n)) (hm : m ≤ b.length - n)
    (hrest : refLoop fuel (off + 1 + (n + m)) (b.drop (n + m)) = some fs) :
    refLoop (fuel + 1) off (UInt8.ofNat (k * 8 + 2) :: b) =
      some (⟨k, 2, off, off + 1 + n, off + 1 + (n + m)⟩ :: fs) := by
  have hskip : skipValue k 2 b = some (n + m) := by
    rw [skipValue, if_neg (by decide), skipScalar, hcv]
    exact if_pos hm
  have hlp : lenPrefix 2 b = n := by rw [lenPrefix, if_pos rfl, hcv]
  rw [refLoop, if_neg (List.cons_ne_nil _ _), decodeTag_oneByteLEN hk]
  simp only [List.drop_succ_cons, List.drop_zero, hskip, hlp, Nat.add_comm 1 (n + m), hrest]

theorem refLoop_encOpts {prev : Nat} (l : Msg) (hasc : Asc prev l) (fuel off : Nat)
    (hlen : (encOpts l).length < 2 ^ 64) (hf : (encOpts l).length < fuel) :
    refLoop fuel off (encOpts l) = some (fieldsAt off l) := by
  induction l generalizing prev fuel off with
  | nil =>
    cases fuel with
    | zero => omega
    | succ fuel => rw [encOpts, refLoop, if_pos rfl]; rfl
  | cons kx l ih =>
    obtain ⟨k, x⟩ := kx
    cases x with
    | none => exact ih hasc.2.2 fuel off hlen hf
    | some v =>
      have hk : 1 ≤ k ∧ k ≤ 15 := ⟨by have := hasc.1; omega, hasc.2.1⟩
      rw [encOpts, encOpt, encLEN, encodeVarint_small (by omega), List.append_assoc, List.append_assoc,
        List.singleton_append] at hlen hf ⊢
      simp only [List.length_cons, List.length_append] at hlen hf
      cases fuel with
      | zero => omega
      | succ fuel =>
        refine refLoop_lenField hk (consumeVarint_encode _ _ (by omega))
          (by simp only [List.length_append, lenLen]; omega) ?_
        rw [← List.append_assoc, List.drop_left' (by rw [List.length_append]; rfl)]
        exact ih hasc.2.2 fuel _ (by omega) (by omega)

theorem scanSpec_fieldsAt {last : Nat} {slot : Nat → Nat} {prev : Nat} (l : Msg) (hasc : Asc prev l) (off : Nat)
    (idf sigf : Option FB) : ∃ r, scanSpec last slot (fieldsAt off l) prev idf sigf = .ok r := by
  induction l generalizing prev off idf sigf with
  | nil => exact ⟨_, rfl⟩
  | cons kx l ih =>
    obtain ⟨k, x⟩ := kx
    have hk := hasc.1
    cases x with
    | none => exact ih (hasc.2.2.mono (Nat.le_of_lt hk)) off idf sigf
    | some v =>
      rw [fieldsAt, scanSpec]
      simp only
      by_cases c1 : k > last
      · exact ⟨_, if_pos c1⟩
      rw [if_neg c1, if_neg (Nat.lt_asymm hk), if_neg (Nat.ne_of_gt hk), if_neg (not_not_intro rfl)]
      by_cases c5 : k = last
      · exact ⟨_, if_pos c5⟩
      rw [if_neg c5]
      exact ih hasc.2.2 _ _ _

theorem all_fieldsAt (l : Msg) (hasc : Asc 3 l) (off : Nat) : (fieldsAt off l).all notEarlyLEN = true := by
  induction l generalizing off with
  | nil => rfl
  | cons kx l ih =>
    obtain ⟨k, x⟩ := kx
    have hk := hasc.1
    have hl := hasc.2.2.mono (Nat.le_of_lt hk)
    cases x with
    | none => exact ih hl off
    | some v =>
      rw [fieldsAt, List.all_cons, ih hl]
      simp [notEarlyLEN]
      omega

theorem lateFree_fieldsAt {p : Nat} (l : Msg) (hasc : Asc p l) (off : Nat) :
    lateFree (fieldsAt off l) = true := by
  induction l generalizing p off with
  | nil => rfl
  | cons kx l ih =>
    obtain ⟨k, x⟩ := kx
    cases x with
    | none => exact ih hasc.2.2 off
    | some v =>
      rw [fieldsAt, lateFree]
      split
      · rename_i hk
        exact all_fieldsAt l (hasc.2.2.mono hk) _
      · exact ih hasc.2.2 _

theorem occ_fieldsAt_nonempty_eq_any (l : Msg) (k off : Nat) :
    (!(occ k (fieldsAt off l)).isEmpty) = l.any fun kx => kx.1 == k && kx.2.isSome := by
  induction l generalizing off with
  | nil => rfl
  | cons kx l ih =>
    obtain ⟨k', x⟩ := kx
    rw [List.any_cons]
    cases x with
    | none => rw [fieldsAt, Option.isSome_none, Bool.and_false, Bool.false_or]; exact ih off
    | some v =>
      rw [fieldsAt, occ_cons, Option.isSome_some, Bool.and_true]
      by_cases h : k' = k
      · rw [if_pos ⟨h, rfl⟩, beq_iff_eq.2 h]; rfl
      · rw [if_neg fun c => h c.1, beq_false_of_ne h, Bool.false_or]; exact ih _

def objOpts (o : Obj) : Msg :=
  [(fObjID, o.id), (fObjSig, o.sig), (fObjHdr, o.hdr), (fObjPayload, o.payload)]

theorem encodeObj_eq (o : Obj) : encodeObj o = encOpts (objOpts o) := by
  simp only [encodeObj, objOpts, encOpts, List.append_nil]

theorem asc_objOpts (o : Obj) : Asc 0 (objOpts o) := by
  simp [objOpts, Asc, fObjID, fObjSig, fObjHdr, fObjPayload]

theorem isSome_of_toList {α : Type} {xs : List α} {x : Option α} (h : xs = x.toList) : x.isSome = !xs.isEmpty := by
  subst h
  cases x <;> rfl

end NeoFS.Wire
