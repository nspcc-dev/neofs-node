import NeoFS.Lemmas.FSTreeClean
/-! API level (`Put`, `PutBatch`, `Delete`) of the file-tree model on the O_TMPFILE writer, for every oracle. Core Lean only. -/
namespace NeoFS.FSTree

/-- payloads the API accepts in this model: non-empty, shorter than 4 GiB, and not starting with the combined prefix
(an object is a protobuf message or a zstd frame; neither starts with 0x7F 0x00) -/
def ValidData (d : Bytes) : Prop := DataOK d ∧ PlainOK d

theorem validData_short {d : Bytes} (h0 : d ≠ []) (h : d.length < dataOff) : ValidData d :=
  ⟨⟨h0, Nat.lt_trans h (by decide)⟩, .inl h⟩

theorem ite_ok_iff {c : Bool} : (if c then Out.ok else Out.err) = .ok ↔ c = true := by
  cases c <;> simp

theorem readsK_run {ι : Type} {P} (f : K → ι → K) (l : List ι) (x : Nat) (e : Bytes)
    (hstep : ∀ k i, i ∈ l → SInv P k →
      SInv P (f k i) ∧ (ReadsK k.inodes k.dir x e → ReadsK (f k i).inodes (f k i).dir x e))
    (k : K) (hs : SInv P k) (h : ReadsK k.inodes k.dir x e) : ReadsK (l.foldl f k).inodes (l.foldl f k).dir x e :=
  (List.foldlRecOn (motive := fun k' => SInv P k' ∧ ReadsK k'.inodes k'.dir x e) l f ⟨hs, h⟩
    fun k' ⟨hs', h'⟩ i hi => ⟨(hstep k' i hi hs').1, (hstep k' i hi hs').2 h'⟩).2

/-- `FSTree.Put` on the O_TMPFILE writer, for every oracle (`Quiet k`: an open batch file may still hold an older record
of a deleted address, and readers take the first) -/
theorem put_spec {P} (cfg : Cfg) (hc : cfg.Fixed) (hg : cfg.generic = false) (o : Oracle) (k : K) (a : Nat) (d : Bytes)
    (hs : SInv P k) (ha : IdOK a) (hd : ValidData d) (hp : P a d) :
    SInv P (put cfg o k a d).1 ∧ Eff P k (put cfg o k a d).1 [a] ∧ (put cfg o k a d).2 ≠ .blocked ∧
    (Quiet k → (put cfg o k a d).2 = .ok → Quiet (put cfg o k a d).1) ∧
    ((put cfg o k a d).2 = .ok →
      ∃ e, ReadsK (put cfg o k a d).1.inodes (put cfg o k a d).1.dir a e ∧ (Quiet k → k.dir.lookup a = none → e = d)) := by
  by_cases hb : d.length > cfg.threshold ∨ cfg.countLimit < 2
  · rw [put_file cfg o k a hd.1.1 hg hb]
    obtain ⟨fe, fp, fb, fok⟩ := writeFile_spec o k a d hs.kinv ha hd.1 hd.2 hp
    refine ⟨hs.of_frame fe.inv fp.1 fp.2.1 fp.2.2.1 fb, fe, by split <;> simp, fun hq _ b hb => hq b (fp.2.2.1 ▸ hb),
      fun hok => ?_⟩
    obtain ⟨e, he, hf⟩ := fok (ite_ok_iff.mp hok)
    exact ⟨e, he, fun _ => hf⟩
  · rw [put_combined cfg o k a hd.1.1 hg hb]
    obtain ⟨ws, we, wb, wp⟩ := writeCombined_spec (P := P) cfg hc o k a d hs ha hd.1 hp
    generalize writeCombined cfg o k a d = w at ws we wb wp ⊢
    obtain ⟨k1, r⟩ := w
    cases r with
    | blocked => exact absurd rfl wb
    | failed => exact ⟨ws, we, nofun, nofun, nofun⟩
    | pending i =>
      obtain ⟨ts, te, tq⟩ := tick_spec (P := P) cfg o k1 ws
      obtain ⟨e, he, hf⟩ := wp i rfl
      exact ⟨ts, we.trans (te.weaken (List.nil_subset _)), by simp only; split <;> simp, fun _ _ => tq,
        fun _ => ⟨e, te.frame a e he, hf⟩⟩

theorem itemsOK_filter {P} {items : List (Nat × Bytes)}
    (h : ∀ it ∈ items, IdOK it.1 ∧ (it.2 ≠ [] → ValidData it.2 ∧ P it.1 it.2)) :
    ItemsOK P (items.filter (fun p => p.2 ≠ [])) := by
  intro it hit
  simp at hit
  obtain ⟨h1, h2⟩ := h it hit.1
  exact ⟨h1, (h2 hit.2).1.1, (h2 hit.2).2⟩

/-- `FSTree.PutBatch` on the O_TMPFILE writer, for every oracle -/
theorem putBatch_spec {P} (cfg : Cfg) (hg : cfg.generic = false) (o : Oracle) (k : K) (items : List (Nat × Bytes))
    (hs : SInv P k) (hit : ∀ it ∈ items, IdOK it.1 ∧ (it.2 ≠ [] → ValidData it.2 ∧ P it.1 it.2)) :
    SInv P (putBatch cfg o k items).1 ∧
    Eff P k (putBatch cfg o k items).1 ((items.filter (fun p => p.2 ≠ [])).map (·.1)) ∧
    (Quiet k → Quiet (putBatch cfg o k items).1) ∧
    ((putBatch cfg o k items).2 = .ok →
      ∀ it ∈ items.filter (fun p => p.2 ≠ []), ∃ e,
        ReadsK (putBatch cfg o k items).1.inodes (putBatch cfg o k items).1.dir it.1 e ∧
        (k.dir.lookup it.1 = none → (items.filter (fun p => p.2 ≠ [])).lookup it.1 = some e)) := by
  unfold putBatch
  simp only [hg, Bool.false_eq_true, if_false]
  obtain ⟨be, bl, bb, bp, bk, bok⟩ := writeBatch_spec (P := P) cfg o k _ hs.kinv (itemsOK_filter hit)
  exact ⟨hs.of_frame be.inv bl bp bb bk, be, fun hq b hb => hq b (bb ▸ hb), fun hok => bok (ite_ok_iff.mp hok)⟩

theorem putBatch_clean {o : Oracle} {k : K} (cfg : Cfg) (hg : cfg.generic = false) (h : Clean o k) (items : List (Nat × Bytes)) :
    (putBatch cfg o k items).2 = .ok ∧ Clean o (putBatch cfg o k items).1 := by
  have := writeBatch_clean h cfg (items.filter (fun p => p.2 ≠ []))
  simp only [putBatch, hg, Bool.false_eq_true, if_false, this.1, if_true]
  exact ⟨trivial, this.2⟩

theorem delete_sinv {P} (o : Oracle) (k : K) (a : Nat) (hs : SInv P k) : SInv P (delete o k a).1 := by
  obtain ⟨dk, di, -, -, dp⟩ := delete_spec (P := P) o k a hs.kinv
  exact hs.of_frame dk dp.1 dp.2.1 dp.2.2.1 fun _ _ h => di ▸ h

theorem putBatch_safe {P} (cfg : Cfg) (hg : cfg.generic = false) (o : Oracle) (k : K) (items : List (Nat × Bytes))
    (hs : SInv P k) (hv : ∀ it ∈ items, IdOK it.1 ∧ (it.2 ≠ [] → ValidData it.2)) (hp : ∀ it ∈ items, P it.1 it.2) :
    SInv P (putBatch cfg o k items).1 ∧
    ∀ x e, ReadsK k.inodes k.dir x e → ReadsK (putBatch cfg o k items).1.inodes (putBatch cfg o k items).1.dir x e := by
  obtain ⟨bs, be, -, -⟩ := putBatch_spec cfg hg o k items hs
    fun it hit => ⟨(hv it hit).1, fun hne => ⟨(hv it hit).2 hne, hp it hit⟩⟩
  exact ⟨bs, be.frame⟩

theorem delete_safe {P} (o : Oracle) (k : K) (a : Nat) (hs : SInv P k) : SInv P (delete o k a).1 ∧
    ∀ x e, x ≠ a → ReadsK k.inodes k.dir x e → ReadsK (delete o k a).1.inodes (delete o k a).1.dir x e :=
  ⟨delete_sinv o k a hs, (delete_spec o k a hs.kinv).2.2.1⟩

theorem delete_clean {o : Oracle} {k : K} (h : Clean o k) (a : Nat) :
    (delete o k a).1.dir.lookup a = none ∧ Clean o (delete o k a).1 ∧
    (delete o k a).2 = (if (k.dir.lookup a).isSome then .ok else .notFound) := by
  unfold delete
  cases hl : k.dir.lookup a with
  | none => exact ⟨hl, h, rfl⟩
  | some i =>
    simp only
    unfold sysUnlink
    rw [faultAt_clean h]
    exact ⟨lookup_eraseKey_self a k.dir, h.next h.1 (by simp [bump]), rfl⟩

end NeoFS.FSTree
