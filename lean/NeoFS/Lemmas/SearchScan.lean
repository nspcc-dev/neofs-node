/-
C03, generic part: the handler loop (`runScan`) over the keys of any list of index elements `xs`, given that the
handler's verdict on each key agrees with a reference function `exp` (and that a `stop` is only issued when nothing
further is expected), returns exactly the first `count` expected items and a cursor iff there are more.
-/
import NeoFS.Spec.Search
namespace NeoFS.Search

variable {α : Type}

/-- the handler's verdicts along the keys of `xs` agree with `exp`. -/
def VerdictOK (h : HCtx) (key : α → Bytes) (exp : α → Option Item) : List α → Bool → Prop
  | [], _ => True
  | x :: xs, was =>
    match verdict h was (key x) with
    | (.err, _) => False
    | (.stop, _) => exp x = none ∧ ∀ y ∈ xs, exp y = none
    | (.skip, was') => exp x = none ∧ VerdictOK h key exp xs was'
    | (.take it, was') => exp x = some it ∧ VerdictOK h key exp xs was'

def hitsOf (key : α → Bytes) (exp : α → Option Item) (xs : List α) : List (Bytes × Item) :=
  xs.filterMap (fun x => (exp x).map (fun it => (key x, it)))

section
variable {key : α → Bytes} {exp : α → Option Item} {x : α} {xs : List α} {it : Item}

theorem hitsOf_nil_of_none (h : ∀ x ∈ xs, exp x = none) : hitsOf key exp xs = [] :=
  List.filterMap_eq_nil_iff.2 fun x hx => by rw [h x hx]; rfl

theorem hitsOf_cons_none (h : exp x = none) : hitsOf key exp (x :: xs) = hitsOf key exp xs := by
  simp [hitsOf, h]

theorem hitsOf_cons_some (h : exp x = some it) : hitsOf key exp (x :: xs) = (key x, it) :: hitsOf key exp xs := by
  simp [hitsOf, h]

end

/-- what `runScan` returns, in terms of the hits. -/
def scanResult (hs : List (Bytes × Item)) (count : Nat) (acc : List Item) (last : Bytes) : Res :=
  { items := acc.reverse ++ (hs.take (count - acc.length)).map (·.2),
    cursor := if hs.length > count - acc.length then
        some ((((hs.take (count - acc.length)).getLast?.map (·.1)).getD last).drop 1) else none,
    err := false }

theorem room_succ {n c : Nat} (h : n < c) : c - n = c - (n + 1) + 1 :=
  (Nat.succ_pred_eq_of_pos (Nat.sub_pos_of_lt h)).symm

section
variable {k : Bytes} {it : Item} {hs : List (Bytes × Item)} {count : Nat} {acc : List Item} {last : Bytes}

theorem scanResult_nil : scanResult [] count acc last = { items := acc.reverse } := by
  simp [scanResult]

theorem scanResult_nil_acc (hs : List (Bytes × Item)) (n : Nat) :
    scanResult hs n [] [] = Res.mk ((hs.take n).map (·.2))
      (if hs.length > n then some ((((hs.take n).getLast?.map (·.1)).getD []).drop 1) else none) false := by
  simp [scanResult]

theorem scanResult_cons_full (h : acc.length = count) :
    scanResult ((k, it) :: hs) count acc last = { items := acc.reverse, cursor := some (last.drop 1) } := by
  simp [scanResult, h]

theorem scanResult_cons_room (h : acc.length < count) :
    scanResult ((k, it) :: hs) count acc last = scanResult hs count (it :: acc) k := by
  unfold scanResult
  rw [room_succ h, List.take_succ_cons, List.getLast?_cons]
  cases (List.take (count - (acc.length + 1)) hs).getLast? <;> simp

end

theorem runScan_spec (h : HCtx) (count : Nat) (key : α → Bytes) (exp : α → Option Item) :
    ∀ (xs : List α) (was : Bool) (acc : List Item) (last : Bytes),
      VerdictOK h key exp xs was → acc.length ≤ count →
      runScan h count (xs.map key) was acc last = scanResult (hitsOf key exp xs) count acc last := by
  intro xs
  induction xs with
  | nil => exact fun was acc last _ _ => scanResult_nil.symm
  | cons x xs ih =>
    intro was acc last hok hlen
    unfold VerdictOK at hok
    rw [List.map_cons]
    unfold runScan
    split at hok
    · exact absurd hok id
    · rename_i w hv
      rw [hv, hitsOf_nil_of_none (List.forall_mem_cons.2 hok), scanResult_nil]
    · rename_i w hv
      rw [hv, hitsOf_cons_none hok.1]
      exact ih w acc last hok.2 hlen
    · rename_i it w hv
      rw [hv, hitsOf_cons_some hok.1]
      by_cases hc : acc.length = count
      · rw [scanResult_cons_full hc]
        exact if_pos hc
      · have hlt : acc.length < count := Nat.lt_of_le_of_ne hlen hc
        rw [scanResult_cons_room hlt]
        exact (if_neg hc).trans (ih w (it :: acc) (key x) hok.2 hlt)

end NeoFS.Search
