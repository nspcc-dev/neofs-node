import NeoFS.Lemmas.FSTree
/-!
State-level lemmas of the file-tree model: the safety invariant, what each system call and each writer can do to
names and bytes for EVERY oracle (faults and crash points). Core Lean only.

The lemma about a call names the state it returns (`∃ k' r, f o k .. = (k', r) ∧ …`): a proof about a writer follows a
chain of states, one `Eff` step per call.  The writers' `_spec` theorems speak of projections of the result: the
property files refer to them.
-/
namespace NeoFS.FSTree

theorem appendAt_eq_modify (l : List Bytes) (j : Nat) (x : Bytes) : appendAt l j x = l.modify j (· ++ x) := by
  induction l generalizing j with
  | nil => simp [appendAt]
  | cons y ys ih => cases j with
    | zero => simp [appendAt]
    | succ j => rw [appendAt, ih, List.modify_succ_cons]

theorem appendAt_length (l : List Bytes) (j : Nat) (x : Bytes) : (appendAt l j x).length = l.length := by
  rw [appendAt_eq_modify, List.length_modify]

theorem appendAt_getD_eq (l : List Bytes) (j : Nat) (x : Bytes) (h : j < l.length) :
    (appendAt l j x).getD j [] = l.getD j [] ++ x := by
  simp [appendAt_eq_modify, List.getD, List.getElem?_eq_getElem h]

theorem appendAt_getD_ne (l : List Bytes) (j i : Nat) (x : Bytes) (h : i ≠ j) :
    (appendAt l j x).getD i [] = l.getD i [] := by
  simp [appendAt_eq_modify, List.getD, Ne.symm h]

theorem appendAt_nil (l : List Bytes) (j : Nat) : appendAt l j [] = l := by
  rw [appendAt_eq_modify]
  exact (congrArg (l.modify j) (funext List.append_nil)).trans (List.modify_id j l)
theorem appendAt_appendAt (l : List Bytes) (j : Nat) (x y : Bytes) : appendAt (appendAt l j x) j y = appendAt l j (x ++ y) := by
  rw [appendAt_eq_modify, appendAt_eq_modify, appendAt_eq_modify, List.modify_modify_eq]
  exact congrArg (l.modify j) (funext fun z => List.append_assoc z x y)

theorem getD_append_lt (l : List Bytes) (b : Bytes) (i : Nat) (h : i < l.length) : (l ++ [b]).getD i [] = l.getD i [] := by
  simp [List.getD, List.getElem?_append_left h]

theorem getD_append_new (l : List Bytes) (b : Bytes) : (l ++ [b]).getD l.length [] = b := by
  simp [List.getD]

theorem lookup_some_mem {β : Type} {l : List (Nat × β)} {x : Nat} {e : β} (h : l.lookup x = some e) : (x, e) ∈ l := by
  obtain ⟨l₁, l₂, rfl, _⟩ := List.lookup_eq_some_iff.mp h
  simp

theorem lookup_none_not_mem {β : Type} {l : List (Nat × β)} {x : Nat} (h : l.lookup x = none) : x ∉ l.map (·.1) := by
  intro hx
  obtain ⟨p, hp, rfl⟩ := List.mem_map.mp hx
  simpa using List.lookup_eq_none_iff.mp h p hp

theorem lookup_of_mem_nodup {β : Type} {l : List (Nat × β)} {x : Nat} {e : β} (hn : (l.map (·.1)).Nodup) (h : (x, e) ∈ l) :
    l.lookup x = some e := by
  induction l with
  | nil => cases h
  | cons p ps ih =>
    simp only [List.map_cons, List.nodup_cons] at hn
    rcases List.mem_cons.mp h with rfl | hm
    · simp
    · have hne : (x == p.1) = false := by
        rw [beq_eq_false_iff_ne]
        intro hxa
        exact hn.1 (hxa ▸ List.mem_map.mpr ⟨(x, e), hm, rfl⟩)
      rw [List.lookup_cons, hne]; exact ih hn.2 hm

theorem lookup_snoc {β : Type} {l : List (Nat × β)} {a x : Nat} {j : β} :
    (l ++ [(a, j)]).lookup x = (l.lookup x).or (if x = a then some j else none) := by
  rw [List.lookup_append, List.lookup_cons, List.lookup_nil]
  by_cases h : x = a
  · simp [h]
  · simp [h, beq_eq_false_iff_ne.mpr h]

theorem lookup_snoc_self {β : Type} (l : List (Nat × β)) (a : Nat) (j : β) : ∃ e, (l ++ [(a, j)]).lookup a = some e := by
  rw [lookup_snoc, if_pos rfl]
  cases l.lookup a with
  | none => exact ⟨j, rfl⟩
  | some v => exact ⟨v, rfl⟩

theorem lookup_prefix {rs ys : List (Nat × Bytes)} {a : Nat} {e : Bytes} (h : rs.lookup a = some e) :
    (rs ++ ys).lookup a = some e := by
  rw [List.lookup_append, h]; rfl

theorem nodup_snoc {β : Type} {l : List (Nat × β)} {a : Nat} {j : β} (h : (l.map (·.1)).Nodup) (hn : l.lookup a = none) :
    ((l ++ [(a, j)]).map (·.1)).Nodup := by
  rw [List.map_append, List.nodup_append]
  refine ⟨h, by simp, ?_⟩
  intro x hx y hy hxy
  simp only [List.map_cons, List.map_nil, List.mem_singleton] at hy
  exact lookup_none_not_mem hn (hy ▸ hxy ▸ hx)

theorem lookup_eraseKey_ne (a x : Nat) (l : List (Nat × Nat)) (hx : x ≠ a) : (eraseKey a l).lookup x = l.lookup x := by
  induction l with
  | nil => rfl
  | cons p ps ih =>
    unfold eraseKey at ih ⊢
    by_cases hp : p.1 = a
    · have : (x == p.1) = false := by rw [hp]; simpa using hx
      rw [List.filter_cons_of_neg (by simp [hp]), ih, List.lookup_cons, this]
    · rw [List.filter_cons_of_pos (by simp [hp]), List.lookup_cons, List.lookup_cons, ih]

theorem lookup_eraseKey_self (a : Nat) (l : List (Nat × Nat)) : (eraseKey a l).lookup a = none := by
  rw [List.lookup_eq_none_iff]
  intro p hp
  have := (List.mem_filter.mp hp).2
  rw [bne_iff_ne]
  exact fun h => of_decide_eq_true this h.symm

/-- every name points to a file holding, for that address, a payload that was offered for it (`P`) -/
def KInv (P : Nat → Bytes → Prop) (inodes : List Bytes) (dir : List (Nat × Nat)) : Prop :=
  ∀ a i, dir.lookup a = some i → IdOK a ∧ ∃ d, P a d ∧ DataOK d ∧ Holds (inodes.getD i []) a d

/-- `a` is readable with stored bytes `d` -/
def Reads (k : K) (a : Nat) (d : Bytes) : Prop :=
  ∃ i, k.dir.lookup a = some i ∧ Holds (k.inodes.getD i []) a d

def ReadsK (inodes : List Bytes) (dir : List (Nat × Nat)) (a : Nat) (d : Bytes) : Prop :=
  ∃ i, dir.lookup a = some i ∧ Holds (inodes.getD i []) a d

/-- inode `j` is a combined file consisting of exactly the records `rs` (an open batch) -/
def BatchFile (P : Nat → Bytes → Prop) (inodes : List Bytes) (j : Nat) (rs : List (Nat × Bytes)) : Prop :=
  j < inodes.length ∧ inodes.getD j [] = encodeRecs rs ∧ RecsOK rs ∧ ∀ r ∈ rs, P r.1 r.2

theorem holds_nonempty {f : Bytes} {a : Nat} {d : Bytes} (h : Holds f a d) (hd : DataOK d) : f ≠ [] := by
  rcases h with ⟨rfl, _⟩ | ⟨rs, junk, rfl, _, hl⟩
  · exact hd.1
  · have : rs ≠ [] := by intro h0; rw [h0] at hl; simp at hl
    simp [encodeRecs_ne_nil rs this]

theorem holds_unique {f : Bytes} {a : Nat} {d e : Bytes} (ha : IdOK a) (h1 : Holds f a d) (h2 : Holds f a e) : d = e :=
  Except.ok.inj ((holds_read f a d ha h1 0).1.symm.trans (holds_read f a e ha h2 0).1)

theorem kinv_lt {P} {inodes : List Bytes} {dir : List (Nat × Nat)} (h : KInv P inodes dir) {a i : Nat}
    (hl : dir.lookup a = some i) : i < inodes.length := by
  obtain ⟨_, d, _, hd, hh⟩ := h a i hl
  apply Nat.lt_of_not_le
  intro hi
  rw [List.getD, List.getElem?_eq_none hi] at hh
  exact holds_nonempty hh hd rfl

theorem readsK_ok {P} {inodes : List Bytes} {dir : List (Nat × Nat)} (h : KInv P inodes dir) {a : Nat} {e : Bytes}
    (hr : ReadsK inodes dir a e) : IdOK a ∧ P a e ∧ DataOK e := by
  obtain ⟨i, hl, hh⟩ := hr
  obtain ⟨ha, d, hp, hd, hh2⟩ := h a i hl
  cases holds_unique ha hh hh2
  exact ⟨ha, hp, hd⟩

theorem readsK_unique {P} {inodes : List Bytes} {dir : List (Nat × Nat)} (h : KInv P inodes dir) {a : Nat} {e f : Bytes}
    (h1 : ReadsK inodes dir a e) (h2 : ReadsK inodes dir a f) : e = f := by
  have ha := (readsK_ok h h1).1
  obtain ⟨i, hl, hh⟩ := h1
  obtain ⟨i', hl', hh'⟩ := h2
  cases hl.symm.trans hl'
  exact holds_unique ha hh hh'

theorem get_of_readsK (dec : Bytes → Option Bytes) {k : K} {a : Nat} {d : Bytes} (ha : IdOK a)
    (h : ReadsK k.inodes k.dir a d) : get dec k a = decompress dec d := by
  obtain ⟨i, hl, hh⟩ := h
  simp only [get, rawGet, fileOf, hl, Option.map_some, (holds_read _ a d ha hh 0).1]
  rfl

theorem getStream_of_readsK (cfg : Cfg) (ht : cfg.tailFixed = true) (dec : Bytes → Option Bytes) {k : K} {a : Nat}
    {d : Bytes} (ha : IdOK a) (h : ReadsK k.inodes k.dir a d) : getStream cfg dec k a = decompress dec d := by
  obtain ⟨i, hl, hh⟩ := h
  simp only [getStream, fileOf, hl, Option.map_some, ht, (holds_read _ a d ha hh cfg.bufLen).2]
  rfl

theorem readsK_of_isSome {P} {inodes : List Bytes} {dir : List (Nat × Nat)} (h : KInv P inodes dir) {a : Nat}
    (hs : (dir.lookup a).isSome) : ∃ e, ReadsK inodes dir a e := by
  obtain ⟨i, hl⟩ := Option.isSome_iff_exists.mp hs
  obtain ⟨_, e, _, _, hh⟩ := h a i hl
  exact ⟨e, i, hl, hh⟩

/-- a combined file never reads as a plain file -/
theorem plain_ne_recs {d : Bytes} (hp : PlainOK d) (hd : d ≠ []) (rs : List (Nat × Bytes)) : d ≠ encodeRecs rs := by
  intro h
  cases rs with
  | nil => exact hd h
  | cons r rs =>
    subst h
    have e : encodeRecs (r :: rs) = record r.1 r.2 ++ encodeRecs rs := rfl
    rcases hp with hp | hp
    · rw [e] at hp; simp [record_length] at hp; omega
    · rw [e, parsePrefix_record] at hp; simp at hp

theorem holds_append {f : Bytes} {a : Nat} {d : Bytes} (h : Holds f a d) (hd : DataOK d) (rs : List (Nat × Bytes))
    (hf : f = encodeRecs rs) (x : Bytes) : Holds (f ++ x) a d := by
  rcases h with ⟨rfl, hp⟩ | ⟨rs2, junk, rfl, hrs, hl⟩
  · exact absurd hf (plain_ne_recs hp hd.1 rs)
  · exact Or.inr ⟨rs2, junk ++ x, by simp, hrs, hl⟩

/-- every named file goes on holding what it held -/
structure Keeps (dir : List (Nat × Nat)) (inodes inodes' : List Bytes) : Prop where
  holds : ∀ a i d, dir.lookup a = some i → DataOK d → Holds (inodes.getD i []) a d → Holds (inodes'.getD i []) a d

theorem Keeps.refl (dir : List (Nat × Nat)) (inodes : List Bytes) : Keeps dir inodes inodes :=
  ⟨fun _ _ _ _ _ h => h⟩

theorem Keeps.trans {dir : List (Nat × Nat)} {i₁ i₂ i₃ : List Bytes} (h1 : Keeps dir i₁ i₂) (h2 : Keeps dir i₂ i₃) :
    Keeps dir i₁ i₃ :=
  ⟨fun a i d hl hd hh => h2.holds a i d hl hd (h1.holds a i d hl hd hh)⟩

theorem Keeps.kinv {P} {dir : List (Nat × Nat)} {inodes inodes' : List Bytes} (hk : Keeps dir inodes inodes')
    (h : KInv P inodes dir) : KInv P inodes' dir := by
  intro a i hl
  obtain ⟨ha, d, hp, hd, hh⟩ := h a i hl
  exact ⟨ha, d, hp, hd, hk.holds a i d hl hd hh⟩

theorem Keeps.readsK {P} {dir : List (Nat × Nat)} {inodes inodes' : List Bytes} (hk : Keeps dir inodes inodes')
    (h : KInv P inodes dir) {a : Nat} {e : Bytes} (hr : ReadsK inodes dir a e) : ReadsK inodes' dir a e := by
  have hd := (readsK_ok h hr).2.2
  obtain ⟨i, hl, hh⟩ := hr
  exact ⟨i, hl, hk.holds a i e hl hd hh⟩

theorem Keeps.of_eq {dir : List (Nat × Nat)} {inodes inodes' : List Bytes}
    (he : ∀ a i, dir.lookup a = some i → inodes'.getD i [] = inodes.getD i []) : Keeps dir inodes inodes' :=
  ⟨fun a i _ hl _ hh => by rw [he a i hl]; exact hh⟩

theorem keeps_addInode {P} {inodes : List Bytes} {dir : List (Nat × Nat)} (h : KInv P inodes dir) (b : Bytes) :
    Keeps dir inodes (inodes ++ [b]) :=
  .of_eq fun _ _ hl => getD_append_lt _ _ _ (kinv_lt h hl)

theorem keeps_appendAt_fresh {inodes : List Bytes} {dir : List (Nat × Nat)} {j : Nat}
    (hj : ∀ a i, dir.lookup a = some i → i ≠ j) (x : Bytes) : Keeps dir inodes (appendAt inodes j x) :=
  .of_eq fun a i hl => appendAt_getD_ne _ _ _ _ (hj a i hl)

theorem keeps_appendAt_batch {P} {inodes : List Bytes} {dir : List (Nat × Nat)} {j : Nat} {rs : List (Nat × Bytes)}
    (hb : BatchFile P inodes j rs) (x : Bytes) : Keeps dir inodes (appendAt inodes j x) := by
  refine ⟨fun a i d _ hd hh => ?_⟩
  by_cases hij : i = j
  · subst hij
    rw [appendAt_getD_eq _ _ _ hb.1]
    exact holds_append hh hd rs hb.2.1 x
  · rw [appendAt_getD_ne _ _ _ _ hij]; exact hh

theorem keeps_new {P} {inodes : List Bytes} {dir : List (Nat × Nat)} (h : KInv P inodes dir) (x : Bytes) :
    Keeps dir inodes (appendAt (inodes ++ [[]]) inodes.length x) :=
  (keeps_addInode h []).trans (keeps_appendAt_fresh (fun _ _ hl => Nat.ne_of_lt (kinv_lt h hl)) x)

theorem holds_new (inodes : List Bytes) (a : Nat) {d : Bytes} (hp : PlainOK d) :
    Holds ((appendAt (inodes ++ [[]]) inodes.length d).getD inodes.length []) a d := by
  rw [appendAt_getD_eq _ _ _ (by simp), getD_append_new]; exact .inl ⟨rfl, hp⟩

theorem batchFile_nil {P} (inodes : List Bytes) : BatchFile P (inodes ++ [[]]) inodes.length [] :=
  ⟨by simp, getD_append_new _ _, nofun, nofun⟩

theorem batchFile_new {P} {inodes : List Bytes} {j : Nat} {rs : List (Nat × Bytes)} (hb : BatchFile P inodes j rs)
    (x : Bytes) : BatchFile P (appendAt (inodes ++ [[]]) inodes.length x) j rs := by
  refine ⟨by rw [appendAt_length, List.length_append]; exact Nat.lt_succ_of_lt hb.1, ?_, hb.2.2⟩
  rw [appendAt_getD_ne _ _ _ _ (Nat.ne_of_lt hb.1), getD_append_lt _ _ _ hb.1]; exact hb.2.1

theorem batchFile_write {P} {inodes : List Bytes} {j : Nat} {rs : List (Nat × Bytes)} (hb : BatchFile P inodes j rs)
    {a : Nat} {d : Bytes} (ha : IdOK a) (hd : DataOK d) (hp : P a d) :
    BatchFile P (appendAt inodes j (record a d)) j (rs ++ [(a, d)]) := by
  refine ⟨by rw [appendAt_length]; exact hb.1, ?_, ?_, ?_⟩
  · rw [appendAt_getD_eq _ _ _ hb.1, hb.2.1, encodeRecs_append]; simp [encodeRecs]
  · intro r hr
    rcases List.mem_append.mp hr with hr | hr
    · exact hb.2.2.1 r hr
    · cases List.mem_singleton.mp hr; exact ⟨ha, hd⟩
  · intro r hr
    rcases List.mem_append.mp hr with hr | hr
    · exact hb.2.2.2 r hr
    · cases List.mem_singleton.mp hr; exact hp

theorem batch_lookup_mem {P} {inodes : List Bytes} {j : Nat} {rs : List (Nat × Bytes)} (hb : BatchFile P inodes j rs)
    {a : Nat} {d : Bytes} (hl : rs.lookup a = some d) : P a d ∧ DataOK d :=
  ⟨hb.2.2.2 _ (lookup_some_mem hl), (hb.2.2.1 _ (lookup_some_mem hl)).2⟩

theorem batch_holds {P} {inodes : List Bytes} {j : Nat} {rs : List (Nat × Bytes)} (hb : BatchFile P inodes j rs)
    {a : Nat} {d : Bytes} (hl : rs.lookup a = some d) : Holds (inodes.getD j []) a d :=
  Or.inr ⟨rs, [], by rw [hb.2.1]; simp, hb.2.2.1, hl⟩

/-- effect of a writer run on names and bytes: safe; nothing readable is lost or changed; only `as` may appear -/
structure Eff (P : Nat → Bytes → Prop) (k k' : K) (as : List Nat) : Prop where
  inv : KInv P k'.inodes k'.dir
  frame : ∀ x e, ReadsK k.inodes k.dir x e → ReadsK k'.inodes k'.dir x e
  other : ∀ x, x ∉ as → k'.dir.lookup x = k.dir.lookup x
  nodup : (k.dir.map (·.1)).Nodup → (k'.dir.map (·.1)).Nodup

theorem Eff.of_keeps {P} {k k' : K} (h : KInv P k.inodes k.dir) (hk : Keeps k.dir k.inodes k'.inodes) (hd : k'.dir = k.dir)
    (as : List Nat) : Eff P k k' as :=
  ⟨hd ▸ hk.kinv h, fun _ _ hr => hd ▸ hk.readsK h hr, fun _ _ => by rw [hd], fun hn => hd ▸ hn⟩

theorem Eff.refl {P} {k : K} (h : KInv P k.inodes k.dir) (as : List Nat) : Eff P k k as :=
  .of_keeps h (.refl _ _) rfl as

theorem Eff.of_same {P} {k k' : K} (h : KInv P k.inodes k.dir) (hi : k'.inodes = k.inodes) (hd : k'.dir = k.dir)
    (as : List Nat) : Eff P k k' as :=
  .of_keeps h (hi ▸ .refl _ _) hd as

theorem Eff.link {P} {k k' : K} {a j : Nat} {d : Bytes} (h : KInv P k.inodes k.dir) (hi : k'.inodes = k.inodes)
    (hd : k'.dir = k.dir ++ [(a, j)]) (hn : k.dir.lookup a = none)
    (ha : IdOK a) (hp : P a d) (hdo : DataOK d) (hh : Holds (k.inodes.getD j []) a d) : Eff P k k' [a] := by
  refine ⟨?_, ?_, ?_, fun h => hd ▸ nodup_snoc h hn⟩
  · intro x i hl
    rw [hd, lookup_snoc] at hl
    rw [hi]
    cases hx : k.dir.lookup x with
    | some i' => rw [hx] at hl; exact Option.some.inj hl ▸ h x i' hx
    | none =>
      rw [hx] at hl
      by_cases hxa : x = a
      · rw [Option.none_or, if_pos hxa] at hl
        cases hl; subst hxa; exact ⟨ha, d, hp, hdo, hh⟩
      · rw [Option.none_or, if_neg hxa] at hl; cases hl
  · rintro x e ⟨i, hl, hh'⟩
    exact ⟨i, by rw [hd, lookup_snoc, hl]; rfl, hi ▸ hh'⟩
  · intro x hx
    rw [hd, lookup_snoc, if_neg (by simpa using hx), Option.or_none]

theorem Eff.trans {P} {k k' k'' : K} {as : List Nat} (h1 : Eff P k k' as) (h2 : Eff P k' k'' as) : Eff P k k'' as :=
  ⟨h2.inv, fun x e h => h2.frame x e (h1.frame x e h), fun x hx => by rw [h2.other x hx, h1.other x hx],
   fun h => h2.nodup (h1.nodup h)⟩

theorem Eff.weaken {P} {k k' : K} {as bs : List Nat} (h : Eff P k k' as) (hs : as ⊆ bs) : Eff P k k' bs :=
  ⟨h.inv, h.frame, fun x hx => h.other x (fun hh => hx (hs hh)), h.nodup⟩

def SameProc (k k' : K) : Prop :=
  k'.lockHeld = k.lockHeld ∧ k'.panicked = k.panicked ∧ k'.batch = k.batch ∧ k'.done = k.done

theorem SameProc.refl (k : K) : SameProc k k := ⟨rfl, rfl, rfl, rfl⟩

theorem SameProc.trans {k k' k'' : K} (h1 : SameProc k k') (h2 : SameProc k' k'') : SameProc k k'' :=
  ⟨h2.1.trans h1.1, h2.2.1.trans h1.2.1, h2.2.2.1.trans h1.2.2.1, h2.2.2.2.trans h1.2.2.2⟩

theorem sysOpen_spec (o : Oracle) (k : K) : ∃ k' r, sysOpen o k = (k', r) ∧ SameProc k k' ∧ k'.dir = k.dir ∧
    ((r = none ∧ k'.inodes = k.inodes) ∨ (r = some k.inodes.length ∧ k'.inodes = k.inodes ++ [[]])) := by
  unfold sysOpen
  split
  · exact ⟨_, _, rfl, .refl k, rfl, .inl ⟨rfl, rfl⟩⟩
  · exact ⟨_, _, rfl, .refl k, rfl, .inl ⟨rfl, rfl⟩⟩
  · exact ⟨_, _, rfl, .refl k, rfl, .inr ⟨rfl, rfl⟩⟩

theorem sysWrite_spec (o : Oracle) (k : K) (ino : Nat) (b : Bytes) : ∃ k' ok x, sysWrite o k ino b = (k', ok) ∧
    SameProc k k' ∧ k'.dir = k.dir ∧ k'.inodes = appendAt k.inodes ino x ∧ (ok = true → x = b) := by
  unfold sysWrite
  split
  · split
    · exact ⟨_, _, [], rfl, .refl k, rfl, (appendAt_nil _ _).symm, nofun⟩
    · exact ⟨_, _, _, rfl, .refl k, rfl, rfl, nofun⟩
  · exact ⟨_, _, _, rfl, .refl k, rfl, rfl, nofun⟩
  · exact ⟨_, _, _, rfl, .refl k, rfl, rfl, fun _ => rfl⟩

theorem sysLink_spec (o : Oracle) (k : K) (ino a : Nat) : ∃ k' r, sysLink o k ino a = (k', r) ∧ SameProc k k' ∧
    k'.inodes = k.inodes ∧
    ((r = .err ∧ k'.dir = k.dir) ∨ (r = .eexist ∧ k'.dir = k.dir ∧ (k.dir.lookup a).isSome) ∨
     (r = .ok ∧ k'.dir = k.dir ++ [(a, ino)] ∧ k.dir.lookup a = none)) := by
  unfold sysLink
  split
  · exact ⟨_, _, rfl, .refl k, rfl, .inl ⟨rfl, rfl⟩⟩
  · exact ⟨_, _, rfl, .refl k, rfl, .inl ⟨rfl, rfl⟩⟩
  · split
    · rename_i h; exact ⟨_, _, rfl, .refl k, rfl, .inr (.inl ⟨rfl, rfl, h⟩)⟩
    · rename_i h; exact ⟨_, _, rfl, .refl k, rfl, .inr (.inr ⟨rfl, rfl, Option.not_isSome_iff_eq_none.mp h⟩)⟩

theorem sysSync_spec (o : Oracle) (k : K) : ∃ k' r, sysSync o k = (k', r) ∧ SameProc k k' ∧ k'.inodes = k.inodes ∧
    k'.dir = k.dir := by
  unfold sysSync
  split <;> exact ⟨_, _, rfl, .refl k, rfl, rfl⟩

theorem sysUnlink_spec (o : Oracle) (k : K) (a : Nat) : ∃ k' r, sysUnlink o k a = (k', r) ∧ SameProc k k' ∧
    k'.inodes = k.inodes ∧ (k'.dir = k.dir ∨ k'.dir = eraseKey a k.dir) := by
  unfold sysUnlink
  split
  · exact ⟨_, _, rfl, .refl k, rfl, .inl rfl⟩
  · exact ⟨_, _, rfl, .refl k, rfl, .inl rfl⟩
  · exact ⟨_, _, rfl, .refl k, rfl, .inr rfl⟩

theorem sysOpenExcl_spec (o : Oracle) (k : K) (t : Nat × Nat) : ∃ k' r ino, sysOpenExcl o k t = (k', r, ino) ∧
    SameProc k k' ∧ k'.dir = k.dir ∧
    ((r ≠ .ok ∧ k'.inodes = k.inodes) ∨ (r = .ok ∧ ino = k.inodes.length ∧ k'.inodes = k.inodes ++ [[]])) := by
  unfold sysOpenExcl
  split
  · exact ⟨_, _, _, rfl, .refl k, rfl, .inl ⟨nofun, rfl⟩⟩
  · exact ⟨_, _, _, rfl, .refl k, rfl, .inl ⟨nofun, rfl⟩⟩
  · split
    · exact ⟨_, _, _, rfl, .refl k, rfl, .inl ⟨nofun, rfl⟩⟩
    · exact ⟨_, _, _, rfl, .refl k, rfl, .inr ⟨rfl, rfl, rfl⟩⟩

theorem sysRename_spec (o : Oracle) (k : K) (t : Nat × Nat) (ino a : Nat) : ∃ k' r, sysRename o k t ino a = (k', r) ∧
    SameProc k k' ∧ k'.inodes = k.inodes ∧
    ((r = false ∧ k'.dir = k.dir) ∨ (r = true ∧ k'.dir = eraseKey a k.dir ++ [(a, ino)])) := by
  unfold sysRename
  split
  · exact ⟨_, _, rfl, .refl k, rfl, .inl ⟨rfl, rfl⟩⟩
  · exact ⟨_, _, rfl, .refl k, rfl, .inl ⟨rfl, rfl⟩⟩
  · exact ⟨_, _, rfl, .refl k, rfl, .inr ⟨rfl, rfl⟩⟩

/-- `intSync` closes the batch and never touches names or bytes; it panics only on a batch whose `ready` is already closed -/
theorem intSync_spec (cfg : Cfg) (o : Oracle) (k : K) (b : Batch) :
    ∃ k' e, intSync cfg o k b = (k', { b with err := e, ready := true }) ∧
    k'.inodes = k.inodes ∧ k'.dir = k.dir ∧ k'.lockHeld = k.lockHeld ∧ k'.batch = k.batch ∧
    k'.panicked = (k.panicked || (b.hasReady && b.ready)) := by
  have h1 : ∃ k1 r1, (if (!b.err && !cfg.noSync) = true then sysSync o k else (k, true)) = (k1, r1) ∧ SameProc k k1 ∧
      k1.inodes = k.inodes ∧ k1.dir = k.dir := by
    split
    · exact sysSync_spec o k
    · exact ⟨k, true, rfl, .refl k, rfl, rfl⟩
  obtain ⟨k1, r1, e1, p1, i1, d1⟩ := h1
  obtain ⟨k2, r2, e2, p2, i2, d2⟩ := sysSync_spec o k1
  have p := p1.trans p2
  simp only [intSync, e1, e2]
  exact ⟨_, _, rfl, i2.trans i1, d2.trans d1, p.1, p.2.2.1, by simp only [p.2.1]⟩

theorem sbWrite_cases (cfg : Cfg) (o : Oracle) (k : K) (b : Batch) (a : Nat) (d : Bytes) : ∃ k' x,
    k'.inodes = appendAt k.inodes b.ino x ∧ k'.lockHeld = k.lockHeld ∧ k'.batch = k.batch ∧
    ((∃ b', sbWrite cfg o k b a d = (k', b', false) ∧ k'.dir = k.dir ∧ b'.ino = b.ino ∧ b'.hasReady = b.hasReady ∧
        b'.ready = true ∧ k'.panicked = (k.panicked || (b.hasReady && b.ready))) ∨
     (sbWrite cfg o k b a d = (k', { b with size := b.size + (dataOff + d.length), cnt := b.cnt + 1 }, true) ∧
        x = record a d ∧ k'.panicked = k.panicked ∧
        ((k'.dir = k.dir ∧ (k.dir.lookup a).isSome) ∨ (k'.dir = k.dir ++ [(a, b.ino)] ∧ k.dir.lookup a = none)))) := by
  obtain ⟨k1, ok, x, hw, wp, wd, wi, hx⟩ := sysWrite_spec o k b.ino (record a d)
  cases ok
  · obtain ⟨k2, e, hs, si, sd, sl, sb, sp⟩ := intSync_spec cfg o k1 { b with err := true }
    have he : sbWrite cfg o k b a d = (k2, { b with err := e, ready := true }, false) := by
      simp only [sbWrite, hw, hs, Bool.not_false, if_true]
    exact ⟨k2, x, si.trans wi, sl.trans wp.1, sb.trans wp.2.2.1,
      .inl ⟨_, he, sd.trans wd, rfl, rfl, rfl, by rw [sp, wp.2.1]⟩⟩
  · cases hx rfl
    obtain ⟨k2, r, hl, lp, li, hr⟩ := sysLink_spec o k1 b.ino a
    have p := wp.trans lp
    have i2 := li.trans wi
    have hok : r ≠ .err →
        sbWrite cfg o k b a d = (k2, { b with size := b.size + (dataOff + d.length), cnt := b.cnt + 1 }, true) := by
      intro hne
      cases r with
      | err => exact absurd rfl hne
      | _ => simp only [sbWrite, hw, hl, Bool.not_true, Bool.false_eq_true, if_false]
    rcases hr with ⟨rfl, ld⟩ | ⟨rfl, ld, lex⟩ | ⟨rfl, ld, ln⟩
    · obtain ⟨k3, e, hs, si, sd, sl, sb, sp⟩ := intSync_spec cfg o k2
        { b with size := b.size + (dataOff + d.length), cnt := b.cnt + 1, err := true }
      have he : sbWrite cfg o k b a d =
          (k3, { b with size := b.size + (dataOff + d.length), cnt := b.cnt + 1, err := e, ready := true }, false) := by
        simp only [sbWrite, hw, hl, hs, Bool.not_true, Bool.false_eq_true, if_false]
      exact ⟨k3, _, si.trans i2, sl.trans p.1, sb.trans p.2.2.1,
        .inl ⟨_, he, sd.trans (ld.trans wd), rfl, rfl, rfl, by rw [sp, p.2.1]⟩⟩
    · exact ⟨k2, _, i2, p.1, p.2.2.1, .inr ⟨hok nofun, rfl, p.2.1, .inl ⟨ld.trans wd, wd ▸ lex⟩⟩⟩
    · exact ⟨k2, _, i2, p.1, p.2.2.1, .inr ⟨hok nofun, rfl, p.2.1, .inr ⟨wd ▸ ld, wd ▸ ln⟩⟩⟩

/-- `syncBatch.write` on an open batch file, for every oracle -/
theorem sbWrite_spec {P} (cfg : Cfg) (o : Oracle) (k : K) (b : Batch) (a : Nat) (d : Bytes)
    (hk : KInv P k.inodes k.dir) {rs : List (Nat × Bytes)} (hb : BatchFile P k.inodes b.ino rs)
    (ha : IdOK a) (hd : DataOK d) (hp : P a d) :
    Eff P k (sbWrite cfg o k b a d).1 [a] ∧
    (sbWrite cfg o k b a d).1.lockHeld = k.lockHeld ∧ (sbWrite cfg o k b a d).1.batch = k.batch ∧
    (sbWrite cfg o k b a d).2.1.ino = b.ino ∧ (sbWrite cfg o k b a d).2.1.hasReady = b.hasReady ∧
    (∃ x, (sbWrite cfg o k b a d).1.inodes = appendAt k.inodes b.ino x) ∧
    ((sbWrite cfg o k b a d).2.2 = true →
        (sbWrite cfg o k b a d).2.1.ready = b.ready ∧ (sbWrite cfg o k b a d).2.1.err = b.err ∧
        (sbWrite cfg o k b a d).2.1.cnt = b.cnt + 1 ∧ (sbWrite cfg o k b a d).2.1.size = b.size + (dataOff + d.length) ∧
        BatchFile P (sbWrite cfg o k b a d).1.inodes b.ino (rs ++ [(a, d)]) ∧
        (sbWrite cfg o k b a d).1.panicked = k.panicked ∧
        ∃ e, ReadsK (sbWrite cfg o k b a d).1.inodes (sbWrite cfg o k b a d).1.dir a e ∧
             (k.dir.lookup a = none → (rs ++ [(a, d)]).lookup a = some e)) ∧
    ((sbWrite cfg o k b a d).2.2 = false →
        (sbWrite cfg o k b a d).2.1.ready = true ∧
        (sbWrite cfg o k b a d).1.panicked = (k.panicked || (b.hasReady && b.ready))) := by
  obtain ⟨k', x, hi, hl, hbt, hc⟩ := sbWrite_cases cfg o k b a d
  have kw : Keeps k.dir k.inodes k'.inodes := hi ▸ keeps_appendAt_batch hb x
  rcases hc with ⟨b', he, hdir, hino, hhr, hrdy, hpan⟩ | ⟨he, rfl, hpan, hdir⟩
  · rw [he]
    exact ⟨.of_keeps hk kw hdir _, hl, hbt, hino, hhr, ⟨x, hi⟩, nofun, fun _ => ⟨hrdy, hpan⟩⟩
  · rw [he]
    have bf : BatchFile P k'.inodes b.ino (rs ++ [(a, d)]) := hi ▸ batchFile_write hb ha hd hp
    rcases hdir with ⟨hdir, lex⟩ | ⟨hdir, ln⟩
    · -- the name is there already and stays
      obtain ⟨e', he'⟩ := readsK_of_isSome hk lex
      exact ⟨.of_keeps hk kw hdir _, hl, hbt, rfl, rfl, ⟨_, hi⟩, fun _ => ⟨rfl, rfl, rfl, rfl, bf, hpan,
        e', hdir ▸ kw.readsK hk he', fun hn => by rw [hn] at lex; cases lex⟩, nofun⟩
    · -- the record is in the file before its name is linked
      obtain ⟨e, hle⟩ := lookup_snoc_self rs a d
      have e1 := Eff.of_keeps (k' := { k with inodes := k'.inodes }) hk kw rfl [a]
      have e2 : Eff P k k' [a] := e1.trans
        (.link e1.inv rfl hdir ln ha (batch_lookup_mem bf hle).1 (batch_lookup_mem bf hle).2 (batch_holds bf hle))
      exact ⟨e2, hl, hbt, rfl, rfl, ⟨_, hi⟩, fun _ => ⟨rfl, rfl, rfl, rfl, bf, hpan,
        e, ⟨b.ino, by rw [hdir, lookup_snoc, ln]; simp, batch_holds bf hle⟩, fun _ => hle⟩, nofun⟩

/-- `writeFile` (single large object), for every oracle -/
theorem writeFile_spec {P} (o : Oracle) (k : K) (a : Nat) (d : Bytes)
    (hk : KInv P k.inodes k.dir) (ha : IdOK a) (hd : DataOK d) (hpl : PlainOK d) (hp : P a d) :
    Eff P k (writeFile o k a d).1 [a] ∧ SameProc k (writeFile o k a d).1 ∧
    (∀ j rs, BatchFile P k.inodes j rs → BatchFile P (writeFile o k a d).1.inodes j rs) ∧
    ((writeFile o k a d).2 = true →
      ∃ e, ReadsK (writeFile o k a d).1.inodes (writeFile o k a d).1.dir a e ∧ (k.dir.lookup a = none → e = d)) := by
  obtain ⟨k0, r0, he, op, od, ⟨rfl, oi⟩ | ⟨rfl, oi⟩⟩ := sysOpen_spec o k
  · rw [show writeFile o k a d = (k0, false) by simp only [writeFile, he]]
    exact ⟨.of_same hk oi od _, op, fun j rs h => oi ▸ h, nofun⟩
  obtain ⟨k1, ok, x, hw, wp, wd, wi, hx⟩ := sysWrite_spec o k0 k.inodes.length d
  rw [oi] at wi
  have e1 : Eff P k k1 [a] := .of_keeps hk (wi ▸ keeps_new hk x) (wd.trans od) _
  have bf1 : ∀ j rs, BatchFile P k.inodes j rs → BatchFile P k1.inodes j rs := fun j rs h => by
    rw [wi]; exact batchFile_new h x
  cases ok
  · obtain ⟨k2, r, hc, cp, ci, cd⟩ := sysSync_spec o k1
    rw [show writeFile o k a d = (k2, false) by simp only [writeFile, he, hw, Bool.false_eq_true, if_false, hc, Bool.false_and]]
    exact ⟨e1.trans (.of_same e1.inv ci cd _), (op.trans wp).trans cp, fun j rs h => ci ▸ bf1 j rs h, nofun⟩
  · cases hx rfl
    have hh : Holds (k1.inodes.getD k.inodes.length []) a d := wi ▸ holds_new k.inodes a hpl
    obtain ⟨k2, lr, hl, lp, li, hlr⟩ := sysLink_spec o k1 k.inodes.length a
    obtain ⟨k3, r, hc, cp, ci, cd⟩ := sysSync_spec o k2
    have sp : SameProc k k3 := ((op.trans wp).trans lp).trans cp
    have bf3 : ∀ j rs, BatchFile P k.inodes j rs → BatchFile P k3.inodes j rs := fun j rs h => by
      rw [ci, li]; exact bf1 j rs h
    rw [show writeFile o k a d = (k3, decide (lr ≠ .err) && r) by
      simp only [writeFile, he, hw, if_true, hl, hc, Bool.true_and]]
    rcases hlr with ⟨rfl, ld⟩ | ⟨rfl, ld, lex⟩ | ⟨rfl, ld, ln⟩
    · exact ⟨e1.trans (.of_same e1.inv (ci.trans li) (cd.trans ld) _), sp, bf3, nofun⟩
    · refine ⟨e1.trans (.of_same e1.inv (ci.trans li) (cd.trans ld) _), sp, bf3, fun _ => ?_⟩
      obtain ⟨e, hr⟩ := readsK_of_isSome e1.inv lex
      refine ⟨e, by rw [ci, li, cd, ld]; exact hr, fun hn => ?_⟩
      rw [wd, od, hn] at lex; cases lex
    · have e2 : Eff P k k2 [a] := e1.trans (.link e1.inv li ld ln ha hp hd hh)
      refine ⟨e2.trans (.of_same e2.inv ci cd _), sp, bf3, fun _ => ⟨d, ⟨k.inodes.length, ?_, ?_⟩, fun _ => rfl⟩⟩
      · rw [cd, ld, lookup_snoc, ln]; simp
      · rw [ci, li]; exact hh

def ItemsOK (P : Nat → Bytes → Prop) (items : List (Nat × Bytes)) : Prop :=
  ∀ it ∈ items, IdOK it.1 ∧ DataOK it.2 ∧ P it.1 it.2

/-- the loop of `writeBatch` on a batch file (inode `j`) without `ready` channel -/
theorem batchLoop_spec {P} (cfg : Cfg) (o : Oracle) (j : Nat) (items : List (Nat × Bytes)) :
    ∀ (k : K) (b : Batch) (rs : List (Nat × Bytes)), b.ino = j → KInv P k.inodes k.dir → BatchFile P k.inodes j rs →
    b.hasReady = false → ItemsOK P items →
    ∃ k' b' ok x, batchLoop cfg o k b items = (k', b', ok) ∧ Eff P k k' (items.map (·.1)) ∧
      k'.lockHeld = k.lockHeld ∧ k'.batch = k.batch ∧ k'.panicked = k.panicked ∧ b'.hasReady = false ∧
      k'.inodes = appendAt k.inodes j x ∧
      (ok = true → b'.err = b.err ∧
        ∀ it ∈ items, ∃ e, ReadsK k'.inodes k'.dir it.1 e ∧ (k.dir.lookup it.1 = none → (rs ++ items).lookup it.1 = some e)) := by
  induction items with
  | nil =>
    intro k b rs _ hk _ hr _
    exact ⟨k, b, true, [], rfl, .refl hk _, rfl, rfl, rfl, hr, (appendAt_nil _ _).symm, fun _ => ⟨rfl, nofun⟩⟩
  | cons it rest ih =>
    intro k b rs hj hk hb hr hit
    obtain ⟨a, d⟩ := it
    have hok := hit (a, d) List.mem_cons_self
    have sub : [a] ⊆ ((a, d) :: rest).map (·.1) := List.cons_subset.mpr ⟨List.mem_cons_self, List.nil_subset _⟩
    have spec := sbWrite_spec cfg o k b a d hk (hj ▸ hb) hok.1 hok.2.1 hok.2.2
    rcases hw : sbWrite cfg o k b a d with ⟨k1, b1, ok⟩
    rw [hw] at spec
    obtain ⟨se, sl, sb, si, sh, ⟨sx, sxe⟩, sok, sfail⟩ := spec
    cases ok with
    | false =>
      exact ⟨k1, b1, false, sx, by simp only [batchLoop, hw, Bool.false_eq_true, if_false], se.weaken sub, sl, sb,
        (sfail rfl).2.trans (by rw [hr]; exact Bool.or_false _), sh.trans hr, hj ▸ sxe, nofun⟩
    | true =>
      obtain ⟨-, we, -, -, wbf, wpan, e0, wre, wfresh⟩ := sok rfl
      obtain ⟨k', b', ok, ix, hl, ie, il, ib, ip, ih2, ixe, iok⟩ :=
        ih k1 b1 (rs ++ [(a, d)]) (si.trans hj) se.inv (hj ▸ wbf) (sh.trans hr) fun x hx => hit x (List.mem_cons_of_mem _ hx)
      have eqs : rs ++ [(a, d)] ++ rest = rs ++ (a, d) :: rest := List.append_assoc ..
      refine ⟨k', b', ok, sx ++ ix, by simp only [batchLoop, hw, if_true, hl],
        (se.weaken sub).trans (ie.weaken (List.subset_cons_self _ _)), il.trans sl, ib.trans sb, ip.trans wpan, ih2,
        ixe.trans (by rw [show k1.inodes = appendAt k.inodes j sx from hj ▸ sxe, appendAt_appendAt]), fun hfin => ?_⟩
      obtain ⟨ferr, fall⟩ := iok hfin
      refine ⟨ferr.trans we, ?_⟩
      -- the first item reads what it read after its own write; a later item with the same address reads the same
      have hra := ie.frame a e0 wre
      have hclaim : k.dir.lookup a = none → (rs ++ (a, d) :: rest).lookup a = some e0 := fun hn =>
        eqs ▸ lookup_prefix (wfresh hn)
      intro it' hit'
      rcases List.mem_cons.mp hit' with rfl | hmem
      · exact ⟨e0, hra, hclaim⟩
      · obtain ⟨e', hre', hfr'⟩ := fall it' hmem
        refine ⟨e', hre', fun hn => ?_⟩
        by_cases haa : it'.1 = a
        · rw [haa] at hre' hn ⊢
          rw [readsK_unique ie.inv hre' hra]; exact hclaim hn
        · exact eqs ▸ hfr' ((se.other it'.1 (by simpa using haa)).trans hn)

/-- `writeBatch` (PutBatch on the O_TMPFILE writer), for every oracle -/
theorem writeBatch_spec {P} (cfg : Cfg) (o : Oracle) (k : K) (items : List (Nat × Bytes))
    (hk : KInv P k.inodes k.dir) (hit : ItemsOK P items) :
    Eff P k (writeBatch cfg o k items).1 (items.map (·.1)) ∧
    (writeBatch cfg o k items).1.lockHeld = k.lockHeld ∧ (writeBatch cfg o k items).1.batch = k.batch ∧
    (writeBatch cfg o k items).1.panicked = k.panicked ∧
    (∀ j rs, BatchFile P k.inodes j rs → BatchFile P (writeBatch cfg o k items).1.inodes j rs) ∧
    ((writeBatch cfg o k items).2 = true →
      ∀ it ∈ items, ∃ e, ReadsK (writeBatch cfg o k items).1.inodes (writeBatch cfg o k items).1.dir it.1 e ∧
        (k.dir.lookup it.1 = none → items.lookup it.1 = some e)) := by
  unfold writeBatch
  obtain ⟨k0, r0, he, op, od, ⟨rfl, oi⟩ | ⟨rfl, oi⟩⟩ := sysOpen_spec o k
  · rw [he]
    exact ⟨.of_same hk oi od _, op.1, op.2.2.1, op.2.1, fun j rs h => oi ▸ h, nofun⟩
  have e0 : Eff P k k0 (items.map (·.1)) := .of_keeps hk (oi ▸ keeps_addInode hk []) od _
  obtain ⟨k1, b1, ok, lx, hl, le, ll, lb, lp, lh, lxe, lok⟩ := batchLoop_spec (P := P) cfg o k.inodes.length items k0
    { ino := k.inodes.length, hasReady := false } [] rfl e0.inv (oi ▸ batchFile_nil _) rfl hit
  have keep : ∀ j rs, BatchFile P k.inodes j rs → BatchFile P k1.inodes j rs := fun j rs h => by
    rw [lxe, oi]; exact batchFile_new h lx
  cases ok with
  | false =>
    simp only [he, hl, Bool.not_false, if_true]
    exact ⟨e0.trans le, ll.trans op.1, lb.trans op.2.2.1, lp.trans op.2.1, keep, nofun⟩
  | true =>
    obtain ⟨k2, e, hs, si, sd, sl, sb, sp⟩ := intSync_spec cfg o k1 b1
    simp only [he, hl, hs, Bool.not_true, Bool.false_eq_true, if_false]
    refine ⟨(e0.trans le).trans (.of_same le.inv si sd _), sl.trans (ll.trans op.1), sb.trans (lb.trans op.2.2.1), ?_,
      fun j rs h => si ▸ keep j rs h, fun _ it hit' => ?_⟩
    · rw [sp, lh, lp, op.2.1]; simp
    · obtain ⟨e, hre, hfr⟩ := (lok rfl).2 it hit'
      exact ⟨e, by rw [si, sd]; exact hre, fun hn => by simpa using hfr (od ▸ hn)⟩

/-- no batch is open (the state between two API calls that have returned) -/
def Quiet (k : K) : Prop := ∀ b, k.batch = some b → b.ready = true

/-- invariant of the writer between the atomic steps of a schedule -/
structure SInv (P : Nat → Bytes → Prop) (k : K) : Prop where
  kinv : KInv P k.inodes k.dir
  binv : ∀ b, k.batch = some b → b.ready = false → b.hasReady = true ∧ b.err = false ∧ ∃ rs, BatchFile P k.inodes b.ino rs
  lock : k.lockHeld = false
  nopanic : k.panicked = false

theorem SInv.of_frame {P} {k k' : K} (hs : SInv P k) (hk : KInv P k'.inodes k'.dir) (hl : k'.lockHeld = k.lockHeld)
    (hp : k'.panicked = k.panicked) (hb : k'.batch = k.batch)
    (hf : ∀ j rs, BatchFile P k.inodes j rs → BatchFile P k'.inodes j rs) : SInv P k' := by
  refine ⟨hk, fun b hb' hr => ?_, hl.trans hs.lock, hp.trans hs.nopanic⟩
  obtain ⟨h1, h2, rs, h3⟩ := hs.binv b (hb ▸ hb') hr
  exact ⟨h1, h2, rs, hf _ _ h3⟩

/-- the repaired code -/
def Cfg.Fixed (cfg : Cfg) : Prop := cfg.precFixed = true ∧ cfg.unlockFixed = true ∧ cfg.tailFixed = true

theorem rotateTest_false {cfg : Cfg} (hc : cfg.Fixed) (cnt size : Nat) : rotateTest cfg false cnt size = false := by
  simp [rotateTest, hc.1]

theorem wcTail_spec {P} (cfg : Cfg) (hc : cfg.Fixed) (o : Oracle) (k : K) (b : Batch) (a : Nat) (d : Bytes)
    {rs : List (Nat × Bytes)} (hk : KInv P k.inodes k.dir) (hb : BatchFile P k.inodes b.ino rs)
    (hbr : b.ready = false) (hbh : b.hasReady = true) (hbe : b.err = false) (hp0 : k.panicked = false)
    (ha : IdOK a) (hd : DataOK d) (hp : P a d) :
    ∃ k' r, wcTail cfg o k b a d = (k', r) ∧ SInv P k' ∧ Eff P k k' [a] ∧ r ≠ .blocked ∧
    (∀ i, r = .pending i →
      ∃ e, ReadsK k'.inodes k'.dir a e ∧ (k.dir.lookup a = none → (rs ++ [(a, d)]).lookup a = some e)) := by
  have spec := sbWrite_spec cfg o k b a d hk hb ha hd hp
  rcases hw : sbWrite cfg o k b a d with ⟨k1, b1, ok⟩
  rw [hw] at spec
  obtain ⟨se, -, -, si, sh, -, sok, sfail⟩ := spec
  -- the rotation test may close the batch; names and bytes stay those of `k1`
  obtain ⟨k2, b2, hr, ri, rd, rp, hb2⟩ : ∃ k2 b2,
      (if rotateTest cfg ok b1.cnt b1.size = true then intSync cfg o k1 b1 else (k1, b1)) = (k2, b2) ∧
      k2.inodes = k1.inodes ∧ k2.dir = k1.dir ∧ k2.panicked = false ∧
      (b2.ready = true ∨ (ok = true ∧ b2 = b1)) := by
    cases ok with
    | false =>
      rw [rotateTest_false hc, if_neg Bool.false_ne_true]
      exact ⟨k1, b1, rfl, rfl, rfl, by rw [(sfail rfl).2, hp0, hbr]; simp, .inl (sfail rfl).1⟩
    | true =>
      obtain ⟨wr, -, -, -, -, wpan, -⟩ := sok rfl
      have hp1 : k1.panicked = false := wpan.trans hp0
      split
      · obtain ⟨k2, e, hs, si', sd, -, -, sp⟩ := intSync_spec cfg o k1 b1
        exact ⟨k2, _, hs, si', sd, by rw [sp, hp1, wr, hbr]; simp, .inl rfl⟩
      · exact ⟨k1, b1, rfl, rfl, rfl, hp1, .inr ⟨rfl, rfl⟩⟩
  have eff : Eff P k { k2 with batch := some b2, lockHeld := false } [a] :=
    se.trans (.of_same (k' := { k2 with batch := some b2, lockHeld := false }) se.inv ri rd _)
  refine ⟨{ k2 with batch := some b2, lockHeld := false }, if ok then .pending b.ino else .failed,
    by simp only [wcTail, hw, hr], ⟨eff.inv, fun b' hb' hr' => ?_, rfl, rp⟩, eff, by cases ok <;> simp, fun i h => ?_⟩
  · cases hb'
    rcases hb2 with h | ⟨rfl, rfl⟩
    · rw [h] at hr'; cases hr'
    · obtain ⟨-, we, -, -, wbf, -⟩ := sok rfl
      exact ⟨sh.trans hbh, we.trans hbe, _, ri ▸ si ▸ wbf⟩
  · cases ok with
    | false => cases h
    | true =>
      obtain ⟨-, -, -, -, -, -, e, wre, wfr⟩ := sok rfl
      exact ⟨e, by rw [ri, rd]; exact wre, wfr⟩

theorem openBatch_spec (o : Oracle) (k : K) : ∃ k' r, openBatch o k = (k', r) ∧ SameProc k k' ∧ k'.dir = k.dir ∧
    ((r = none ∧ k'.inodes = k.inodes) ∨ (r = some { ino := k.inodes.length } ∧ k'.inodes = k.inodes ++ [[]])) := by
  obtain ⟨k', r, he, h1, h2, ⟨rfl, oi⟩ | ⟨rfl, oi⟩⟩ := sysOpen_spec o k
  · exact ⟨k', _, by rw [openBatch, he], h1, h2, .inl ⟨rfl, oi⟩⟩
  · exact ⟨k', _, by rw [openBatch, he], h1, h2, .inr ⟨rfl, oi⟩⟩

theorem batch_cases (k : K) : (∃ b, k.batch = some b ∧ b.ready = false) ∨ Quiet k := by
  unfold Quiet
  cases k.batch with
  | none => exact .inr nofun
  | some b =>
    cases hr : b.ready with
    | false => exact .inl ⟨b, rfl, hr⟩
    | true => exact .inr fun b' h => Option.some.inj h ▸ hr

theorem writeCombined_open (cfg : Cfg) (o : Oracle) {k : K} {b : Batch} (a : Nat) (d : Bytes) (hl : k.lockHeld = false)
    (hb : k.batch = some b) (hr : b.ready = false) : writeCombined cfg o k a d = wcTail cfg o k b a d := by
  simp only [writeCombined, hl, hb, hr, Bool.false_eq_true, if_false]

theorem writeCombined_new (cfg : Cfg) (o : Oracle) {k : K} (a : Nat) (d : Bytes) (hl : k.lockHeld = false)
    (hq : Quiet k) :
    writeCombined cfg o k a d = match (openBatch o k).2 with
      | none => ({ (openBatch o k).1 with batch := none, lockHeld := !cfg.unlockFixed }, .failed)
      | some b => wcTail cfg o (openBatch o k).1 b a d := by
  unfold writeCombined
  cases hb : k.batch with
  | none => simp only [hl, Bool.false_eq_true, if_false, if_true]; rfl
  | some b => simp only [hl, hq b hb, Bool.false_eq_true, if_false, if_true]; rfl

theorem wcTail_not_blocked (cfg : Cfg) (o : Oracle) (k : K) (b : Batch) (a : Nat) (d : Bytes) :
    (wcTail cfg o k b a d).2 ≠ .blocked := by
  unfold wcTail; simp only; split <;> simp

theorem writeCombined_not_blocked (cfg : Cfg) (o : Oracle) (k : K) (a : Nat) (d : Bytes) (h : k.lockHeld = false) :
    (writeCombined cfg o k a d).2 ≠ .blocked := by
  unfold writeCombined
  simp only [h, Bool.false_eq_true, if_false]
  generalize (if (match k.batch with | none => true | some b => b.ready) = true then openBatch o k else (k, k.batch)) = ob
  cases hob : ob.2 with
  | none => simp
  | some b => exact wcTail_not_blocked cfg o ob.1 b a d

/-- the lock-protected section of `writeCombinedFile`, for every oracle -/
theorem writeCombined_spec {P} (cfg : Cfg) (hc : cfg.Fixed) (o : Oracle) (k : K) (a : Nat) (d : Bytes)
    (hs : SInv P k) (ha : IdOK a) (hd : DataOK d) (hp : P a d) :
    SInv P (writeCombined cfg o k a d).1 ∧ Eff P k (writeCombined cfg o k a d).1 [a] ∧
    (writeCombined cfg o k a d).2 ≠ .blocked ∧
    (∀ i, (writeCombined cfg o k a d).2 = .pending i →
      ∃ e, ReadsK (writeCombined cfg o k a d).1.inodes (writeCombined cfg o k a d).1.dir a e ∧
        ((∀ b, k.batch = some b → b.ready = true) → k.dir.lookup a = none → e = d)) := by
  rcases batch_cases k with ⟨b, hb, hr⟩ | hq
  · rw [writeCombined_open cfg o a d hs.lock hb hr]
    obtain ⟨bh, be, rs, bf⟩ := hs.binv b hb hr
    obtain ⟨k', r, ht, ts, te, tb, tp⟩ := wcTail_spec cfg hc o k b a d hs.kinv bf hr bh be hs.nopanic ha hd hp
    rw [ht]
    refine ⟨ts, te, tb, fun i h => ?_⟩
    obtain ⟨e, he, -⟩ := tp i h
    exact ⟨e, he, fun hq => by rw [hq b hb] at hr; cases hr⟩
  · rw [writeCombined_new cfg o a d hs.lock hq]
    obtain ⟨k0, r0, he, op, od, ⟨rfl, oi⟩ | ⟨rfl, oi⟩⟩ := openBatch_spec o k
    · simp only [he, hc.2.1]
      have e0 := Eff.of_same (k' := { k0 with batch := none, lockHeld := !true }) hs.kinv oi od [a]
      exact ⟨⟨e0.inv, nofun, rfl, op.2.1.trans hs.nopanic⟩, e0, nofun, nofun⟩
    · simp only [he]
      have e0 : Eff P k k0 [a] := .of_keeps hs.kinv (oi ▸ keeps_addInode hs.kinv []) od _
      obtain ⟨k', r, ht, ts, te, tb, tp⟩ := wcTail_spec cfg hc o k0 { ino := k.inodes.length } a d e0.inv
        (oi ▸ batchFile_nil _) rfl rfl rfl (op.2.1.trans hs.nopanic) ha hd hp
      rw [ht]
      refine ⟨ts, e0.trans te, tb, fun i h => ?_⟩
      obtain ⟨e, he, hf⟩ := tp i h
      exact ⟨e, he, fun _ hn => by simpa using (hf (od ▸ hn)).symm⟩

theorem tick_quiet (cfg : Cfg) (o : Oracle) {k : K} (hq : Quiet k) : tick cfg o k = k := by
  unfold tick
  cases hb : k.batch with
  | none => rfl
  | some b => simp only [hq b hb, if_true]

/-- the timer (or `finalize`) closing the open batch -/
theorem tick_spec {P} (cfg : Cfg) (o : Oracle) (k : K) (hs : SInv P k) :
    SInv P (tick cfg o k) ∧ Eff P k (tick cfg o k) [] ∧ (∀ b, (tick cfg o k).batch = some b → b.ready = true) := by
  rcases batch_cases k with ⟨b, hb, hr⟩ | hq
  · obtain ⟨k1, e, he, si, sd, sl, -, sp⟩ := intSync_spec cfg o k b
    simp only [tick, hb, hr, he, Bool.false_eq_true, if_false]
    have e1 := Eff.of_same (k' := { k1 with batch := some { b with err := e, ready := true } }) hs.kinv si sd []
    refine ⟨⟨e1.inv, fun b' hb' hr' => ?_, sl.trans hs.lock, by rw [sp, hs.nopanic, hr]; simp⟩, e1, fun b' hb' => ?_⟩
    · cases hb'; cases hr'
    · cases hb'; rfl
  · rw [tick_quiet cfg o hq]
    exact ⟨hs, .refl hs.kinv _, hq⟩

theorem delete_cases (o : Oracle) (k : K) (a : Nat) : ∃ k' r, delete o k a = (k', r) ∧ SameProc k k' ∧
    k'.inodes = k.inodes ∧ (k'.dir = k.dir ∨ k'.dir = eraseKey a k.dir) := by
  unfold delete
  cases k.dir.lookup a with
  | none => exact ⟨_, _, rfl, .refl k, rfl, .inl rfl⟩
  | some i =>
    obtain ⟨k', r, he, h⟩ := sysUnlink_spec o k a
    simp only [he]
    exact ⟨_, _, rfl, h⟩

theorem delete_spec {P} (o : Oracle) (k : K) (a : Nat) (hk : KInv P k.inodes k.dir) :
    KInv P (delete o k a).1.inodes (delete o k a).1.dir ∧ (delete o k a).1.inodes = k.inodes ∧
    (∀ x e, x ≠ a → ReadsK k.inodes k.dir x e → ReadsK (delete o k a).1.inodes (delete o k a).1.dir x e) ∧
    (∀ x, x ≠ a → (delete o k a).1.dir.lookup x = k.dir.lookup x) ∧
    SameProc k (delete o k a).1 := by
  obtain ⟨k', r, he, sp, hi, hd | hd⟩ := delete_cases o k a
  · rw [he, show (k', r).1 = k' from rfl, hi, hd]
    exact ⟨hk, rfl, fun _ _ _ h => h, fun _ _ => rfl, sp⟩
  · rw [he, show (k', r).1 = k' from rfl, hi, hd]
    refine ⟨fun x j h => hk x j ?_, rfl, fun x e hx ⟨j, hj, hh⟩ => ⟨j, (lookup_eraseKey_ne a x _ hx).trans hj, hh⟩,
      fun x hx => lookup_eraseKey_ne a x _ hx, sp⟩
    by_cases hx : x = a
    · rw [hx, lookup_eraseKey_self] at h; cases h
    · exact (lookup_eraseKey_ne a x _ hx).symm.trans h

theorem put_generic (cfg : Cfg) (o : Oracle) (k : K) (a : Nat) {d : Bytes} (hd : d ≠ []) (hg : cfg.generic = true) :
    put cfg o k a d = ((genericWrite o 5 0 k a d).1, if (genericWrite o 5 0 k a d).2 then .ok else .err) := by
  simp only [put, hd, hg, if_false, if_true]

theorem put_file (cfg : Cfg) (o : Oracle) (k : K) (a : Nat) {d : Bytes} (hd : d ≠ []) (hg : cfg.generic = false)
    (hb : d.length > cfg.threshold ∨ cfg.countLimit < 2) :
    put cfg o k a d = ((writeFile o k a d).1, if (writeFile o k a d).2 then .ok else .err) := by
  simp only [put, hd, hg, hb, if_false, if_true, Bool.false_eq_true]

theorem put_combined (cfg : Cfg) (o : Oracle) (k : K) (a : Nat) {d : Bytes} (hd : d ≠ []) (hg : cfg.generic = false)
    (hb : ¬ (d.length > cfg.threshold ∨ cfg.countLimit < 2)) :
    put cfg o k a d = match (writeCombined cfg o k a d).2 with
      | .blocked => ((writeCombined cfg o k a d).1, .blocked)
      | .failed => ((writeCombined cfg o k a d).1, .err)
      | .pending i => (tick cfg o (writeCombined cfg o k a d).1,
          if doneErr (tick cfg o (writeCombined cfg o k a d).1) i then .err else .ok) := by
  simp only [put, hd, hg, hb, if_false, Bool.false_eq_true]
  rfl

end NeoFS.FSTree
