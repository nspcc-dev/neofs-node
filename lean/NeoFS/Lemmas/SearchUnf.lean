/-
C03, empty query (`searchUnfiltered`): over the visited object-id keys the page is the first `count` available ids;
no cursor is returned only when nothing is left; a returned cursor is the id of the last returned object.
(A cursor may be followed by one empty page when only unavailable objects remain - the code decides on the cursor
before it looks at the availability of what follows.)
-/
import NeoFS.Lemmas.SearchScan
import NeoFS.Props.C05
namespace NeoFS.Search
open NeoFS.Int256

theorem keyID_split (id : Nat) (h : id < two256) : (keyID id).length = oidLen + 1 ∧ fromBE ((keyID id).drop 1) = id := by
  unfold keyID oidBytes
  refine ⟨by simp [beBytes_length, oidLen], ?_⟩
  simp only [List.drop_succ_cons, List.drop_zero]
  rw [two256_eq] at h
  exact fromBE_beBytes 32 id h

theorem scanUnfiltered_keyID {avail : Nat → Bool} {count id : Nat} {ks : List Bytes} {acc : List Item}
    (h : id < two256) :
    scanUnfiltered avail count (keyID id :: ks) acc =
      if acc.length = count then { items := acc.reverse, cursor := acc.head?.map fun it => oidBytes it.id }
      else if avail id then scanUnfiltered avail count ks (⟨id, []⟩ :: acc)
      else scanUnfiltered avail count ks acc := by
  obtain ⟨hkl, hkid⟩ := keyID_split id h
  rw [scanUnfiltered, if_neg (not_not.2 hkl)]
  dsimp only
  rw [hkid]
  by_cases hc : acc.length = count
  · rw [if_pos hc, if_pos hc]
  · rw [if_neg hc, if_neg hc]
    cases avail id <;> rfl

theorem scanUnfiltered_spec (avail : Nat → Bool) (count : Nat) (hcount : 1 ≤ count) :
    ∀ (ids : List Nat) (acc : List Item), (∀ id ∈ ids, id < two256) → acc.length ≤ count →
      let r := scanUnfiltered avail count (ids.map keyID) acc
      let av := (ids.filter avail).map (fun id => (⟨id, []⟩ : Item))
      r.err = false ∧
      r.items = acc.reverse ++ av.take (count - acc.length) ∧
      (r.cursor = none → av.length ≤ count - acc.length) ∧
      (∀ c, r.cursor = some c → r.items.length = count ∧ ∃ it, r.items.getLast? = some it ∧ c = oidBytes it.id) := by
  intro ids
  induction ids with
  | nil =>
    intro acc _ _
    refine ⟨rfl, ?_, fun _ => Nat.zero_le _, fun c hc => nomatch hc⟩
    show acc.reverse = acc.reverse ++ List.take _ []
    rw [List.take_nil, List.append_nil]
  | cons id rest ih =>
    intro acc hid hlen
    obtain ⟨hid0, hrest⟩ := List.forall_mem_cons.1 hid
    rw [List.map_cons, scanUnfiltered_keyID hid0]
    by_cases hc : acc.length = count
    · rw [if_pos hc]
      cases acc with
      | nil => exact absurd hc (Nat.ne_of_lt hcount)
      | cons a t =>
        refine ⟨rfl, ?_, fun hn => (by cases hn), fun c hcur => ?_⟩
        · rw [hc, Nat.sub_self, List.take_zero, List.append_nil]
        · exact ⟨by rw [List.length_reverse]; exact hc, a, by rw [List.getLast?_reverse]; rfl, (Option.some.inj hcur).symm⟩
    rw [if_neg hc]
    have hlt : acc.length < count := Nat.lt_of_le_of_ne hlen hc
    cases ha : avail id
    · rw [if_neg Bool.false_ne_true, List.filter_cons_of_neg (by simp [ha])]
      exact ih acc hrest hlen
    · rw [if_pos rfl, List.filter_cons_of_pos ha]
      obtain ⟨h1, h2, h3, h4⟩ := ih (⟨id, []⟩ :: acc) hrest hlt
      have hroom := room_succ hlt
      refine ⟨h1, ?_, fun hn => ?_, h4⟩
      · rw [h2, hroom, List.map_cons, List.take_succ_cons, List.reverse_cons, List.append_assoc]
        rfl
      · rw [hroom, List.map_cons, List.length_cons]
        exact Nat.succ_le_succ (h3 hn)

end NeoFS.Search
