import NeoFS.Model.Token
import NeoFS.Lemmas.GuardChain
namespace NeoFS.ACL

theorem authOK_iff (sigOK : Bool) (signer : Option Nat) (issuer : Nat) :
    authOK sigOK signer issuer = true ↔ sigOK = true ∧ signer = some issuer := by
  simp [authOK]

theorem lifetimeOK_iff (nbf iat exp cur : Nat) :
    lifetimeOK nbf iat exp cur = true ↔ nbf ≤ cur ∧ iat ≤ cur ∧ cur ≤ exp := by
  simp [lifetimeOK, and_assoc]

/-- The left side is the text `v1Lifetime`, `v2Check` and `v2ChainCheck` each write out (`a`, `b`: nbf, iat in either order),
to be found by `rw`; `decide` alone is the access decision here. -/
theorem lifetime_guards_iff (a b exp cur : Nat) (rest : TokRes) :
    (if exp < cur then TokRes.expired
      else if !(Decidable.decide (a ≤ cur) && Decidable.decide (b ≤ cur)) then TokRes.notYetValid else rest) = TokRes.ok ↔
      (a ≤ cur ∧ b ≤ cur ∧ cur ≤ exp) ∧ rest = TokRes.ok := by
  rw [ite_eq_iff_of_ne (by decide), ite_not_eq_iff_of_ne (by decide)]
  simp only [Nat.not_lt, Bool.and_eq_true, decide_eq_true_eq]
  exact ⟨fun ⟨e, ⟨ha, hb⟩, h⟩ => ⟨⟨ha, hb, e⟩, h⟩, fun ⟨⟨ha, hb, e⟩, h⟩ => ⟨e, ⟨ha, hb⟩, h⟩⟩

theorem v1Lifetime_eq_ok_iff (t : SessV1) (cur : Nat) :
    v1Lifetime t cur = .ok ↔ t.nbf ≤ cur ∧ t.iat ≤ cur ∧ cur ≤ t.exp := by
  rw [v1Lifetime, lifetime_guards_iff, and_iff_left rfl]

theorem v1Lifetime_eq_expired_iff (t : SessV1) (cur : Nat) : v1Lifetime t cur = .expired ↔ t.exp < cur := by
  unfold v1Lifetime
  by_cases he : t.exp < cur
  · rw [if_pos he]; exact iff_of_true rfl he
  · rw [if_neg he]; exact iff_of_false (ite_ne_of_ne nofun nofun) he

theorem v1Lifetime_eq_notYetValid_iff (t : SessV1) (cur : Nat) :
    v1Lifetime t cur = .notYetValid ↔ cur ≤ t.exp ∧ (cur < t.nbf ∨ cur < t.iat) := by
  unfold v1Lifetime
  by_cases he : t.exp < cur
  · rw [if_pos he]; exact iff_of_false nofun (fun h => Nat.not_le_of_lt he h.1)
  · rw [if_neg he, ite_eq_left_iff]
    simp only [reduceCtorEq, imp_false, Decidable.not_not, Bool.not_eq_true', Bool.and_eq_false_iff, decide_eq_false_iff_not,
      Nat.not_le, Nat.le_of_not_lt he, true_and]

end NeoFS.ACL
