import NeoFS.Model.EC
/-! Lemmas about the coder model of `Model/EC.lean` (for `Props/C21.lean`, `Props/C23.lean`). -/
namespace NeoFS.EC

theorem chunks_length (sz : Nat) : ∀ (k : Nat) (l : List Nat), (chunks sz k l).length = k := by
  intro k; induction k with
  | zero => intro l; rfl
  | succ k ih => intro l; simp [chunks, ih]

theorem length_of_mem_chunks (sz : Nat) : ∀ (k : Nat) (l : List Nat), l.length = k * sz →
    ∀ s ∈ chunks sz k l, s.length = sz := by
  intro k; induction k with
  | zero => intro l _ s h; simp [chunks] at h
  | succ k ih =>
    intro l hl s h
    simp only [chunks, List.mem_cons] at h
    have hk : (k + 1) * sz = k * sz + sz := by rw [Nat.add_mul, Nat.one_mul]
    rcases h with rfl | h
    · simp [List.length_take]; omega
    · exact ih (l.drop sz) (by simp [List.length_drop]; omega) s h

theorem chunks_flatten (sz : Nat) : ∀ (k : Nat) (l : List Nat), l.length ≤ k * sz →
    (chunks sz k l).flatten = l := by
  intro k; induction k with
  | zero => intro l h; simp at h; simp [chunks, h]
  | succ k ih =>
    intro l hl
    have hk : (k + 1) * sz = k * sz + sz := by rw [Nat.add_mul, Nat.one_mul]
    simp only [chunks, List.flatten_cons]
    rw [ih (l.drop sz) (by simp [List.length_drop]; omega), List.take_append_drop]

/-- `d * ⌈n/d⌉ ≥ n` -/
theorem le_mul_perShard (n d : Nat) (hd : 1 ≤ d) : n ≤ d * perShard n d := by
  unfold perShard
  have := Nat.lt_mul_div_succ (n + d - 1) (show 0 < d by omega)
  rw [Nat.mul_add, Nat.mul_one] at this
  omega

theorem padded_length (payload : List Nat) (d : Nat) (hd : 1 ≤ d) :
    (payload ++ List.replicate (d * perShard payload.length d - payload.length) 0).length
      = d * perShard payload.length d := by
  have := le_mul_perShard payload.length d hd
  simp; omega

theorem dataParts_length (payload : List Nat) (d : Nat) : (dataParts payload d).length = d := by
  simp [dataParts, chunks_length]

theorem length_of_mem_dataParts (payload : List Nat) (d : Nat) (hd : 1 ≤ d) :
    ∀ s ∈ dataParts payload d, s.length = perShard payload.length d := by
  intro s hs
  exact length_of_mem_chunks _ d _ (by rw [padded_length payload d hd]) s hs

theorem dataParts_flatten (payload : List Nat) (d : Nat) (hd : 1 ≤ d) :
    (dataParts payload d).flatten = payload ++ List.replicate (d * perShard payload.length d - payload.length) 0 := by
  exact chunks_flatten _ d _ (by rw [padded_length payload d hd]; exact Nat.le_refl _)

theorem length_flatten_dataParts (payload : List Nat) (d : Nat) (hd : 1 ≤ d) :
    (dataParts payload d).flatten.length = d * perShard payload.length d := by
  rw [dataParts_flatten payload d hd, padded_length payload d hd]

theorem dataParts_flatten_take (payload : List Nat) (d : Nat) (hd : 1 ≤ d) :
    ((dataParts payload d).flatten).take payload.length = payload := by
  rw [dataParts_flatten payload d hd, List.take_left']
  rfl

theorem getElem?_allParts_data (c : Coder) (d p : Nat) (payload : List Nat) (i : Nat) (hi : i < d) :
    (c.allParts d p payload)[i]? = (dataParts payload d)[i]? := by
  unfold Coder.allParts
  rw [List.getElem?_append_left (by rw [dataParts_length]; exact hi)]

theorem mask_all_present (parts : List Shard) : mask parts (List.replicate parts.length true) = parts.map some := by
  induction parts with
  | nil => rfl
  | cons s rest ih => simpa [mask, List.replicate_succ] using ih

end NeoFS.EC
