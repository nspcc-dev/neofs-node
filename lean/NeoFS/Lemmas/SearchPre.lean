/-
C03: what `parseIntFilters` establishes (`PFok`): the raw bytes are the encoding of the parsed filter value, and
`AutoMatch` is only set for `<= 2^256-1` and `>= -(2^256-1)`.
-/
import NeoFS.Lemmas.SearchEval
namespace NeoFS.Search
open NeoFS.Int256

theorem maxDigits_spec : decVal maxDigits = two256 - 1 ∧ Norm maxDigits := by
  obtain ⟨h1, h2, h3⟩ := natToDec_spec (two256 - 1)
  refine ⟨h1, h2, ?_⟩
  right
  have hh : maxDigits.head? = some '1' := by decide
  cases hm : maxDigits with
  | nil => exact absurd hm h3
  | cons c l =>
    rw [hm] at hh
    simp only [List.head?_cons, Option.some.injEq] at hh
    exact ⟨c, l, rfl, by rw [hh]; decide⟩

theorem cop_isInt_op (f : Filter) (h : f.cop.isInt = true) : f.op.isInt = true := by
  unfold Filter.cop Filter.conv at h
  split at h
  · simp [Op.isInt] at h
  · exact h

theorem rawOf_ok (f0 f : Filter) (i : Nat) (neg : Bool) (digits : List Char) (auto : Bool) (x : I256) (p : PF)
    (hx : parseInt f.cval = some x) (hpn : parseNormalized neg digits = some x)
    (hauto : auto = true → (f.cop = .le ∧ x = maxI) ∨ (f.cop = .ge ∧ x = minI))
    (h : (if (!auto && (decide (i = 0) || (f0.op.isInt && decide (f.attr = f0.attr)))) = true then
        match parseNormalized neg digits with
        | some z => (Except.ok { f := f, auto := auto, raw := encode z } : Except PErr PF)
        | none => Except.error PErr.invalid
      else Except.ok { f := f, auto := auto }) = Except.ok p) : p.f = f ∧ PFok f0 i p := by
  rw [hpn] at h
  split at h
  · rename_i hcond
    cases h
    simp only [Bool.and_eq_true, Bool.not_eq_true'] at hcond
    exact ⟨rfl, fun _ => ⟨x, hx, fun ha => absurd (hcond.1.symm.trans ha) (by simp), fun _ _ => rfl⟩⟩
  · rename_i hcond
    cases h
    refine ⟨rfl, fun _ => ⟨x, hx, hauto, fun ha hor => absurd ?_ hcond⟩⟩
    have ha' : auto = false := ha
    simp only [ha', Bool.not_false, Bool.true_and, Bool.or_eq_true, decide_eq_true_eq, Bool.and_eq_true]
    exact hor.imp id (fun h => ⟨cop_isInt_op f0 h.1, h.2⟩)

/-- the result of one step of `parseIntFilters`. -/
theorem parseIntFilter_ok (f0 : Filter) (i : Nat) (f : Filter) (p : PF) (h : parseIntFilter f0 i f = .ok p) :
    p.f = f ∧ PFok f0 i p := by
  unfold parseIntFilter at h
  extract_lets m at h
  by_cases hi : m.isInt = true
  swap
  · rw [if_pos (by simpa using hi)] at h
    cases h
    exact ⟨rfl, fun hh => absurd hh hi⟩
  rw [if_neg (by simp [hi])] at h
  split at h
  · cases h
  rename_i neg digits hs
  extract_lets c rawOf at h
  have hnorm := (split_norm _ _ _ hs).1
  have hc : c = ordNat (decVal digits) (two256 - 1) := by
    rw [← maxDigits_spec.1]; exact norm_cmp hnorm maxDigits_spec.2
  have fin : ∀ (auto : Bool), decVal digits ≤ two256 - 1 →
      (auto = true → (f.cop = .le ∧ mk neg (decVal digits) = maxI) ∨ (f.cop = .ge ∧ mk neg (decVal digits) = minI)) →
      rawOf auto = .ok p → p.f = f ∧ PFok f0 i p := fun auto hv hauto =>
    have hv' : decVal digits < two256 := Nat.lt_of_le_of_lt hv (Nat.sub_lt (by decide) Nat.one_pos)
    have hpn : parseNormalized neg digits = some (mk neg (decVal digits)) :=
      parseNormalized_eq_some.2 ⟨fun e => by rcases hnorm.2 with h | ⟨c, l, h, _⟩ <;> simp [h] at e, hnorm.1, hv', rfl⟩
    have hx : parseInt f.cval = some (mk neg (decVal digits)) := by
      have hra := readers_agree (toChars f.cval)
      rw [hs, Option.bind_some, hpn] at hra
      exact hra.symm
    rawOf_ok f0 f i neg digits auto _ p hx hpn hauto
  clear_value rawOf c
  subst hc
  rcases Nat.lt_trichotomy (decVal digits) (two256 - 1) with hlt | heq | hgt
  · rw [ordNat_eq_lt.2 hlt] at h
    have h : rawOf false = .ok p := by cases neg <;> exact h
    exact fin false (Nat.le_of_lt hlt) (fun ha => by cases ha) h
  · rw [ordNat_of_eq heq] at h
    cases neg
    · -- 2^256-1
      have h : (if m = .gt then .error .unreachable else rawOf (decide (m = .le))) = Except.ok p := h
      by_cases hm : m = .gt
      · rw [if_pos hm] at h; cases h
      rw [if_neg hm] at h
      refine fin _ (Nat.le_of_eq heq) (fun ha => Or.inl ⟨of_decide_eq_true ha, ?_⟩) h
      rw [heq]; rfl
    · -- -(2^256-1)
      have h : (if (decide (m = .lt)) = true then .error .unreachable else rawOf (decide (m = .ge))) = Except.ok p := h
      by_cases hm : decide (m = .lt) = true
      · rw [if_pos hm] at h; cases h
      rw [if_neg hm] at h
      refine fin _ (Nat.le_of_eq heq) (fun ha => Or.inr ⟨of_decide_eq_true ha, ?_⟩) h
      rw [heq]; rfl
  · rw [ordNat_of_gt hgt] at h
    cases neg <;> cases h

theorem parseIntFiltersAux_ok (f0 : Filter) :
    ∀ (fs : List Filter) (i : Nat) (ps : List PF), parseIntFiltersAux f0 i fs = .ok ps →
      ps.map (·.f) = fs ∧ ∀ j p, ps[j]? = some p → PFok f0 (i + j) p := by
  intro fs
  induction fs with
  | nil =>
    intro i ps h
    cases h
    exact ⟨rfl, allFrom_nil _ i⟩
  | cons f r ih =>
    intro i ps h
    unfold parseIntFiltersAux at h
    split at h
    · cases h
    rename_i p h1
    split at h
    · cases h
    rename_i ps' h2
    cases h
    obtain ⟨hpf, hpok⟩ := parseIntFilter_ok f0 i f p h1
    obtain ⟨hm, hall⟩ := ih (i + 1) ps' h2
    exact ⟨by rw [List.map_cons, hpf, hm], (allFrom_cons (PFok f0)).2 ⟨hpok, hall⟩⟩

theorem parseFilters_ok (f0 : Filter) (fs : List Filter) (ofs : List PF)
    (h : (if fs.any (fun f => f.op.isInt) then parseIntFiltersAux f0 0 fs
      else .ok (fs.map fun f => { f := f })) = .ok ofs) :
    ofs.map (·.f) = fs ∧ ∀ idx p, ofs[idx]? = some p → PFok f0 idx p := by
  split at h
  · obtain ⟨h1, h2⟩ := parseIntFiltersAux_ok f0 fs 0 ofs h
    exact ⟨h1, fun idx p hp => by simpa using h2 idx p hp⟩
  · rename_i hnoint
    cases h
    refine ⟨by simp [List.map_map, Function.comp_def], ?_⟩
    intro idx p hp hi
    obtain ⟨f, hf, rfl⟩ := List.mem_map.1 (List.mem_of_getElem? hp)
    exact absurd (List.any_eq_true.2 ⟨f, hf, cop_isInt_op f hi⟩) hnoint

theorem preprocess_ok_inv (f0 : Filter) (r : List Filter) (attrs : List Bytes) (cur : Option Bytes) (c : Ctx)
    (h : preprocess (f0 :: r) attrs cur = .ok c) :
    blindly (f0 :: r) = false ∧ c.attrs = attrs ∧
      (if (f0 :: r).any (fun f => f.op.isInt) then parseIntFiltersAux f0 0 (f0 :: r)
        else .ok ((f0 :: r).map fun f => { f := f })) = .ok c.fs := by
  unfold preprocess at h
  dsimp -zeta only at h
  -- the start value and the checked cursor do not matter
  extract_lets m0 a0 oidSorted primVal cur' at h
  clear_value primVal cur' oidSorted
  cases primVal with
  | error e => cases h
  | ok primValDB =>
    dsimp only at h
    cases cur' with
    | error e => cases h
    | ok cur' =>
      dsimp only at h
      cases hbl : blindly (f0 :: r) with
      | true => rw [hbl, if_pos rfl] at h; cases h
      | false =>
        rw [hbl, if_neg Bool.false_ne_true] at h
        split at h
        · cases h
        rename_i ofs hofs
        refine ⟨rfl, ?_⟩
        rw [hofs]
        cases oidSorted
        · rw [if_neg Bool.false_ne_true] at h
          cases cur' with
          | some cv => cases h; exact ⟨rfl, rfl⟩
          | none =>
            dsimp only at h
            cases hm : m0.isInt
            · rw [hm, if_neg Bool.false_ne_true] at h; cases h; exact ⟨rfl, rfl⟩
            · rw [hm, if_pos rfl] at h
              cases ofs with
              | nil => cases h
              | cons p0 t =>
                dsimp only at h
                split at h
                · cases h; exact ⟨rfl, rfl⟩
                · cases h; exact ⟨rfl, rfl⟩
        · rw [if_pos rfl] at h; cases h; exact ⟨rfl, rfl⟩
/-- what `PreprocessSearchQuery` returns for a non-empty filter list: the filters themselves, preprocessed as `PFok`
says, the requested attributes, and the query is not one answered empty by rule. -/
theorem preprocess_fs (f0 : Filter) (r : List Filter) (attrs : List Bytes) (cur : Option Bytes) (c : Ctx)
    (h : preprocess (f0 :: r) attrs cur = .ok c) :
    c.fs.map (·.f) = f0 :: r ∧ c.attrs = attrs ∧ blindly (f0 :: r) = false ∧
      ∀ idx p, c.fs[idx]? = some p → PFok f0 idx p := by
  obtain ⟨hbl, hattrs, hfs⟩ := preprocess_ok_inv f0 r attrs cur c h
  obtain ⟨h1, h2⟩ := parseFilters_ok f0 _ _ hfs
  exact ⟨h1, hattrs, hbl, h2⟩

end NeoFS.Search
