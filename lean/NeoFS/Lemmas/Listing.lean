import NeoFS.Model.Meta
import NeoFS.Lemmas.MetaWF
/-!
Lemmas about cursor listing (`listScan`, `Cnr.listPage`, `dbListStep`, `dbList`): one page is the next `count`
listable addresses after the cursor and the returned cursor is a position such that what lies after it is
exactly what was not yet returned.
-/
namespace NeoFS.Meta

/-- address order: container first, then object id (the order of the bolt keys) -/
def addrLt (a b : Nat × Nat) : Bool := a.1 < b.1 || (a.1 == b.1 && a.2 < b.2)

theorem addrLt_iff (a b : Nat × Nat) : addrLt a b = true ↔ a.1 < b.1 ∨ (a.1 = b.1 ∧ a.2 < b.2) := by
  simp [addrLt]

theorem addrLt_trans {a b c : Nat × Nat} (h1 : addrLt a b = true) (h2 : addrLt b c = true) : addrLt a c = true := by
  rw [addrLt_iff] at *
  omega

theorem addrLt_irrefl (a : Nat × Nat) : addrLt a a = false := by
  unfold addrLt; simp

theorem addrLt_total {a b : Nat × Nat} (h1 : addrLt a b = false) (h2 : a ≠ b) : addrLt b a = true := by
  have h1' := Bool.eq_false_iff.mp h1
  have : a.1 ≠ b.1 ∨ a.2 ≠ b.2 := by
    by_cases h : a.1 = b.1
    · exact Or.inr fun h' => h2 (Prod.ext h h')
    · exact Or.inl h
  rw [Ne, addrLt_iff] at h1'
  rw [addrLt_iff]
  omega

theorem addrLt_of_le {k k' a : Nat × Nat} (h : k.1 < k'.1 ∨ (k.1 = k'.1 ∧ k.2 ≤ k'.2)) (ha : addrLt k' a = true) :
    addrLt k a = true := by
  rw [addrLt_iff] at ha ⊢
  omega

/-! ### the scan of one bucket -/

theorem listScan_step (P : Nat → Bool) (limit : Nat) (i : Nat) (rest : List Nat) (st : List Nat × Nat) :
    listScan P limit (i :: rest) st =
      listScan P limit rest
        (if st.1.length ≥ limit then st else if !P i then (st.1, i) else (st.1 ++ [i], i)) := rfl

theorem listScan_stop (P : Nat → Bool) (limit : Nat) : ∀ (ids : List Nat) (acc : List Nat) (last : Nat),
    limit ≤ acc.length → listScan P limit ids (acc, last) = (acc, last) := by
  intro ids
  induction ids with
  | nil => intro acc last _; rfl
  | cons i rest ih =>
    intro acc last h
    rw [listScan_step, if_pos h]
    exact ih acc last h

theorem listScan_cons (P : Nat → Bool) (limit : Nat) (i : Nat) (rest acc : List Nat) (last : Nat) :
    listScan P limit (i :: rest) (acc, last) =
      if limit ≤ acc.length then (acc, last)
      else if P i then listScan P limit rest (acc ++ [i], i) else listScan P limit rest (acc, i) := by
  rw [listScan_step]
  by_cases h : limit ≤ acc.length
  · rw [if_pos h, if_pos h]; exact listScan_stop P limit rest acc last h
  · rw [if_neg h, if_neg h]
    cases P i <;> rfl

/-- **One bucket scan.** For ascending candidate ids all greater than `last`: the page is the first
`limit - |acc|` ids satisfying `P`; the returned position `r.2` is ≥ `last`, and the candidates after it that
satisfy `P` are exactly the ones not returned. -/
theorem listScan_spec (P : Nat → Bool) (limit : Nat) : ∀ (ids acc : List Nat) (last : Nat),
    (last :: ids).Pairwise (· < ·) →
    (listScan P limit ids (acc, last)).1 = acc ++ (ids.filter P).take (limit - acc.length) ∧
    last ≤ (listScan P limit ids (acc, last)).2 ∧
    (ids.filter fun i => decide ((listScan P limit ids (acc, last)).2 < i) && P i) = (ids.filter P).drop (limit - acc.length) := by
  intro ids
  induction ids with
  | nil =>
    intro acc last _
    rw [List.filter_nil, List.take_nil, List.drop_nil, List.append_nil]
    exact ⟨rfl, Nat.le_refl _, rfl⟩
  | cons i rest ih =>
    intro acc last hs
    obtain ⟨hlast, hrest⟩ := List.pairwise_cons.mp hs
    rw [listScan_cons]
    by_cases hstop : limit ≤ acc.length
    · rw [if_pos hstop, Nat.sub_eq_zero_of_le hstop, List.take_zero, List.append_nil, List.drop_zero]
      refine ⟨rfl, Nat.le_refl _, List.filter_congr fun x hx => ?_⟩
      rw [decide_eq_true (hlast x hx), Bool.true_and]
    · rw [if_neg hstop]
      cases hp : P i with
      | true =>
        rw [if_pos rfl]
        obtain ⟨h1, h2, h3⟩ := ih (acc ++ [i]) i hrest
        have hk : limit - acc.length = (limit - (acc ++ [i]).length) + 1 := by
          rw [List.length_append, List.length_singleton]; omega
        refine ⟨?_, Nat.le_trans (Nat.le_of_lt (hlast i List.mem_cons_self)) h2, ?_⟩
        · rw [h1, hk, List.filter_cons_of_pos hp, List.take_succ_cons, List.append_assoc]; rfl
        · rw [List.filter_cons_of_neg (by rw [decide_eq_false (Nat.not_lt.mpr h2)]; exact Bool.false_ne_true),
            List.filter_cons_of_pos hp, hk, List.drop_succ_cons, h3]
      | false =>
        rw [if_neg Bool.false_ne_true]
        obtain ⟨h1, h2, h3⟩ := ih acc i hrest
        refine ⟨?_, Nat.le_trans (Nat.le_of_lt (hlast i List.mem_cons_self)) h2, ?_⟩
        · rw [h1, List.filter_cons_of_neg (by rw [hp]; exact Bool.false_ne_true)]
        · rw [List.filter_cons_of_neg (by rw [decide_eq_false (Nat.not_lt.mpr h2)]; exact Bool.false_ne_true),
            List.filter_cons_of_neg (by rw [hp]; exact Bool.false_ne_true), h3]

/-! ### one bucket -/

/-- whether listing shows the id: `inGarbage` reports it as available -/
def Cnr.showable (c : Cnr) (i : Nat) : Bool := c.inGarbage i == .available

/-- the ids of a bucket that listing shows after position `after`, ascending -/
def Cnr.listableFrom (c : Cnr) (after : Nat) : List Nat :=
  if c.gcMark then [] else (c.listCands after).filter c.showable

theorem listCands_sorted (c : Cnr) (h : c.WF) (after : Nat) : (after :: c.listCands after).Pairwise (· < ·) := by
  rw [List.pairwise_cons]
  constructor
  · intro x hx
    unfold Cnr.listCands at hx
    rw [List.mem_map] at hx
    obtain ⟨r, hr, rfl⟩ := hx
    rw [List.mem_filter] at hr
    simp at hr; exact hr.2.2
  · unfold Cnr.listCands
    rw [List.pairwise_map]
    exact List.Pairwise.filter _ h.recs

theorem listCands_after (c : Cnr) (after k : Nat) (hk : after ≤ k) :
    (c.listCands after).filter (fun i => decide (k < i)) = c.listCands k := by
  unfold Cnr.listCands
  rw [List.filter_map, List.filter_filter]
  congr 1
  apply List.filter_congr
  intro r _
  simp only [Function.comp]
  by_cases h1 : k < r.id
  · have : after < r.id := by omega
    simp [h1, this]
  · simp [h1]

theorem listPage_zero (c : Cnr) (after : Nat) : (c.listPage after 0 []).1 = [] := by
  unfold Cnr.listPage
  by_cases hg : c.gcMark = true
  · rw [if_pos hg]
  · rw [if_neg hg, listScan_stop _ 0 _ [] _ (Nat.zero_le _)]

/-- **One bucket page.** The returned position is the last id looked at, possibly a skipped one not in the page. -/
theorem listPage_spec (c : Cnr) (h : c.WF) (after limit : Nat) :
    (c.listPage after limit []).1 = (c.listableFrom after).take limit ∧
    after ≤ (c.listPage after limit []).2 ∧
    c.listableFrom (c.listPage after limit []).2 = (c.listableFrom after).drop limit := by
  unfold Cnr.listPage Cnr.listableFrom
  by_cases hg : c.gcMark
  · simp [hg]
  · simp only [hg, Bool.false_eq_true, if_false]
    rw [show (fun i => c.inGarbage i == Status.available) = c.showable from rfl]
    obtain ⟨h1, h2, h3⟩ := listScan_spec c.showable limit (c.listCands after) [] after (listCands_sorted c h after)
    refine ⟨by simpa using h1, h2, ?_⟩
    have h3' : (c.listCands after).filter (fun i => decide ((listScan c.showable limit (c.listCands after) ([], after)).2 < i) && c.showable i)
        = ((c.listCands after).filter c.showable).drop limit := by simpa using h3
    rw [← h3', ← listCands_after c after _ h2, List.filter_filter]
    apply List.filter_congr
    intro i _
    exact Bool.and_comm _ _

/-! ### the loop over buckets -/

/-- addresses one bucket contributes after position `after` -/
def bucketAddrs (b : Nat × Cnr) (after : Nat) : List (Nat × Nat) := (b.2.listableFrom after).map fun i => (b.1, i)

/-- what the loop over `bs` can still return when the cursor is `cur` -/
def afterAddrs (cur : Nat × Nat) (bs : List (Nat × Cnr)) : List (Nat × Nat) :=
  bs.flatMap fun b => bucketAddrs b (if b.1 != cur.1 then 0 else cur.2)

theorem foldl_dbListStep_stop (count : Nat) : ∀ (bs : List (Nat × Cnr)) (acc : List (Nat × Nat)) (cur : Nat × Nat),
    bs.foldl (dbListStep count) (acc, cur, true) = (acc, cur, true) := by
  intro bs
  induction bs with
  | nil => intro _ _; rfl
  | cons b bs ih => intro acc cur; simp only [List.foldl_cons]; unfold dbListStep; simp only [if_true]; exact ih acc cur

theorem fst_of_mem_bucketAddrs (b : Nat × Cnr) (after : Nat) (a : Nat × Nat) (h : a ∈ bucketAddrs b after) : a.1 = b.1 := by
  obtain ⟨i, _, rfl⟩ := List.mem_map.mp h
  rfl

theorem afterAddrs_of_lt (cur : Nat × Nat) (bs : List (Nat × Cnr)) (h : ∀ b ∈ bs, cur.1 < b.1) :
    afterAddrs cur bs = bs.flatMap fun b => bucketAddrs b 0 := by
  unfold afterAddrs
  rw [List.flatMap_def, List.flatMap_def, List.map_congr_left]
  intro b hb
  rw [if_pos (by simpa using Nat.ne_of_gt (h b hb))]

theorem filter_bucketAddrs (b : Nat × Cnr) (after : Nat) (k : Nat × Nat) (hk : k.1 = b.1) (hle : after ≤ k.2) :
    (bucketAddrs b after).filter (addrLt k) = bucketAddrs b k.2 := by
  unfold bucketAddrs Cnr.listableFrom
  by_cases hg : b.2.gcMark
  · simp [hg]
  · simp only [hg, Bool.false_eq_true, if_false]
    rw [List.filter_map, ← listCands_after b.2 after k.2 hle, List.filter_filter, List.filter_filter]
    congr 1
    apply List.filter_congr
    intro i _
    simp only [Function.comp, addrLt, hk]
    simp [Bool.and_comm]

theorem filter_bucketAddrs_none (b : Nat × Cnr) (after : Nat) (k : Nat × Nat) (hk : b.1 < k.1) :
    (bucketAddrs b after).filter (addrLt k) = [] := by
  rw [List.filter_eq_nil_iff]
  intro a ha
  rw [addrLt_iff, fst_of_mem_bucketAddrs b after a ha]
  omega

theorem filter_bucketAddrs_all (b : Nat × Cnr) (after : Nat) (k : Nat × Nat) (hk : k.1 < b.1) :
    (bucketAddrs b after).filter (addrLt k) = bucketAddrs b after := by
  rw [List.filter_eq_self]
  intro a ha
  rw [addrLt_iff, fst_of_mem_bucketAddrs b after a ha]
  exact Or.inl hk

theorem filter_afterAddrs_all (cur k : Nat × Nat) (bs : List (Nat × Cnr)) (h : ∀ b ∈ bs, k.1 < b.1) :
    (afterAddrs cur bs).filter (addrLt k) = afterAddrs cur bs := by
  rw [List.filter_eq_self]
  intro a ha
  obtain ⟨b, hb, ha⟩ := List.mem_flatMap.mp ha
  rw [addrLt_iff, fst_of_mem_bucketAddrs b _ a ha]
  exact Or.inl (h b hb)

theorem dbListStep_of_not_full (count : Nat) (acc : List (Nat × Nat)) (cur : Nat × Nat) (b : Nat × Cnr) :
    dbListStep count (acc, cur, false) b =
      (acc ++ (b.2.listPage (if b.1 != cur.1 then 0 else cur.2) (count - acc.length) []).1.map (fun i => (b.1, i)),
       (b.1, (b.2.listPage (if b.1 != cur.1 then 0 else cur.2) (count - acc.length) []).2),
       decide ((acc ++ (b.2.listPage (if b.1 != cur.1 then 0 else cur.2) (count - acc.length) []).1.map
         (fun i => (b.1, i))).length ≥ count)) :=
  rfl

/-- **The loop.** For buckets in strictly ascending container order, none below the cursor's container: the
result is the accumulated prefix plus the next `count - |acc|` addresses; the final cursor `k` is not before the
old one and what lies after `k` is exactly what was not returned. -/
theorem foldl_dbListStep_spec (count : Nat) : ∀ (bs : List (Nat × Cnr)) (acc : List (Nat × Nat)) (cur : Nat × Nat),
    bs.Pairwise (fun a b => a.1 < b.1) → (∀ b ∈ bs, cur.1 ≤ b.1) → (∀ b ∈ bs, b.2.WF) → acc.length < count →
    let r := bs.foldl (dbListStep count) (acc, cur, false)
    r.1 = acc ++ (afterAddrs cur bs).take (count - acc.length) ∧
    (∀ a, addrLt r.2.1 a = true → addrLt cur a = true) ∧
    (afterAddrs cur bs).filter (addrLt r.2.1) = (afterAddrs cur bs).drop (count - acc.length) := by
  intro bs
  induction bs with
  | nil =>
    intro acc cur _ _ _ _
    show acc = acc ++ List.take _ [] ∧ _ ∧ List.filter _ [] = List.drop _ []
    rw [List.take_nil, List.append_nil, List.drop_nil]
    exact ⟨rfl, fun a h => h, rfl⟩
  | cons b bs ih =>
    intro acc cur hs hge hwf hlen
    have hs' := List.pairwise_cons.mp hs
    have hcur_b : cur.1 ≤ b.1 := hge b List.mem_cons_self
    have hsplit : afterAddrs cur (b :: bs) =
        bucketAddrs b (if b.1 != cur.1 then 0 else cur.2) ++ afterAddrs cur bs := List.flatMap_cons
    dsimp only
    rw [List.foldl_cons, dbListStep_of_not_full, hsplit]
    generalize hafter : (if b.1 != cur.1 then 0 else cur.2) = after
    obtain ⟨p1, p2, p3⟩ := listPage_spec b.2 (hwf b List.mem_cons_self) after (count - acc.length)
    generalize b.2.listPage after (count - acc.length) [] = pg at p1 p2 p3
    have hpage : pg.1.map (fun i => (b.1, i)) = (bucketAddrs b after).take (count - acc.length) := by
      rw [p1]; exact List.map_take
    have hrest_b : (bucketAddrs b after).filter (addrLt (b.1, pg.2)) =
        (bucketAddrs b after).drop (count - acc.length) := by
      rw [filter_bucketAddrs b after (b.1, pg.2) rfl p2]
      unfold bucketAddrs
      rw [p3]; exact List.map_drop
    have hmono : ∀ a, addrLt (b.1, pg.2) a = true → addrLt cur a = true := by
      refine fun a => addrLt_of_le ?_
      by_cases hne : b.1 = cur.1
      · refine Or.inr ⟨hne.symm, ?_⟩
        rw [← hafter, if_neg (by simpa using hne)] at p2
        exact p2
      · exact Or.inl (Nat.lt_of_le_of_ne hcur_b (Ne.symm hne))
    rw [hpage]
    have hflag : (acc ++ (bucketAddrs b after).take (count - acc.length)).length ≥ count ↔
        count - acc.length ≤ (bucketAddrs b after).length := by
      rw [List.length_append, List.length_take]; omega
    by_cases hfull : count - acc.length ≤ (bucketAddrs b after).length
    · -- the page is full: the remaining buckets are not visited
      rw [decide_eq_true (hflag.mpr hfull), foldl_dbListStep_stop]
      refine ⟨?_, hmono, ?_⟩
      · rw [List.take_append_of_le_length hfull]
      · rw [List.filter_append, hrest_b, filter_afterAddrs_all cur (b.1, pg.2) bs hs'.1,
          List.drop_append_of_le_length hfull]
    · -- the whole bucket was taken, go on behind it
      have hB : (bucketAddrs b after).length ≤ count - acc.length := by omega
      rw [decide_eq_false (mt hflag.mp hfull), List.take_of_length_le hB]
      obtain ⟨q1, q2, q3⟩ := ih (acc ++ bucketAddrs b after) (b.1, pg.2) hs'.2
        (fun x hx => Nat.le_of_lt (hs'.1 x hx)) (fun x hx => hwf x (List.mem_cons_of_mem _ hx))
        (by rw [List.length_append]; omega)
      have hsame : afterAddrs (b.1, pg.2) bs = afterAddrs cur bs :=
        (afterAddrs_of_lt _ bs hs'.1).trans
          (afterAddrs_of_lt _ bs fun x hx => Nat.lt_of_le_of_lt hcur_b (hs'.1 x hx)).symm
      rw [hsame, List.length_append, Nat.sub_add_eq] at q1 q3
      refine ⟨?_, fun a ha => hmono a (q2 a ha), ?_⟩
      · rw [q1, List.take_append, List.take_of_length_le hB, List.append_assoc]
      · have hnil : (bucketAddrs b after).filter (addrLt (List.foldl (dbListStep count)
            (acc ++ bucketAddrs b after, (b.1, pg.2), false) bs).2.1) = [] := by
          rw [List.filter_eq_nil_iff]
          intro a ha hk
          have : a ∈ (bucketAddrs b after).filter (addrLt (b.1, pg.2)) := List.mem_filter.mpr ⟨ha, q2 a hk⟩
          rw [hrest_b, List.drop_of_length_le hB] at this
          cases this
        rw [List.filter_append, hnil, q3, List.drop_append, List.drop_of_length_le hB]

end NeoFS.Meta
