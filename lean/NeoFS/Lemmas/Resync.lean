import NeoFS.Model.Resync
import NeoFS.Lemmas.MetaWF
/-!
The metabase rebuild (`Model/Resync.lean`): `putChainNR` (no roll-back) against `Meta.putChain`; a rebuild without
an aborting error is the sequential fold of `putObj`; buckets of different containers do not interact.
-/
namespace NeoFS.Resync
open NeoFS.Meta

/-! ### `putChainNR` versus `putChain` -/

theorem putChainNR_cons (c : Cnr) (epoch level : Nat) (h : Hdr) (parents : List Hdr) :
    putChainNR c epoch level (h :: parents) =
      putHead c epoch h (fun e => (c, e)) fun e =>
        let r := parentStep c level parents (putChainNR c epoch (level + 1) parents)
        if r.2 != .ok then r
        else ((putSelf r.1 r.1 epoch level h (!parents.isEmpty) e).1,
          (putSelf r.1 r.1 epoch level h (!parents.isEmpty) e).2.2) := by
  cases parents with
  | nil => rw [putChainNR.eq_3]; rfl
  | cons p rest => rw [putChainNR.eq_2]; rfl

/-- the same error, and the same bucket when the put succeeds -/
def Agree (x : Cnr × Err) (y : Cnr × Diff × Err) : Prop := x.2 = y.2.2 ∧ (y.2.2 = .ok → x.1 = y.1)

theorem agree_self (c : Cnr) (e : Err) : Agree (c, e) (c, {}, e) := ⟨rfl, fun _ => rfl⟩

/-- the bucket `putSelf` restores on failure shows only when it fails -/
theorem putSelf_agree {c0 c0' c1 : Cnr} {epoch level : Nat} {h : Hdr} {b : Bool} {e : Err} :
    Agree ((putSelf c0 c1 epoch level h b e).1, (putSelf c0 c1 epoch level h b e).2.2)
      (putSelf c0' c1 epoch level h b e) := by
  have hs := putKind_isSome c1 epoch level h b e
  unfold putSelf
  generalize putKind c1 epoch level h b e = r at hs
  obtain ⟨_ | ⟨c2, d⟩, err⟩ := r
  · exact ⟨rfl, fun hok => by rw [show err = .ok from hok] at hs; cases hs⟩
  · exact ⟨rfl, fun _ => rfl⟩

theorem putChainNR_spec (epoch : Nat) : ∀ (chain : List Hdr) (c : Cnr) (level : Nat),
    (putChainNR c epoch level chain).2 = (putChain c epoch level chain).2.2 ∧
    ((putChain c epoch level chain).2.2 = .ok →
      (putChainNR c epoch level chain).1 = (putChain c epoch level chain).1)
  | [], c, _ => agree_self c .other
  | h :: parents, c, level => by
    rw [putChainNR_cons, putChain_cons]
    refine putHead_rel Agree c epoch h (agree_self c) fun e => ?_
    -- the parent steps agree by recursion; where they fail, both puts stop with that error
    have hpar := parentStep_rel (fun x y => x.2 = y.2 ∧ (y.2 = .ok → x.1 = y.1)) c level parents
      (r' := ((putChain c epoch (level + 1) parents).1, (putChain c epoch (level + 1) parents).2.2))
      (putChainNR_spec epoch parents c (level + 1)) fun _ => ⟨rfl, fun _ => rfl⟩
    dsimp only
    generalize parentStep c level parents (putChainNR c epoch (level + 1) parents) = r at hpar
    generalize parentStep c level parents _ = r' at hpar
    obtain ⟨h1, h2⟩ := hpar
    by_cases hok : r'.2 = .ok
    · rw [h1, hok, h2 hok]
      exact putSelf_agree
    · have hne : (r'.2 != .ok) = true := by simpa using hok
      rw [h1, if_pos hne, if_pos hne]
      exact ⟨h1, fun h => absurd h hok⟩

/-! ### batches and the whole rebuild as a sequential run -/

/-- the objects one after another; `none` as soon as an error arises that `PutBatch` does not skip -/
def runSeq (epoch : Nat) : DB → List Obj → Option DB
  | db, [] => some db
  | db, o :: rest =>
    let r := putObj db epoch o
    if r.2 == .ok || skippable r.2 then runSeq epoch r.1 rest else none

theorem putBatchGo_of_runSeq (epoch : Nat) (db0 : DB) : ∀ (objs : List Obj) (cur d : DB),
    runSeq epoch cur objs = some d → putBatchGo db0 epoch cur objs = (d, .ok) := by
  intro objs
  induction objs with
  | nil => intro cur d h; simp [runSeq] at h; simp [putBatchGo, h]
  | cons o rest ih =>
    intro cur d h
    unfold runSeq at h
    unfold putBatchGo
    simp only at h ⊢
    split
    · rename_i hc
      rw [if_pos hc] at h
      exact ih _ _ h
    · rename_i hc
      rw [if_neg hc] at h
      cases h

theorem runSeq_append (epoch : Nat) : ∀ (a b : List Obj) (db : DB),
    runSeq epoch db (a ++ b) = (runSeq epoch db a).bind fun d => runSeq epoch d b := by
  intro a
  induction a with
  | nil => intro b db; simp [runSeq]
  | cons o rest ih =>
    intro b db
    simp only [List.cons_append, runSeq]
    split
    · exact ih b _
    · rfl

theorem runSeq_fold (epoch : Nat) : ∀ (objs : List Obj) (db d : DB),
    runSeq epoch db objs = some d → d = objs.foldl (fun db o => (putObj db epoch o).1) db := by
  intro objs
  induction objs with
  | nil => intro db d h; simp [runSeq] at h; simp [h]
  | cons o rest ih =>
    intro db d h
    unfold runSeq at h
    simp only at h
    split at h
    · simpa using ih _ _ h
    · cases h

theorem flushAll_of_runSeq (bs epoch : Nat) (hbs : 1 ≤ bs) : ∀ (fuel : Nat) (objs : List Obj) (db d : DB),
    objs.length ≤ fuel → runSeq epoch db objs = some d → flushAll bs epoch fuel db objs = (d, .ok) := by
  intro fuel
  induction fuel with
  | zero =>
    intro objs db d hl h
    cases objs with
    | nil => cases h; rfl
    | cons _ _ => cases hl
  | succ n ih =>
    intro objs db d hl h
    cases objs with
    | nil => cases h; rfl
    | cons o os =>
      rw [← List.take_append_drop bs (o :: os), runSeq_append] at h
      cases h1 : runSeq epoch db ((o :: os).take bs) with
      | none => rw [h1] at h; cases h
      | some d1 =>
        rw [h1] at h
        have hb : putBatch db epoch ((o :: os).take bs) = (d1, .ok) := putBatchGo_of_runSeq epoch db _ _ _ h1
        have hlen : ((o :: os).drop bs).length ≤ n := by
          rw [List.length_drop]
          omega
        unfold flushAll
        rw [hb]
        exact ih _ _ _ hlen h

/-- **No aborting error ⇒ batch boundaries do not matter**: the rebuild equals the sequential fold. -/
theorem resyncB_of_runSeq (bs epoch : Nat) (hbs : 1 ≤ bs) (order : List Obj) (d : DB)
    (h : runSeq epoch [] order = some d) :
    resyncB bs epoch order = (d, .ok) ∧ d = resyncFold epoch order :=
  ⟨flushAll_of_runSeq bs epoch hbs _ _ _ _ (Nat.le_refl _) h, runSeq_fold epoch _ _ _ h⟩

/-! ### incremental construction -/

/-- the objects a history of `DB.Put`s at one epoch accepts (what ends up stored), in history order -/
def acceptedBy (epoch : Nat) : DB → List Obj → List Obj
  | _, [] => []
  | db, o :: rest =>
    let r := dbPut db epoch o.1 o.2
    if r.2 == .ok then o :: acceptedBy epoch r.1 rest else acceptedBy epoch r.1 rest

/-- the state after the history of puts -/
def incremental (epoch : Nat) (db : DB) (objs : List Obj) : DB :=
  objs.foldl (fun db o => (dbPut db epoch o.1 o.2).1) db

theorem putObj_of_dbPut_ok (db : DB) (epoch : Nat) (o : Obj) (h : (dbPut db epoch o.1 o.2).2 = .ok) :
    putObj db epoch o = ((dbPut db epoch o.1 o.2).1, .ok) := by
  obtain ⟨h1, h2⟩ := putChainNR_spec epoch o.2 ((getCnr? db o.1).getD {}) 0
  rw [dbPut_eq] at h ⊢
  unfold putObj
  dsimp only
  by_cases hok : (putChain ((getCnr? db o.1).getD {}) epoch 0 o.2).2.2 = .ok
  · rw [h1, hok, h2 hok]; rfl
  · rw [if_neg (by simpa using hok)] at h
    exact absurd h hok

theorem runSeq_acceptedBy (epoch : Nat) : ∀ (objs : List Obj) (db : DB),
    runSeq epoch db (acceptedBy epoch db objs) = some (incremental epoch db objs) := by
  intro objs
  induction objs with
  | nil => intro db; rfl
  | cons o rest ih =>
    intro db
    unfold acceptedBy incremental
    rw [List.foldl_cons]
    dsimp only
    by_cases hok : (dbPut db epoch o.1 o.2).2 = .ok
    · rw [if_pos (by simpa using hok)]
      unfold runSeq
      rw [putObj_of_dbPut_ok db epoch o hok]
      exact ih _
    · rw [if_neg (by simpa using hok), dbPut_refused db epoch o.1 o.2 hok]
      exact ih _

/-! ### buckets of different containers do not interact -/

/-- what one object does to the bucket of its container -/
def stepC (epoch : Nat) (c : Cnr) (chain : List Hdr) : Cnr :=
  let r := putChainNR c epoch 0 chain
  if r.2 == .ok || skippable r.2 then r.1 else c

/-- the header chains of the objects of container `cn`, in order -/
def chainsOf (objs : List Obj) (cn : Nat) : List (List Hdr) := (objs.filter (·.1 == cn)).map (·.2)

theorem bucket_putObj (db : DB) (epoch : Nat) (o : Obj) (cn : Nat) :
    (getCnr? (putObj db epoch o).1 cn).getD {} =
      if o.1 = cn then stepC epoch ((getCnr? db cn).getD {}) o.2 else (getCnr? db cn).getD {} := by
  unfold putObj stepC
  dsimp only
  by_cases hc : o.1 = cn
  · subst hc
    rw [if_pos rfl]
    generalize putChainNR ((getCnr? db o.1).getD {}) epoch 0 o.2 = r
    by_cases hk : (r.2 == .ok || skippable r.2) = true
    · rw [if_pos hk, if_pos hk, getCnr_setCnr, if_pos rfl]; rfl
    · rw [if_neg hk, if_neg hk]
  · rw [if_neg hc]
    generalize putChainNR ((getCnr? db o.1).getD {}) epoch 0 o.2 = r
    by_cases hk : (r.2 == .ok || skippable r.2) = true
    · rw [if_pos hk, getCnr_setCnr, if_neg hc]
    · rw [if_neg hk]

theorem bucket_of_fold (epoch cn : Nat) : ∀ (objs : List Obj) (db : DB),
    (getCnr? (objs.foldl (fun db o => (putObj db epoch o).1) db) cn).getD {} =
      (chainsOf objs cn).foldl (stepC epoch) ((getCnr? db cn).getD {}) := by
  intro objs
  induction objs with
  | nil => intro db; rfl
  | cons o rest ih =>
    intro db
    rw [List.foldl_cons, ih, bucket_putObj]
    unfold chainsOf
    by_cases hc : o.1 = cn
    · rw [if_pos hc, List.filter_cons_of_pos (by simpa using hc)]; rfl
    · rw [if_neg hc, List.filter_cons_of_neg (by simpa using hc)]

/-! ### database-level statements used by `Props/C18.lean`

An absent bucket answers like an empty one. -/

theorem dbExists_bucket (db : DB) (cn id epoch : Nat) :
    dbExists db cn id epoch = ((getCnr? db cn).getD {}).exists_ id epoch true := by
  unfold dbExists; cases getCnr? db cn <;> rfl

theorem known_bucket (db : DB) (cn id : Nat) :
    known db cn id = ((((getCnr? db cn).getD {}).find? id).isSome || ((getCnr? db cn).getD {}).garb.any (·.1 == id)) := by
  unfold known; cases getCnr? db cn <;> rfl

theorem hasGarbageKey_bucket (db : DB) (cn id : Nat) :
    hasGarbageKey db cn id = ((getCnr? db cn).getD {}).garb.any (·.1 == id) := by
  unfold hasGarbageKey; cases getCnr? db cn <;> rfl

/-- `view` as a function of the bucket -/
def viewC (c : Cnr) (id epoch : Nat) : (Bool × Err) × Bool :=
  (c.exists_ id epoch true, if c.gcMark then false else c.objectLocked epoch id)

theorem view_eq_viewC (db : DB) (cn id epoch : Nat) :
    view db cn id epoch = viewC ((getCnr? db cn).getD {}) id epoch := by
  unfold view viewC dbIsLocked
  rw [dbExists_bucket]
  cases getCnr? db cn <;> rfl

/-- no put of the rebuild aborts (decidable: run the model) -/
def noAbort (epoch : Nat) (objs : List Obj) : Bool := (runSeq epoch [] objs).isSome

end NeoFS.Resync
