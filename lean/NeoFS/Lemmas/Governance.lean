import NeoFS.Model.Governance
import Mathlib.Data.List.Nodup
import Mathlib.Data.List.Perm.Subperm
/-! Closed forms of the two loops of `newAlphabetList`; the per-key step of `updateInnerRing`. -/
namespace NeoFS.Gov

theorem insertKey_perm (x : Nat) (l : List Nat) : (insertKey x l).Perm (x :: l) := by
  induction l with
  | nil => exact .refl _
  | cons y ys ih =>
    show (if x ≤ y then x :: y :: ys else y :: insertKey x ys).Perm (x :: y :: ys)
    split
    · exact .refl _
    · exact (ih.cons y).trans (.swap x y ys)

theorem sortKeys_perm (l : List Nat) : (sortKeys l).Perm l := by
  induction l with
  | nil => exact .refl _
  | cons x xs ih =>
    show (insertKey x (sortKeys xs)).Perm (x :: xs)
    exact (insertKey_perm x _).trans (ih.cons x)

/-- a key that is not a current alphabet member -/
def isNew (cur : List Nat) (y : Nat) : Bool := decide (y ∉ cur)

@[simp] theorem isNew_iff (cur : List Nat) (y : Nat) : isNew cur y = true ↔ y ∉ cur := by simp [isNew]

-- by `rfl`: `rw [scan]` first derives all equation lemmas of `scan`, which is slow
theorem scan_cons (ln limit : Nat) (cur : List Nat) (x : Nat) (xs res seen : List Nat) (k : Nat) :
    scan ln limit cur (x :: xs) res seen k =
      if res.length = ln then (res, seen, k)
      else if x ∈ cur then scan ln limit cur xs (res ++ [x]) (x :: seen) k
      else if k = limit then scan ln limit cur xs res seen k
      else scan ln limit cur xs (res ++ [x]) seen (k + 1) := rfl

/-- the first loop appends a sublist `t` of its input; `seen` and `k` record the members and non-members of `t` -/
theorem scan_spec (ln limit : Nat) (cur : List Nat) :
    ∀ (xs res seen : List Nat) (k : Nat), ∃ t, t.Sublist xs ∧
      scan ln limit cur xs res seen k =
        (res ++ t, (t.filter (fun y => decide (y ∈ cur))).reverse ++ seen, k + t.countP (isNew cur)) ∧
      (res.length ≤ ln → (res ++ t).length ≤ ln) ∧ (k ≤ limit → k + t.countP (isNew cur) ≤ limit) := by
  intro xs
  induction xs with
  | nil =>
    intro res seen k
    exact ⟨[], .slnil, by rw [List.append_nil]; rfl, by rw [List.append_nil]; exact id, id⟩
  | cons x xs ih =>
    intro res seen k
    have e : ∀ t, res ++ [x] ++ t = res ++ x :: t := fun t => by rw [List.append_assoc, List.singleton_append]
    by_cases hfull : res.length = ln
    · rw [scan_cons, if_pos hfull]
      exact ⟨[], List.nil_sublist _, by rw [List.append_nil]; rfl, by rw [List.append_nil]; exact id, id⟩
    by_cases hmem : x ∈ cur
    · rw [scan_cons, if_neg hfull, if_pos hmem]
      obtain ⟨t, hs, he, hl, hk⟩ := ih (res ++ [x]) (x :: seen) k
      have hx : ¬ isNew cur x = true := by simpa [isNew] using hmem
      rw [e, List.length_append, List.length_singleton] at hl
      refine ⟨x :: t, hs.cons_cons x, ?_, fun h => hl (Nat.lt_of_le_of_ne h hfull), ?_⟩
      · rw [he, e, List.filter_cons_of_pos (by simpa using hmem), List.reverse_cons, List.append_assoc,
          List.singleton_append, List.countP_cons_of_neg hx]
      · rwa [List.countP_cons_of_neg hx]
    have hx : isNew cur x = true := by simpa [isNew] using hmem
    by_cases hlim : k = limit
    · rw [scan_cons, if_neg hfull, if_neg hmem, if_pos hlim]
      obtain ⟨t, hs, he, hl, hk⟩ := ih res seen k
      exact ⟨t, hs.cons x, hlim ▸ he, hl, hk⟩
    · rw [scan_cons, if_neg hfull, if_neg hmem, if_neg hlim]
      obtain ⟨t, hs, he, hl, hk⟩ := ih (res ++ [x]) seen (k + 1)
      rw [e, List.length_append, List.length_singleton] at hl
      rw [Nat.add_right_comm] at hk
      refine ⟨x :: t, hs.cons_cons x, ?_, fun h => hl (Nat.lt_of_le_of_ne h hfull), ?_⟩
      · rw [he, e, List.filter_cons_of_neg (by simpa using hmem), List.countP_cons_of_pos hx,
          Nat.add_right_comm, Nat.add_assoc]
      · rw [List.countP_cons_of_pos hx]
        exact fun h => hk (Nat.lt_of_le_of_ne h hlim)

theorem topUp_cons (ln : Nat) (seen : List Nat) (x : Nat) (xs res : List Nat) :
    topUp ln seen (x :: xs) res =
      if res.length = ln then res
      else if x ∉ seen then topUp ln seen xs (res ++ [x])
      else topUp ln seen xs res := rfl

theorem topUp_eq (ln : Nat) (seen : List Nat) : ∀ (xs res : List Nat), res.length ≤ ln →
    topUp ln seen xs res = res ++ (xs.filter (fun y => decide (y ∉ seen))).take (ln - res.length) := by
  intro xs
  induction xs with
  | nil => intro res _; rw [List.filter_nil, List.take_nil, List.append_nil]; rfl
  | cons x xs ih =>
    intro res h
    by_cases hfull : res.length = ln
    · rw [topUp_cons, if_pos hfull, hfull, Nat.sub_self, List.take_zero, List.append_nil]
    have hlt : res.length < ln := Nat.lt_of_le_of_ne h hfull
    by_cases hx : x ∉ seen
    · rw [topUp_cons, if_neg hfull, if_pos hx, ih _ (by rwa [List.length_append, List.length_singleton]),
        List.length_append, List.length_singleton, List.filter_cons_of_pos (by simpa using hx), List.append_assoc,
        List.singleton_append, ← Nat.sub_sub, ← List.take_succ_cons, Nat.sub_add_cancel (Nat.le_sub_of_add_le' hlt)]
    · rw [topUp_cons, if_neg hfull, if_neg hx, ih _ h, List.filter_cons_of_neg (by simpa using hx)]

theorem length_sub_le_length_filter_not_mem (l m : List Nat) (hl : l.Nodup) :
    l.length - m.length ≤ (l.filter (fun y => decide (y ∉ m))).length := by
  have hin : (l.filter (fun y => decide (y ∈ m))).length ≤ m.length :=
    (List.subperm_of_subset (hl.filter _) (fun y hy => of_decide_eq_true (List.mem_filter.mp hy).2)).length_le
  have hsplit := List.length_eq_countP_add_countP (fun y => decide (y ∈ m)) (l := l)
  simp only [List.countP_eq_length_filter, decide_not, Bool.decide_eq_true] at hsplit ⊢
  omega

theorem fill_spec (cur t : List Nat) (hc : cur.Nodup) (ht : t.Nodup) (hlen : t.length ≤ cur.length)
    {F : List Nat} (hF : F = t ++ (cur.filter (fun y => decide (y ∉ t))).take (cur.length - t.length)) :
    F.length = cur.length ∧ F.Nodup ∧ (∀ x ∈ F, x ∈ t ∨ x ∈ cur) ∧
      F.countP (isNew cur) = t.countP (isNew cur) := by
  subst hF
  have hadd : ∀ x ∈ (cur.filter (fun y => decide (y ∉ t))).take (cur.length - t.length), x ∈ cur ∧ x ∉ t :=
    fun x hx => by simpa using List.mem_filter.mp (List.mem_of_mem_take hx)
  refine ⟨?_, ?_, ?_, ?_⟩
  · have := length_sub_le_length_filter_not_mem cur t hc
    rw [List.length_append, List.length_take]
    omega
  · exact List.Nodup.append ht ((hc.filter _).sublist (List.take_sublist _ _))
      (fun x hx hx' => (hadd x hx').2 hx)
  · intro x hx
    exact (List.mem_append.mp hx).imp_right fun h => (hadd x h).1
  · rw [List.countP_append, Nat.add_eq_left, List.countP_eq_zero]
    exact fun x hx => by simpa using (hadd x hx).1

theorem proposal_spec (limit : Nat) (cur mn : List Nat) (hc : cur.Nodup) (hm : mn.Nodup)
    {res seen F : List Nat} {k : Nat} (h : scan cur.length limit cur mn [] [] 0 = (res, seen, k))
    (hF : F = topUp cur.length seen cur res) :
    F.length = cur.length ∧ F.Nodup ∧ (∀ x ∈ F, x ∈ cur ∨ x ∈ mn) ∧ F.countP (isNew cur) = k ∧ k ≤ limit := by
  obtain ⟨t, hs, he, hl, hk⟩ := scan_spec cur.length limit cur mn [] [] 0
  rw [h, List.nil_append, List.append_nil, Nat.zero_add, Prod.mk.injEq, Prod.mk.injEq] at he
  rw [Nat.zero_add] at hk
  obtain ⟨rfl, rfl, rfl⟩ := he
  have hlen : res.length ≤ cur.length := hl (Nat.zero_le _)
  have hfil : cur.filter (fun y => decide (y ∉ (res.filter (fun y => decide (y ∈ cur))).reverse)) =
      cur.filter (fun y => decide (y ∉ res)) :=
    List.filter_congr fun y hy => by simp [hy]
  obtain ⟨f1, f2, f3, f4⟩ := fill_spec cur res hc (hm.sublist hs) hlen
    (hF.trans (hfil ▸ topUp_eq _ _ _ _ hlen))
  exact ⟨f1, f2, fun x hx => (f3 x hx).elim (fun h => Or.inr (hs.subset h)) Or.inl, f4, hk (Nat.zero_le _)⟩

theorem indexOf?_eq_findIdx? (x : Nat) (l : List Nat) :
    indexOf? x l = l.findIdx? (fun y => decide (x = y)) := by
  induction l with
  | nil => rfl
  | cons y ys ih =>
    rw [List.findIdx?_cons, ← ih]
    by_cases e : x = y
    · rw [decide_eq_true e]; exact if_pos e
    · rw [decide_eq_false e]; exact if_neg e

theorem indexOf?_getElem {x : Nat} {l : List Nat} {j : Nat} (h : indexOf? x l = some j) : l[j]? = some x := by
  rw [indexOf?_eq_findIdx?, List.findIdx?_eq_some_iff_getElem] at h
  obtain ⟨hj, hx, -⟩ := h
  rw [List.getElem?_eq_getElem hj, of_decide_eq_true hx]

theorem indexOf?_none {x : Nat} {l : List Nat} : indexOf? x l = none ↔ x ∉ l := by
  rw [indexOf?_eq_findIdx?, List.findIdx?_eq_none_iff]
  exact ⟨fun h hx => of_decide_eq_false (h x hx) rfl, fun h y hy => decide_eq_false fun e => h (e ▸ hy)⟩

theorem indexOf?_of_getElem {x : Nat} {l : List Nat} {j : Nat} (hn : l.Nodup) (h : l[j]? = some x) :
    indexOf? x l = some j := by
  obtain ⟨hj, rfl⟩ := List.getElem?_eq_some_iff.mp h
  rw [indexOf?_eq_findIdx?, List.findIdx?_eq_some_iff_getElem]
  refine ⟨hj, decide_eq_true rfl, fun k hk hp => ?_⟩
  exact Nat.ne_of_lt hk ((List.Nodup.getElem_inj_iff hn).mp (of_decide_eq_true hp).symm)

theorem ringStep_eq_some_iff (before after : List Nat) (r x : Nat) :
    ringStep before after r = some x ↔
      (∃ j, indexOf? r before = some j ∧ after[j]? = some x) ∨ (r ∉ before ∧ r ∉ after ∧ x = r) := by
  unfold ringStep
  cases h : indexOf? r before with
  | some j =>
    have : r ∈ before := List.mem_of_getElem? (indexOf?_getElem h)
    simp [this]
  | none =>
    have : r ∉ before := indexOf?_none.mp h
    simp [this, eq_comm]

theorem ringStep_some_inj {before after : List Nat} (ha : after.Nodup) {a a' b : Nat}
    (h : ringStep before after a = some b) (h' : ringStep before after a' = some b) : a = a' := by
  rw [ringStep_eq_some_iff] at h h'
  rcases h with ⟨j, hj, hb⟩ | ⟨_, hna, rfl⟩
  · rcases h' with ⟨j', hj', hb'⟩ | ⟨_, hna', rfl⟩
    · obtain ⟨p, e⟩ := List.getElem?_eq_some_iff.mp hb
      obtain ⟨p', e'⟩ := List.getElem?_eq_some_iff.mp hb'
      obtain rfl : j = j' := (List.Nodup.getElem_inj_iff ha).mp (e.trans e'.symm)
      exact Option.some.inj ((indexOf?_getElem hj).symm.trans (indexOf?_getElem hj'))
    · exact absurd (List.mem_of_getElem? hb) hna'
  · rcases h' with ⟨j', _, hb'⟩ | ⟨_, _, rfl⟩
    · exact absurd (List.mem_of_getElem? hb') hna
    · rfl

end NeoFS.Gov
