/-!
A check written as a chain of early returns answers `ok` iff no guard fires: one rewrite per guard, not 2^n cases.
Core Lean only. Where the answer is read through a function, push it inside first (`apply_ite`).
-/
namespace NeoFS

theorem ite_eq_iff_of_ne {α : Type} {p : Prop} [Decidable p] {e r ok : α} (he : e ≠ ok) :
    (if p then e else r) = ok ↔ ¬p ∧ r = ok := by
  by_cases hp : p <;> simp [hp, he]

theorem ite_not_eq_iff_of_ne {α : Type} {b : Bool} {e r ok : α} (he : e ≠ ok) :
    (if !b then e else r) = ok ↔ b = true ∧ r = ok := by
  cases b <;> simp [he]

theorem ite_ne_of_ne {α : Type} {p : Prop} [Decidable p] {a b x : α} (ha : a ≠ x) (hb : b ≠ x) :
    (if p then a else b) ≠ x := by
  by_cases hp : p
  · rwa [if_pos hp]
  · rwa [if_neg hp]

/-- Elimination rule for one guard: what holds of the early answer and, when the guard does not fire, of the rest. -/
theorem ite_rule {α : Type} {P : α → Prop} {p : Prop} [Decidable p] {a b : α} (ha : P a) (hb : ¬p → P b) :
    P (if p then a else b) := by
  by_cases hp : p
  · rw [if_pos hp]; exact ha
  · rw [if_neg hp]; exact hb hp

end NeoFS
