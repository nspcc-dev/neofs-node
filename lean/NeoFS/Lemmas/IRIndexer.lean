import NeoFS.Model.IRIndexer
/-! Model/IRAuth.lean, Model/IRIndexer.lean: `keyPosition` as `List.findIdx?`; the outcomes of one `update()`. -/
namespace NeoFS.IRAuth

-- by `rfl`: `rw [keyPosition]` first derives all its equation lemmas, which is slow
theorem keyPosition_cons (key k : Nat) (ks : List Nat) :
    keyPosition key (k :: ks) =
      if k = key then 0 else if keyPosition key ks < 0 then -1 else keyPosition key ks + 1 := rfl

theorem keyPosition_eq_findIdx? (key : Nat) (l : List Nat) :
    keyPosition key l = match l.findIdx? (fun k => decide (k = key)) with
      | some i => (i : Int)
      | none => -1 := by
  induction l with
  | nil => rfl
  | cons k ks ih =>
    rw [keyPosition_cons, List.findIdx?_cons, ih]
    by_cases hk : k = key
    · rw [if_pos hk, decide_eq_true hk]; rfl
    · rw [if_neg hk, decide_eq_false hk]
      cases ks.findIdx? (fun k => decide (k = key)) with
      | none => rfl
      | some i => exact if_neg (Int.not_lt.mpr (Int.natCast_nonneg i))

theorem keyPosition_spec (key : Nat) (l : List Nat) :
    (keyPosition key l = -1 ∧ key ∉ l) ∨ ∃ i : Nat, keyPosition key l = i ∧ l[i]? = some key := by
  rw [keyPosition_eq_findIdx?]
  cases h : l.findIdx? (fun k => decide (k = key)) with
  | none =>
    exact .inl ⟨rfl, fun hm => of_decide_eq_false (List.findIdx?_eq_none_iff.mp h key hm) rfl⟩
  | some i =>
    obtain ⟨hi, hk, -⟩ := List.findIdx?_eq_some_iff_getElem.mp h
    exact .inr ⟨i, rfl, (List.getElem?_eq_getElem hi).trans (congrArg some (of_decide_eq_true hk))⟩
end NeoFS.IRAuth

namespace NeoFS.IRIndexer
open NeoFS.IRAuth

theorem update_fresh (key : Nat) {s : St} (h : fresh s = true) : update key s = (s, { ind := some s.ind }) := by
  rw [update, if_pos h]

theorem update_stale (key : Nat) {s : St} (hf : fresh s = false) :
    ((update key s).2.ind = none ∧ (update key s).2.rpcIR = 1 ∧ (update key s).1.dirty = true ∧
      fresh (update key s).1 = false) ∨
    (s.failIR = 0 ∧ s.failComm = 0 ∧
      update key s = ({ s with ind := indOf key s.irList s.commList, last := some s.now,
                               good := some ⟨s.irList, s.commList, s.now⟩, dirty := false },
                      { ind := some (indOf key s.irList s.commList), rpcIR := 1, rpcComm := 1 })) := by
  rw [update, if_neg (hf ▸ Bool.false_ne_true)]
  by_cases h1 : s.failIR > 0
  · rw [if_pos h1]; exact .inl ⟨rfl, rfl, rfl, hf⟩
  by_cases h2 : s.failComm > 0
  · rw [if_neg h1, if_pos h2]; exact .inl ⟨rfl, rfl, rfl, hf⟩
  · rw [if_neg h1, if_neg h2]; exact .inr ⟨Nat.eq_zero_of_not_pos h1, Nat.eq_zero_of_not_pos h2, rfl⟩

theorem fresh_of_fresh_later (s : St) (d : Nat) (h : fresh { s with now := s.now + d } = true) : fresh s = true := by
  unfold fresh at h ⊢
  cases hl : s.last with
  | none => rw [hl] at h; exact h
  | some t =>
    simp only [hl, decide_eq_true_eq] at h ⊢
    exact Nat.lt_of_le_of_lt (Nat.sub_le_sub_right (Nat.le_add_right _ _) _) h

end NeoFS.IRIndexer
