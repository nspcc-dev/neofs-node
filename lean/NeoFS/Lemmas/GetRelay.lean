import NeoFS.Model.GetRelay
/-!
Two invariants of the GET relay (`Model/GetRelay.lean`), `Inv` and `onlyHdr`, carried through `conn` and `run`.
-/
namespace NeoFS.C29
open NeoFS GetRelay

theorem checked_append (ch : Bool) (t u : List Ev) : checked ch (t ++ u) = (checked ch t || u.any Ev.isGoodCheck) := by
  simp [checked, Bool.or_assoc]

theorem checked_cons (ch : Bool) (e : Ev) (t : List Ev) : checked ch (e :: t) = checked (ch || e.isGoodCheck) t := by
  simp [checked, Bool.or_assoc]

theorem okFrom_append (ch : Bool) (t u : List Ev) : okFrom ch (t ++ u) = (okFrom ch t && okFrom (checked ch t) u) := by
  induction t generalizing ch with
  | nil => simp [okFrom, checked]
  | cons x r ih => cases x <;> simp [okFrom, ih, checked_cons, Ev.isGoodCheck, Bool.and_assoc]

/-- Invariant of the relay while the re-check is required: everything sent so far came after a good evaluation,
and once `onceHdr` has fired (without a denial) a good evaluation is in the trace. -/
def Inv (s : St) : Prop := okFrom false s.trace = true ∧ (s.onceDone = true → checked false s.trace = true)

theorem onInit_inv (c : Cfg) (hr : c.recheck = true) (s : St) (hi : Inv s) :
    okFrom false (onInit c s).1.trace = true ∧ ((onInit c s).2 = true → Inv (onInit c s).1 ∧ (onInit c s).1.onceDone = true) := by
  obtain ⟨h1, h2⟩ := hi
  unfold onInit
  cases ho : s.onceDone
  · rw [hr]
    cases c.suppressInit <;> cases c.hdr <;>
      simp [Inv, okFrom_append, okFrom, checked, Ev.isGoodCheck, h1]
  · exact ⟨h1, fun _ => ⟨⟨h1, h2⟩, ho⟩⟩

theorem onChunk_inv (s : St) (read n : Nat) (hi : Inv s) (ho : s.onceDone = true) :
    Inv (onChunk s read n) ∧ (onChunk s read n).onceDone = true := by
  obtain ⟨h1, h2⟩ := hi
  unfold onChunk
  simp only
  split
  · exact ⟨⟨h1, h2⟩, ho⟩
  · refine ⟨⟨?_, fun _ => ?_⟩, ho⟩
    · simp [okFrom_append, okFrom, h1, h2 ho]
    · simp [checked_append, h2 ho]

theorem conn_inv (c : Cfg) (hr : c.recheck = true) (msgs : List Msg) (s : St) (hw : Bool) (read : Nat)
    (hi : Inv s) (hhw : hw = true → s.onceDone = true) :
    okFrom false (conn c s hw read msgs).1.trace = true ∧
      ((conn c s hw read msgs).2 ≠ some .denied → Inv (conn c s hw read msgs).1) := by
  -- 5, 6: heading part that `onInit` lets pass / denies; 8: chunk after it; the others leave the state as it is
  fun_induction conn c s hw read msgs with
  | case5 s _ _ _ _ s' hoi ih =>
    have := (onInit_inv c hr s hi).2
    rw [hoi] at this
    obtain ⟨hi', ho'⟩ := this rfl
    exact ih hi' (fun _ => ho')
  | case6 s _ _ _ _ s' hoi =>
    have := (onInit_inv c hr s hi).1
    rw [hoi] at this
    exact ⟨this, fun hne => absurd rfl hne⟩
  | case8 s hw read n _ hw' ih =>
    obtain ⟨hi', ho'⟩ := onChunk_inv s read n hi (hhw (by simpa using hw'))
    exact ih hi' (fun _ => ho')
  | _ => exact ⟨hi.1, fun _ => hi⟩

theorem okFrom_data {ch : Bool} {pre post : List Ev} {e : Ev} (h : okFrom ch (pre ++ e :: post) = true)
    (he : e.isData = true) : checked ch pre = true := by
  rw [okFrom_append, Bool.and_eq_true] at h
  cases e with
  | check v => cases he
  | sendInit => simp only [okFrom, Bool.and_eq_true] at h; exact h.2.1
  | sendChunk n => simp only [okFrom, Bool.and_eq_true] at h; exact h.2.1

/-- every evaluation recorded in the trace has the verdict of the object's header -/
def onlyHdr (c : Cfg) (t : List Ev) : Bool := t.all fun e => match e with | .check w => w == c.hdr | _ => true

theorem onlyHdr_append (c : Cfg) (t u : List Ev) : onlyHdr c (t ++ u) = (onlyHdr c t && onlyHdr c u) :=
  List.all_append

theorem onlyHdr_check (c : Cfg) : onlyHdr c [.check c.hdr] = true := by simp [onlyHdr]

theorem onInit_onlyHdr (c : Cfg) (s : St) (h : onlyHdr c s.trace = true) : onlyHdr c (onInit c s).1.trace = true := by
  unfold onInit
  cases s.onceDone
  · cases c.recheck <;> cases c.suppressInit <;> cases (c.hdr == .deny) <;>
      simp only [onlyHdr_append, h, onlyHdr_check, Bool.and_self, if_true, if_false, Bool.false_eq_true] <;> rfl
  · exact h

theorem onChunk_onlyHdr (c : Cfg) (s : St) (read n : Nat) (h : onlyHdr c s.trace = true) :
    onlyHdr c (onChunk s read n).trace = true := by
  unfold onChunk
  simp only
  split
  · exact h
  · rw [onlyHdr_append, h]; rfl

theorem conn_onlyHdr (c : Cfg) (msgs : List Msg) (s : St) (hw : Bool) (read : Nat)
    (hs : onlyHdr c s.trace = true) : onlyHdr c (conn c s hw read msgs).1.trace = true := by
  fun_induction conn c s hw read msgs with
  | case5 s _ _ _ _ s' hoi ih => exact ih (by simpa [hoi] using onInit_onlyHdr c s hs)
  | case6 s _ _ _ _ s' hoi => simpa [hoi] using onInit_onlyHdr c s hs
  | case8 s _ read n _ _ ih => exact ih (onChunk_onlyHdr c s read n hs)
  | _ => exact hs

theorem run_onlyHdr (c : Cfg) (conns : List (List Msg)) (s : St) (hs : onlyHdr c s.trace = true) :
    onlyHdr c (run c s conns).1.trace = true := by
  fun_induction run c s conns with
  | case1 s => exact hs
  | case2 s m _ s' hc | case3 s m _ s' hc => simpa [hc] using conn_onlyHdr c m s false 0 hs
  | case4 s m _ s' hc ih => exact ih (by simpa [hc] using conn_onlyHdr c m s false 0 hs)

end NeoFS.C29
