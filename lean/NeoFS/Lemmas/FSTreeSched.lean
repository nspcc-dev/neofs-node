import NeoFS.Lemmas.FSTreeApi
import NeoFS.Lemmas.FSTreeGeneric
/-!
Sequences of API calls in one process (every oracle, so every system call as a stop point) and concurrent callers of
the portable writer as interleavings of single system calls. Core Lean only.
-/
namespace NeoFS.FSTree

/-- `(a, d)` is a payload the call offers for address `a` -/
def ApiOffers : Api → Nat → Bytes → Prop
  | .put a d, x, e => x = a ∧ e = d
  | .batch items, x, e => (x, e) ∈ items
  | .del _, _, _ => False

def ApiOffered (ops : List Api) (a : Nat) (d : Bytes) : Prop := ∃ op ∈ ops, ApiOffers op a d

def ValidApi : Api → Prop
  | .put a d => IdOK a ∧ ValidData d
  | .batch items => ∀ it ∈ items, IdOK it.1 ∧ (it.2 ≠ [] → ValidData it.2)
  | .del _ => True

/-- one API call under any oracle (faults, a stop at any of its system calls): the invariant is kept and nothing
readable is lost or altered — in particular putting an address that is already stored never takes it away, wherever
the call is interrupted; a delete removes its own name only -/
theorem api_step_safe {P} (cfg : Cfg) (hc : cfg.Fixed) (hg : cfg.generic = false) (o : Oracle) (k : K) (op : Api)
    (hv : ValidApi op) (hp : ∀ a d, ApiOffers op a d → P a d) (hs : SInv P k) :
    SInv P (applyApi cfg o k op).1 ∧
    (∀ x e, (∀ a, op = .del a → x ≠ a) → ReadsK k.inodes k.dir x e →
        ReadsK (applyApi cfg o k op).1.inodes (applyApi cfg o k op).1.dir x e) := by
  cases op with
  | put a d =>
    obtain ⟨ps, pe, _⟩ := put_spec (P := P) cfg hc hg o k a d hs hv.1 hv.2 (hp a d ⟨rfl, rfl⟩)
    exact ⟨ps, fun x e _ h => pe.frame x e h⟩
  | batch items =>
    obtain ⟨bs, bf⟩ := putBatch_safe cfg hg o k items hs hv fun it hit => hp it.1 it.2 hit
    exact ⟨bs, fun x e _ h => bf x e h⟩
  | del a =>
    obtain ⟨ds, df⟩ := delete_safe (P := P) o k a hs
    exact ⟨ds, fun x e hx h => df x e (hx a rfl) h⟩

theorem api_run_inv {P} (cfg : Cfg) (hc : cfg.Fixed) (hg : cfg.generic = false) (o : Oracle) (ops : List Api) :
    ∀ (k : K), (∀ op ∈ ops, ValidApi op) → (∀ op ∈ ops, ∀ a d, ApiOffers op a d → P a d) → SInv P k →
    SInv P (runApi cfg o k ops) := by
  intro k hv hp hs
  exact List.foldlRecOn ops _ hs fun k' hs' op hop => (api_step_safe cfg hc hg o k' op (hv op hop) (hp op hop) hs').1

/-- the temporary file a caller holds open / is about to rename -/
def gIno : GPhase → Option Nat
  | .atWrite _ j => some j
  | .atClose _ j _ => some j
  | .atRename _ j => some j
  | _ => none

/-- invariant of a set of callers between two system calls -/
structure GInv (P : Nat → Bytes → Prop) (k : K) (ws : List GW) : Prop where
  kinv : KInv P k.inodes k.dir
  valid : ∀ (n : Nat) (w : GW), ws[n]? = some w → IdOK w.a ∧ ValidData w.d ∧ P w.a w.d
  /-- a caller's temporary file exists and no object name points to it -/
  own : ∀ (n : Nat) (w : GW) (j : Nat), ws[n]? = some w → gIno w.ph = some j → j < k.inodes.length ∧ ∀ x i, k.dir.lookup x = some i → i ≠ j
  /-- two callers never hold the same temporary file (`O_EXCL`) -/
  sep : ∀ (n m : Nat) (w v : GW) (j : Nat), n ≠ m → ws[n]? = some w → ws[m]? = some v → gIno w.ph = some j → gIno v.ph ≠ some j
  empty : ∀ (n : Nat) (w : GW) (i j : Nat), ws[n]? = some w → w.ph = .atWrite i j → k.inodes.getD j [] = []
  /-- the file a caller is about to rename holds its whole payload -/
  full : ∀ (n : Nat) (w : GW) (i j : Nat), ws[n]? = some w → (w.ph = .atRename i j ∨ w.ph = .atClose i j true) → k.inodes.getD j [] = w.d
  /-- a caller that returned success left its address visible -/
  acked : ∀ (n : Nat) (w : GW), ws[n]? = some w → w.ph = .done true → (k.dir.lookup w.a).isSome

theorem get_set_cases {ws : List GW} {n : Nat} {w' : GW} {m : Nat} {v : GW} (h : (ws.set n w')[m]? = some v) :
    (m = n ∧ v = w') ∨ (m ≠ n ∧ ws[m]? = some v) := by
  rw [List.getElem?_set] at h
  by_cases hm : n = m
  · rw [if_pos hm] at h
    split at h
    · exact .inl ⟨hm.symm, (Option.some.inj h).symm⟩
    · cases h
  · rw [if_neg hm] at h
    exact .inr ⟨fun e => hm e.symm, h⟩

/-- what a step of caller `n` has to establish for the invariant to be kept -/
theorem ginv_update {P} {k k' : K} {ws : List GW} {n : Nat} {w : GW} {ph' : GPhase} (h : GInv P k ws)
    (hw : ws[n]? = some w)
    (hk : KInv P k'.inodes k'.dir)
    (hlen : k.inodes.length ≤ k'.inodes.length)
    (hkeep : ∀ j, j < k.inodes.length → gIno w.ph ≠ some j → k'.inodes.getD j [] = k.inodes.getD j [])
    (hdir : ∀ x i, k'.dir.lookup x = some i → k.dir.lookup x = some i ∨ (gIno w.ph = some i ∧ gIno ph' = none))
    (hmono : ∀ x, (k.dir.lookup x).isSome → (k'.dir.lookup x).isSome)
    (hnew : ∀ j, gIno ph' = some j → gIno w.ph = some j ∨
      (k.inodes.length ≤ j ∧ j < k'.inodes.length ∧ ∀ x i, k'.dir.lookup x = some i → i ≠ j))
    (hempty : ∀ i j, ph' = .atWrite i j → k'.inodes.getD j [] = [])
    (hfull : ∀ i j, (ph' = .atRename i j ∨ ph' = .atClose i j true) → k'.inodes.getD j [] = w.d)
    (hack : ph' = .done true → (k'.dir.lookup w.a).isSome) :
    GInv P k' (ws.set n { w with ph := ph' }) := by
  -- the temporary file of another caller is untouched and still unnamed
  have other : ∀ m v j, m ≠ n → ws[m]? = some v → gIno v.ph = some j →
      j < k.inodes.length ∧ gIno w.ph ≠ some j ∧ k'.inodes.getD j [] = k.inodes.getD j [] := by
    intro m v j hm hv hj
    have hlt := (h.own m v j hv hj).1
    have hne : gIno w.ph ≠ some j := h.sep m n v w j hm hv hw hj
    exact ⟨hlt, hne, hkeep j hlt hne⟩
  -- the file caller `n` holds after its step is not one another caller holds
  have fresh : ∀ m v j, m ≠ n → ws[m]? = some v → gIno ph' = some j → gIno v.ph ≠ some j := by
    intro m v j hm hv hj hj2
    rcases hnew j hj with hold | ⟨hge, -, -⟩
    · exact h.sep n m w v j (Ne.symm hm) hw hv hold hj2
    · exact absurd (h.own m v j hv hj2).1 (Nat.not_lt.mpr hge)
  refine ⟨hk, ?_, ?_, ?_, ?_, ?_, ?_⟩
  · intro m v hv
    rcases get_set_cases hv with ⟨-, rfl⟩ | ⟨-, hv⟩
    · exact h.valid n w hw
    · exact h.valid m v hv
  · intro m v j hv hj
    rcases get_set_cases hv with ⟨-, rfl⟩ | ⟨hm, hv⟩
    · rcases hnew j hj with hold | ⟨-, hlt, hfresh⟩
      · refine ⟨Nat.lt_of_lt_of_le (h.own n w j hw hold).1 hlen, fun x i hx => ?_⟩
        rcases hdir x i hx with hx | ⟨-, hnone⟩
        · exact (h.own n w j hw hold).2 x i hx
        · exact nomatch hnone.symm.trans hj
      · exact ⟨hlt, hfresh⟩
    · obtain ⟨hlt, hne, -⟩ := other m v j hm hv hj
      refine ⟨Nat.lt_of_lt_of_le hlt hlen, fun x i hx => ?_⟩
      rcases hdir x i hx with hx | ⟨hown, -⟩
      · exact (h.own m v j hv hj).2 x i hx
      · exact fun hij => hne (hij ▸ hown)
  · intro m1 m2 v1 v2 j hne hv1 hv2 hj
    rcases get_set_cases hv1 with ⟨e1, rfl⟩ | ⟨hm1, hv1⟩
    · rcases get_set_cases hv2 with ⟨e2, -⟩ | ⟨hm2, hv2⟩
      · exact absurd (e1.trans e2.symm) hne
      · exact fresh m2 v2 j hm2 hv2 hj
    · rcases get_set_cases hv2 with ⟨-, rfl⟩ | ⟨hm2, hv2⟩
      · exact fun hj2 => fresh m1 v1 j hm1 hv1 hj2 hj
      · exact h.sep m1 m2 v1 v2 j hne hv1 hv2 hj
  · intro m v i j hv hph
    rcases get_set_cases hv with ⟨-, rfl⟩ | ⟨hm, hv⟩
    · exact hempty i j hph
    · rw [(other m v j hm hv (by rw [hph]; rfl)).2.2]; exact h.empty m v i j hv hph
  · intro m v i j hv hph
    rcases get_set_cases hv with ⟨-, rfl⟩ | ⟨hm, hv⟩
    · exact hfull i j hph
    · rw [(other m v j hm hv (by rcases hph with e | e <;> (rw [e]; rfl))).2.2]; exact h.full m v i j hv hph
  · intro m v hv hph
    rcases get_set_cases hv with ⟨-, rfl⟩ | ⟨-, hv⟩
    · exact hack hph
    · exact hmono _ (h.acked m v hv hph)

/-- what one step does to the objects of other addresses and to the set of visible names -/
structure GFrame (k k' : K) (a : Nat) : Prop where
  frame : ∀ x e, x ≠ a → ReadsK k.inodes k.dir x e → ReadsK k'.inodes k'.dir x e
  mono : ∀ x, (k.dir.lookup x).isSome → (k'.dir.lookup x).isSome

/-- what a step that changes nothing on disk may do to the caller's phase -/
structure GQuiet (ph ph' : GPhase) : Prop where
  ino : gIno ph' = none ∨ gIno ph' = gIno ph
  notWrite : ∀ i j, ph' ≠ .atWrite i j
  full : ∀ i j, ph' = .atRename i j ∨ ph' = .atClose i j true → ph = .atClose i j true
  acked : ph' = .done true → ph = .done true

theorem GQuiet.idle {ph ph' : GPhase} (h1 : gIno ph' = none) (h2 : ph' ≠ .done true) : GQuiet ph ph' := by
  refine ⟨.inl h1, fun i j e => ?_, fun i j e => ?_, fun e => absurd e h2⟩
  · rw [e] at h1; cases h1
  · rcases e with e | e <;> (rw [e] at h1; cases h1)

/-- what one system call of a caller does: nothing on disk, or `p#i` is created, or written to, or renamed to `a` -/
theorem gstep_cases (o : Oracle) (k : K) (a : Nat) (d : Bytes) (ph : GPhase) : ∃ k' ph', gstep o k a d ph = (k', ph') ∧
    ((k'.inodes = k.inodes ∧ k'.dir = k.dir ∧ GQuiet ph ph') ∨
     (∃ i, ph = .atOpen i ∧ ph' = .atWrite i k.inodes.length ∧ k'.inodes = k.inodes ++ [[]] ∧ k'.dir = k.dir) ∨
     (∃ i j x ok, ph = .atWrite i j ∧ ph' = .atClose i j ok ∧ k'.inodes = appendAt k.inodes j x ∧ k'.dir = k.dir ∧
        (ok = true → x = d)) ∨
     (∃ i j, ph = .atRename i j ∧ ph' = .done true ∧ k'.inodes = k.inodes ∧ k'.dir = eraseKey a k.dir ++ [(a, j)])) := by
  cases ph with
  | atOpen i =>
    obtain ⟨k', r, ino, he, -, od, ⟨hr, oi⟩ | ⟨rfl, rfl, oi⟩⟩ := sysOpenExcl_spec o k (a, i)
    · cases r with
      | ok => exact absurd rfl hr
      | err => exact ⟨k', .atReturn, by simp only [gstep, he], .inl ⟨oi, od, .idle rfl nofun⟩⟩
      | eexist =>
        exact ⟨k', if i + 1 < genericRetries then .atOpen (i + 1) else .atReturn, by simp only [gstep, he],
          .inl ⟨oi, od, by split <;> exact .idle rfl nofun⟩⟩
    · exact ⟨k', .atWrite i k.inodes.length, by simp only [gstep, he], .inr (.inl ⟨i, rfl, rfl, oi, od⟩)⟩
  | atWrite i j =>
    obtain ⟨k', ok, x, hw, -, wd, wi, hx⟩ := sysWrite_spec o k j d
    exact ⟨k', .atClose i j ok, by simp only [gstep, hw], .inr (.inr (.inl ⟨i, j, x, ok, rfl, rfl, wi, wd, hx⟩))⟩
  | atClose i j wok =>
    obtain ⟨k', r, hc, -, ci, cd⟩ := sysSync_spec o k
    refine ⟨k', if wok && r then .atRename i j else .atReturn, by simp only [gstep, hc], .inl ⟨ci, cd, ?_⟩⟩
    by_cases hb : (wok && r) = true
    · rw [if_pos hb, (Bool.and_eq_true_iff.mp hb).1]
      exact ⟨.inr rfl, nofun, fun _ _ e => by rcases e with e | e <;> cases e; rfl, nofun⟩
    · rw [if_neg hb]; exact .idle rfl nofun
  | atRename i j =>
    obtain ⟨k', r, hr, -, ri, ⟨rfl, rd⟩ | ⟨rfl, rd⟩⟩ := sysRename_spec o k (a, i) j a
    · exact ⟨k', .done false, by simp only [gstep, hr], .inl ⟨ri, rd, .idle rfl nofun⟩⟩
    · exact ⟨k', .done true, by simp only [gstep, hr], .inr (.inr (.inr ⟨i, j, rfl, rfl, ri, rd⟩))⟩
  | atReturn => exact ⟨k, _, rfl, .inl ⟨rfl, rfl, .idle rfl nofun⟩⟩
  | done ok => exact ⟨k, _, rfl, .inl ⟨rfl, rfl, .inl rfl, fun _ _ => nofun, fun _ _ e => e.elim nofun nofun, id⟩⟩

theorem gstep_frame {P} (o : Oracle) (k : K) (a : Nat) (d : Bytes) (ph : GPhase) (hk : KInv P k.inodes k.dir)
    (hown : ∀ j, gIno ph = some j → ∀ x i, k.dir.lookup x = some i → i ≠ j) : GFrame k (gstep o k a d ph).1 a := by
  obtain ⟨k', ph', he, hc⟩ := gstep_cases o k a d ph
  rw [he]
  rcases hc with ⟨hi, hd, -⟩ | ⟨i, -, -, hi, hd⟩ | ⟨i, j, y, ok, rfl, -, hi, hd, -⟩ | ⟨i, j, -, -, hi, hd⟩
  · exact ⟨fun x e _ hr => by rw [hi, hd]; exact hr, fun x hx => by rw [hd]; exact hx⟩
  · exact ⟨fun x e _ hr => by rw [hi, hd]; exact (keeps_addInode hk []).readsK hk hr, fun x hx => by rw [hd]; exact hx⟩
  · exact ⟨fun x e _ hr => by rw [hi, hd]; exact (keeps_appendAt_fresh (hown j rfl) y).readsK hk hr,
      fun x hx => by rw [hd]; exact hx⟩
  · refine ⟨fun x e hxa ⟨i', hi', hhi⟩ => ⟨i', ?_, hi ▸ hhi⟩, fun x hx => hd ▸ rename_mono k.dir a j x hx⟩
    rw [hd, lookup_rename, if_neg hxa]; exact hi'

/-- one system call of caller `n`, for every oracle: the invariant is kept -/
theorem gstep_ginv {P} (o : Oracle) (k : K) (ws : List GW) (n : Nat) (w : GW) (h : GInv P k ws) (hw : ws[n]? = some w) :
    GInv P (gstep o k w.a w.d w.ph).1 (ws.set n { w with ph := (gstep o k w.a w.d w.ph).2 }) := by
  obtain ⟨ha, hd, hp⟩ := h.valid n w hw
  obtain ⟨k', ph', he, hc⟩ := gstep_cases o k w.a w.d w.ph
  rw [he]
  rcases hc with ⟨hi, hdir, q⟩ | ⟨i, hph, rfl, hi, hdir⟩ | ⟨i, j, x, ok, hph, rfl, hi, hdir, hx⟩ |
    ⟨i, j, hph, rfl, hi, hdir⟩
  · exact ginv_update h hw (by rw [hi, hdir]; exact h.kinv) (by rw [hi]; exact Nat.le_refl _) (fun _ _ _ => by rw [hi])
      (fun x i hx => .inl (hdir ▸ hx)) (fun x hx => hdir ▸ hx)
      (fun j hj => .inl (q.ino.elim (fun q => nomatch q.symm.trans hj) fun q => q ▸ hj))
      (fun i j e => absurd e (q.notWrite i j)) (fun i j e => hi ▸ h.full n w i j hw (.inr (q.full i j e)))
      (fun e => hdir ▸ h.acked n w hw (q.acked e))
  · exact ginv_update h hw (by rw [hi, hdir]; exact (keeps_addInode h.kinv []).kinv h.kinv) (by rw [hi]; simp)
      (fun j hj _ => by rw [hi]; exact getD_append_lt _ _ _ hj) (fun x i' hx => .inl (hdir ▸ hx)) (fun x hx => hdir ▸ hx)
      (fun j hj => by
        cases hj
        exact .inr ⟨Nat.le_refl _, by rw [hi]; simp, fun x i' hx => Nat.ne_of_lt (kinv_lt h.kinv (hdir ▸ hx))⟩)
      (fun i' j e => by cases e; rw [hi]; exact getD_append_new _ _) (fun _ _ e => by rcases e with e | e <;> cases e) nofun
  · obtain ⟨hjlt, hjfree⟩ := h.own n w j hw (by rw [hph]; rfl)
    exact ginv_update h hw (by rw [hi, hdir]; exact (keeps_appendAt_fresh hjfree x).kinv h.kinv)
      (by rw [hi, appendAt_length]; exact Nat.le_refl _)
      (fun j' _ hne => by rw [hi]; exact appendAt_getD_ne _ _ _ _ (fun e => hne (by rw [hph, e]; rfl)))
      (fun x i' hx => .inl (hdir ▸ hx)) (fun x hx => hdir ▸ hx) (fun j' hj' => .inl (hph ▸ hj')) nofun
      (fun i' j' e => by
        rcases e with e | e
        · cases e
        · cases e
          rw [hi, appendAt_getD_eq _ _ _ hjlt, h.empty n w i j hw hph, hx rfl]; rfl)
      nofun
  · have hh : Holds (k.inodes.getD j []) w.a w.d := by rw [h.full n w i j hw (.inl hph)]; exact .inl ⟨rfl, hd.2⟩
    refine ginv_update h hw (by rw [hi, hdir]; exact kinv_rename h.kinv ha hp hd.1 hh) (by rw [hi]; exact Nat.le_refl _)
      (fun _ _ _ => by rw [hi]) (fun x i' hx => ?_) (fun x hx => hdir ▸ rename_mono k.dir w.a j x hx) nofun nofun
      (fun _ _ e => by rcases e with e | e <;> cases e) (fun _ => by rw [hdir, lookup_rename, if_pos rfl]; rfl)
    rw [hdir, lookup_rename] at hx
    split at hx
    · cases hx; exact .inr ⟨by rw [hph]; rfl, rfl⟩
    · exact .inl hx

/-- what steps of the callers do, seen from outside -/
structure GRun (s s' : K × List GW) : Prop where
  frame : ∀ x e, (∀ (n : Nat) (w : GW), s.2[n]? = some w → w.a ≠ x) → ReadsK s.1.inodes s.1.dir x e →
    ReadsK s'.1.inodes s'.1.dir x e
  mono : ∀ x, (s.1.dir.lookup x).isSome → (s'.1.dir.lookup x).isSome
  names : ∀ (m : Nat) (v : GW), s'.2[m]? = some v → ∃ v0 : GW, s.2[m]? = some v0 ∧ v0.a = v.a

theorem GRun.refl (s : K × List GW) : GRun s s := ⟨fun _ _ _ hr => hr, fun _ hx => hx, fun _ v hv => ⟨v, hv, rfl⟩⟩

theorem GRun.trans {s s' s'' : K × List GW} (h1 : GRun s s') (h2 : GRun s' s'') : GRun s s'' := by
  refine ⟨fun x e hx hr => h2.frame x e (fun m v hv => ?_) (h1.frame x e hx hr), fun x hx => h2.mono x (h1.mono x hx),
    fun m v hv => ?_⟩
  · obtain ⟨v0, hv0, ha⟩ := h1.names m v hv
    exact ha ▸ hx m v0 hv0
  · obtain ⟨v1, hv1, ha1⟩ := h2.names m v hv
    obtain ⟨v0, hv0, ha0⟩ := h1.names m v1 hv1
    exact ⟨v0, hv0, ha0.trans ha1⟩

/-- ONE SYSTEM CALL OF ONE CALLER, for every oracle: the invariant is kept, objects of other addresses read the
same, no name disappears -/
theorem gschedStep_inv {P} (o : Oracle) (s : K × List GW) (n : Nat) (h : GInv P s.1 s.2) :
    GInv P (gschedStep o s n).1 (gschedStep o s n).2 ∧ GRun s (gschedStep o s n) := by
  obtain ⟨k, ws⟩ := s
  unfold gschedStep
  cases hw : ws[n]? with
  | none => exact ⟨h, .refl _⟩
  | some w =>
    have hf := gstep_frame o k w.a w.d w.ph h.kinv (fun j hj => (h.own n w j hw hj).2)
    refine ⟨gstep_ginv o k ws n w h hw, fun x e hx hr => hf.frame x e (fun e' => hx n w hw e'.symm) hr, hf.mono,
      fun m v hv => ?_⟩
    rcases get_set_cases hv with ⟨e, rfl⟩ | ⟨_, hv⟩
    · exact ⟨w, e ▸ hw, rfl⟩
    · exact ⟨v, hv, rfl⟩

/-- EVERY INTERLEAVING, EVERY ORACLE: the invariant holds after any schedule; objects of addresses no caller writes
read the same; no visible name disappears; callers keep their addresses -/
theorem gsched_inv {P} (o : Oracle) (sched : List Nat) :
    ∀ (s : K × List GW), GInv P s.1 s.2 →
    GInv P (sched.foldl (gschedStep o) s).1 (sched.foldl (gschedStep o) s).2 ∧
    (∀ x e, (∀ (n : Nat) (w : GW), s.2[n]? = some w → w.a ≠ x) → ReadsK s.1.inodes s.1.dir x e →
      ReadsK (sched.foldl (gschedStep o) s).1.inodes (sched.foldl (gschedStep o) s).1.dir x e) ∧
    (∀ x, (s.1.dir.lookup x).isSome → ((sched.foldl (gschedStep o) s).1.dir.lookup x).isSome) ∧
    (∀ (m : Nat) (v : GW), (sched.foldl (gschedStep o) s).2[m]? = some v → ∃ v0 : GW, s.2[m]? = some v0 ∧ v0.a = v.a) := by
  intro s h
  obtain ⟨hi, hr⟩ := List.foldlRecOn (motive := fun s' => GInv P s'.1 s'.2 ∧ GRun s s') sched (gschedStep o) ⟨h, .refl s⟩
    fun s' ⟨hi, hr⟩ n _ => ⟨(gschedStep_inv o s' n hi).1, hr.trans (gschedStep_inv o s' n hi).2⟩
  exact ⟨hi, hr.frame, hr.mono, hr.names⟩

theorem ginv_init {P} (k : K) (ws : List GW) (hk : KInv P k.inodes k.dir)
    (hw : ∀ w ∈ ws, w.ph = .atOpen 0 ∧ IdOK w.a ∧ ValidData w.d ∧ P w.a w.d) : GInv P k ws := by
  have ph0 : ∀ (n : Nat) (w : GW), ws[n]? = some w → w.ph = .atOpen 0 := fun n w h => (hw w (List.mem_of_getElem? h)).1
  refine ⟨hk, fun n w h => (hw w (List.mem_of_getElem? h)).2, ?_, ?_, ?_, ?_, ?_⟩
  · intro n w j h hj; rw [ph0 n w h] at hj; cases hj
  · intro n m w v j _ h _ hj; rw [ph0 n w h] at hj; cases hj
  · intro n w i j h e; rw [ph0 n w h] at e; cases e
  · intro n w i j h e; rw [ph0 n w h] at e; rcases e with e | e <;> cases e
  · intro n w h e; rw [ph0 n w h] at e; cases e

/-- `m` steps of one caller -/
def gIter (o : Oracle) (a : Nat) (d : Bytes) : Nat → K × GPhase → K × GPhase
  | 0, s => s
  | m + 1, s => gIter o a d m (gstep o s.1 a d s.2)

theorem gIter_succ (o : Oracle) (a : Nat) (d : Bytes) (m : Nat) (s : K × GPhase) :
    gIter o a d (m + 1) s = gIter o a d m (gstep o s.1 a d s.2) := rfl

theorem gIter_done (o : Oracle) (a : Nat) (d : Bytes) (m : Nat) (k : K) (b : Bool) :
    gIter o a d m (k, .done b) = (k, .done b) := by
  induction m with
  | zero => rfl
  | succ m ih => rw [gIter_succ]; simp only [gstep]; exact ih

theorem gIter_return (o : Oracle) (a : Nat) (d : Bytes) (m : Nat) (k : K) :
    gIter o a d (m + 1) (k, .atReturn) = (k, .done false) := by
  rw [gIter_succ]; simp only [gstep]; exact gIter_done o a d m k false

/-- a caller that runs alone from its `i`-th attempt ends exactly where `genericWrite` ends, with its result -/
theorem machine_eq_genericWrite (o : Oracle) (a : Nat) (d : Bytes) :
    ∀ (tries i : Nat) (k : K) (m : Nat), tries + i = genericRetries → tries + 4 ≤ m → 0 < tries →
    gIter o a d m (k, .atOpen i) = ((genericWrite o tries i k a d).1, .done (genericWrite o tries i k a d).2) := by
  intro tries
  induction tries with
  | zero => exact fun i k m _ _ h => absurd h (Nat.lt_irrefl 0)
  | succ tries ih =>
    intro i k m hsum hm _
    obtain ⟨m', rfl⟩ := Nat.exists_eq_add_of_le' (Nat.le_trans (Nat.le_add_left 5 tries) hm)
    unfold genericWrite
    rw [gIter_succ]
    simp only [gstep]
    rcases sysOpenExcl o k (a, i) with ⟨k0, r, ino⟩
    cases r with
    | eexist =>
      simp only
      by_cases ht : tries = 0
      · have hi : ¬ (i + 1 < genericRetries) := by unfold genericRetries at *; omega
        simp only [hi, ht, if_false, if_true]
        exact gIter_return o a d (m' + 3) _
      · have hi : i + 1 < genericRetries ∧ tries + (i + 1) = genericRetries ∧ tries + 4 ≤ m' + 4 ∧ 0 < tries := by
          unfold genericRetries at *; omega
        simp only [hi.1, if_true, ht, if_false]
        exact ih (i + 1) _ (m' + 4) hi.2.1 hi.2.2.1 hi.2.2.2
    | err => exact gIter_return o a d (m' + 3) _
    | ok =>
      simp only
      rw [gIter_succ]
      simp only [gstep]
      rcases sysWrite o k0 ino d with ⟨k1, wok⟩
      rw [gIter_succ]
      simp only [gstep]
      rcases sysSync o k1 with ⟨k2, cok⟩
      cases wok with
      | false => exact gIter_return o a d (m' + 1) _
      | true =>
        cases cok with
        | false => exact gIter_return o a d (m' + 1) _
        | true =>
          simp only [Bool.and_self, if_true, Bool.not_true, Bool.false_eq_true, if_false]
          rw [gIter_succ]
          exact gIter_done o a d (m' + 1) _ _

/-- `Put` on the portable writer is the machine run alone -/
theorem put_generic_is_machine (cfg : Cfg) (hg : cfg.generic = true) (o : Oracle) (k : K) (a : Nat) (d : Bytes) (hd : d ≠ []) :
    (put cfg o k a d).1 = (gIter o a d 12 (k, .atOpen 0)).1 ∧
    ((put cfg o k a d).2 = .ok ↔ (gIter o a d 12 (k, .atOpen 0)).2 = .done true) := by
  have h := machine_eq_genericWrite o a d genericRetries 0 k 12 rfl (by unfold genericRetries; omega) (by unfold genericRetries; omega)
  unfold put
  simp only [hd, if_false, hg, if_true]
  rw [h]
  unfold genericRetries
  constructor
  · rfl
  · cases (genericWrite o 5 0 k a d).2 <;> simp

theorem gsched_single (o : Oracle) (a : Nat) (d : Bytes) :
    ∀ (m : Nat) (k : K) (ph : GPhase),
    gsched o k [{ a := a, d := d, ph := ph }] (List.replicate m 0) =
      ((gIter o a d m (k, ph)).1, [{ a := a, d := d, ph := (gIter o a d m (k, ph)).2 }]) := by
  intro m
  induction m with
  | zero => intro k ph; rfl
  | succ m ih =>
    intro k ph
    have := ih (gstep o k a d ph).1 (gstep o k a d ph).2
    simp only [gsched] at this ⊢
    rw [List.replicate_succ, List.foldl_cons]
    simp only [gschedStep, List.getElem?_cons_zero, List.set_cons_zero]
    rw [this, gIter_succ]

end NeoFS.FSTree
