import NeoFS.Model.Migrate
import NeoFS.Lemmas.LexOrder
import NeoFS.Lemmas.Int256
import Mathlib.Data.List.Forall2
/-!
Lemmas of property C42 (metabase format upgrade).  `Frame` is what every bucket step keeps, `Tx` lifts it to the bucket
list of a committed transaction; `CurSpec`, `iterBkts_cursor` and the run invariant `PI` show that the cursors leave
nothing behind.
-/
namespace NeoFS.Migrate
open NeoFS.Search (Bytes aHomo aAssoc oidBytes)
open NeoFS.Int256

/-! ### what the statements of C42 speak of -/

/-- `k` is what some key of the bucket means in the current format -/
def CI (keys : List Key) (k : Key) : Prop := ∃ k0 ∈ keys, canon k0 = some k

/-- what a reader of the database can observe of the live containers: which keys a bucket holds, and which garbage
marks are of the "redundant copy" kind -/
structure View where
  has : Nat → Key → Prop
  red : Nat → List Nat → Prop

/-- the current code's reading: the keys as they are -/
def absNew (ex : Nat → Bool) (db : DB) : View :=
  { has := fun c k => ex c = true ∧ ∃ b, (c, b) ∈ db.bkts ∧ k ∈ b.keys,
    red := fun c ids => ex c = true ∧ ∃ b, (c, b) ∈ db.bkts ∧ b.red = ids }

/-- the old formats' reading: every key stands for its current-format meaning (`canon`) -/
def absOld (ex : Nat → Bool) (db : DB) : View :=
  { has := fun c k => ex c = true ∧ ∃ b, (c, b) ∈ db.bkts ∧ CI b.keys k,
    red := fun c ids => ex c = true ∧ ∃ b, (c, b) ∈ db.bkts ∧ b.red = ids }

theorem aHomo_ne_aAssoc : aHomo ≠ aAssoc := by decide +kernel

theorem mem_insertKey {k x : Key} {l : List Key} : x ∈ insertKey k l ↔ x = k ∨ x ∈ l := by
  unfold insertKey
  split
  · rename_i h
    have hk : k ∈ l := by simpa using h
    constructor
    · exact Or.inr
    · rintro (rfl | h') <;> assumption
  · simp

theorem mem_eraseKey {k x : Key} {l : List Key} : x ∈ eraseKey k l ↔ x ∈ l ∧ x ≠ k := by
  simp [eraseKey, List.mem_filter]

theorem nodup_insertKey {k : Key} {l : List Key} (h : l.Nodup) : (insertKey k l).Nodup := by
  unfold insertKey
  split
  · exact h
  · rename_i hc
    have : k ∉ l := by simpa using hc
    exact List.nodup_cons.2 ⟨this, h⟩

theorem nodup_eraseKey {k : Key} {l : List Key} (h : l.Nodup) : (eraseKey k l).Nodup := h.filter _

theorem mem_sortKeys {x : Key} {l : List Key} : x ∈ sortKeys l ↔ x ∈ l := by
  unfold sortKeys; exact List.mem_mergeSort

theorem keyLe_iff (a b : Key) : Key.le a b = true ↔ bLe a.bytes b.bytes := by
  unfold Key.le bLe; simp

theorem sortKeys_pairwise (l : List Key) : (sortKeys l).Pairwise (fun a b => bLe a.bytes b.bytes) := by
  have := List.pairwise_mergeSort (le := Key.le)
    (fun a b c h1 h2 => (keyLe_iff a c).2 (bLe_trans ((keyLe_iff a b).1 h1) ((keyLe_iff b c).1 h2)))
    (fun a b => by
      rcases bLe_total a.bytes b.bytes with h | h
      · simp [(keyLe_iff a b).2 h]
      · simp [(keyLe_iff b a).2 h]) l
  exact this.imp (fun h => (keyLe_iff _ _).1 h)

theorem canon_plain_homo (id : Nat) (v : Bytes) : canon (.plain id aHomo v) = none := by simp [canon]
theorem canon_idAttr_homo (id : Nat) (v : Bytes) : canon (.idAttr id aHomo v) = none := by simp [canon]

theorem canon_plain_assoc (id : Nat) (v : Bytes) :
    canon (.plain id aAssoc v) = some (.plain id aAssoc ((newAssoc v).getD v)) := by
  simp [canon, aHomo_ne_aAssoc.symm]

theorem canon_idAttr_assoc (id : Nat) (v : Bytes) :
    canon (.idAttr id aAssoc v) = some (.idAttr id aAssoc ((newAssoc v).getD v)) := by
  simp [canon, aHomo_ne_aAssoc.symm]

theorem canon_plain_other {a : Bytes} (h1 : a ≠ aHomo) (h2 : a ≠ aAssoc) (id : Nat) (v : Bytes) :
    canon (.plain id a v) = some (.plain id a v) := by
  simp [canon, h1, h2]

theorem canon_idAttr_other {a : Bytes} (h1 : a ≠ aHomo) (h2 : a ≠ aAssoc) (id : Nat) (v : Bytes) :
    canon (.idAttr id a v) = some (.idAttr id a v) := by
  simp [canon, h1, h2]

theorem isHomoFwd_iff {k : Key} : isHomoFwd k = true ↔ ∃ id v, k = .plain id aHomo v := by
  cases k <;> simp [isHomoFwd]

theorem isAssocFwd_iff {k : Key} : isAssocFwd k = true ↔ ∃ id v, k = .plain id aAssoc v := by
  cases k <;> simp [isAssocFwd]

theorem newAssoc_some {v d : Bytes} (h : newAssoc v = some d) : d.length = 32 ∧ v.length ≠ 32 := by
  unfold newAssoc at h
  split at h
  · cases h
  · rename_i hv
    split at h
    · split at h
      · rename_i hd
        cases h
        exact ⟨by simpa using hd, by simpa using hv⟩
      · cases h
    · cases h

theorem newAssoc_of_len32 {d : Bytes} (h : d.length = 32) : newAssoc d = none := by
  simp [newAssoc, h]

theorem rewritable_iff {k : Key} : rewritable k = true ↔ ∃ id v d, k = .plain id aAssoc v ∧ newAssoc v = some d := by
  cases k with
  | plain id a v =>
    simp only [rewritable, Bool.and_eq_true, beq_iff_eq, Option.isSome_iff_exists]
    constructor
    · rintro ⟨ha, d, hd⟩; exact ⟨id, v, d, by rw [ha], hd⟩
    · rintro ⟨id', v', d, e, hd⟩
      rw [Key.plain.injEq] at e
      exact ⟨e.2.1, d, e.2.2 ▸ hd⟩
  | _ => simp [rewritable]

theorem rewritable_assocFwd {k : Key} (h : rewritable k = true) : isAssocFwd k = true := by
  obtain ⟨id, v, d, rfl, _⟩ := rewritable_iff.1 h
  simp [isAssocFwd]

theorem CI_erase_none {keys : List Key} {e : Key} (he : canon e = none) (x : Key) :
    CI (eraseKey e keys) x ↔ CI keys x := by
  constructor
  · rintro ⟨k0, hk, hc⟩; exact ⟨k0, (mem_eraseKey.1 hk).1, hc⟩
  · rintro ⟨k0, hk, hc⟩
    refine ⟨k0, mem_eraseKey.2 ⟨hk, ?_⟩, hc⟩
    rintro rfl; rw [he] at hc; cases hc

theorem CI_erase_dup {keys : List Key} {e e' : Key} (h : e' ∈ keys) (hne : e' ≠ e) (hc : canon e' = canon e) (x : Key) :
    CI (eraseKey e keys) x ↔ CI keys x := by
  constructor
  · rintro ⟨k0, hk, hc0⟩; exact ⟨k0, (mem_eraseKey.1 hk).1, hc0⟩
  · rintro ⟨k0, hk, hc0⟩
    by_cases hk0 : k0 = e
    · exact ⟨e', mem_eraseKey.2 ⟨h, hne⟩, by rw [hc, ← hk0, hc0]⟩
    · exact ⟨k0, mem_eraseKey.2 ⟨hk, hk0⟩, hc0⟩

theorem CI_insert_dup {keys : List Key} {e e' : Key} (h : e' ∈ keys) (hc : canon e' = canon e) (x : Key) :
    CI (insertKey e keys) x ↔ CI keys x := by
  constructor
  · rintro ⟨k0, hk, hc0⟩
    rcases mem_insertKey.1 hk with rfl | hk
    · exact ⟨e', h, by rw [hc, hc0]⟩
    · exact ⟨k0, hk, hc0⟩
  · rintro ⟨k0, hk, hc0⟩; exact ⟨k0, mem_insertKey.2 (Or.inr hk), hc0⟩

/-! ### the old format's invariant -/

/-- the key of the other attribute family -/
def twin : Key → Key
  | .plain id a v => .idAttr id a v
  | .idAttr id a v => .plain id a v
  | k => k

theorem twin_twin (k : Key) : twin (twin k) = k := by cases k <;> rfl

/-- written together with its twin by the old format -/
def needsTwin : Key → Bool
  | .plain _ a _ => a == aAssoc
  | .idAttr _ a _ => a == aAssoc || a == aHomo
  | _ => false

/-- the old format's invariant (`BktInv`) as a proposition -/
def PInv (keys : List Key) : Prop := ∀ k ∈ keys, needsTwin k = true → twin k ∈ keys

theorem bktInv_iff (keys : List Key) : BktInv keys = true ↔ PInv keys := by
  unfold BktInv PInv
  rw [List.all_eq_true]
  refine forall₂_congr fun k _ => ?_
  cases k <;> simp [needsTwin, twin, imp_iff_not_or]

theorem PInv.fwdRev {keys : List Key} (hp : PInv keys) (id : Nat) (v : Bytes) (h : Key.plain id aAssoc v ∈ keys) :
    Key.idAttr id aAssoc v ∈ keys := hp _ h (beq_self_eq_true aAssoc)

theorem PInv.revFwd {keys : List Key} (hp : PInv keys) (id : Nat) (v : Bytes) (h : Key.idAttr id aAssoc v ∈ keys) :
    Key.plain id aAssoc v ∈ keys := hp _ h (by rw [needsTwin, beq_self_eq_true, Bool.true_or])

theorem PInv.homoRevFwd {keys : List Key} (hp : PInv keys) (id : Nat) (v : Bytes) (h : Key.idAttr id aHomo v ∈ keys) :
    Key.plain id aHomo v ∈ keys := hp _ h (by rw [needsTwin, beq_self_eq_true, Bool.or_true])

theorem PInv.erasePair {keys : List Key} (hp : PInv keys) (p : Key) : PInv (eraseKey (twin p) (eraseKey p keys)) := by
  intro k hk hn
  rw [mem_eraseKey, mem_eraseKey] at hk ⊢
  obtain ⟨⟨h1, h2⟩, h3⟩ := hk
  exact ⟨⟨hp k h1 hn, fun e => h3 (by rw [← twin_twin k, e])⟩, fun e => h2 (by rw [← twin_twin k, e, twin_twin])⟩

theorem PInv.insertPair {keys : List Key} (hp : PInv keys) (p : Key) : PInv (insertKey (twin p) (insertKey p keys)) := by
  intro k hk hn
  rw [mem_insertKey, mem_insertKey] at hk ⊢
  rcases hk with rfl | rfl | hk
  · exact Or.inr (Or.inl (twin_twin p))
  · exact Or.inl rfl
  · exact Or.inr (Or.inr (hp k hk hn))

/-! ### what every bucket step keeps -/

def noHomo (keys : List Key) : Prop := ∀ k ∈ keys, isHomoFwd k = false
def noRw (keys : List Key) : Prop := ∀ k ∈ keys, rewritable k = false
/-- ids of the associate attribute-to-id keys fit 32 bytes (the key bytes determine the key) -/
def IdOK (keys : List Key) : Prop := ∀ id v, Key.plain id aAssoc v ∈ keys → id < 256 ^ 32

/-- what every bucket step keeps: the old reading, well-formedness, and no new key of a kind the upgrade works on -/
structure Frame (keys keys' : List Key) : Prop where
  ci : ∀ x, CI keys' x ↔ CI keys x
  pinv : PInv keys'
  nodup : keys'.Nodup
  idOK : IdOK keys → IdOK keys'
  homo_mem : ∀ x ∈ keys', isHomoFwd x = true → x ∈ keys
  rw_mem : ∀ x ∈ keys', rewritable x = true → x ∈ keys

theorem Frame.refl {keys : List Key} (hp : PInv keys) (hn : keys.Nodup) : Frame keys keys :=
  ⟨fun _ => Iff.rfl, hp, hn, id, fun _ h _ => h, fun _ h _ => h⟩

theorem Frame.trans {k1 k2 k3 : List Key} (h1 : Frame k1 k2) (h2 : Frame k2 k3) : Frame k1 k3 :=
  ⟨fun x => (h2.ci x).trans (h1.ci x), h2.pinv, h2.nodup, fun h => h2.idOK (h1.idOK h),
    fun x hx hh => h1.homo_mem x (h2.homo_mem x hx hh) hh, fun x hx hr => h1.rw_mem x (h2.rw_mem x hx hr) hr⟩

theorem Frame.noHomo {keys keys' : List Key} (h : Frame keys keys') (hn : noHomo keys) : noHomo keys' := by
  intro x hx
  cases hh : isHomoFwd x with
  | false => rfl
  | true => rw [← hn x (h.homo_mem x hx hh), hh]

theorem Frame.noRw {keys keys' : List Key} (h : Frame keys keys') (hn : noRw keys) : noRw keys' := by
  intro x hx
  cases hr : rewritable x with
  | false => rfl
  | true => rw [← hn x (h.rw_mem x hx hr), hr]

theorem erase_homo_pair {keys : List Key} (id : Nat) (v : Bytes) (hp : PInv keys) (hn : keys.Nodup) :
    Frame keys (eraseKey (.idAttr id aHomo v) (eraseKey (.plain id aHomo v) keys)) := by
  have sub : ∀ x ∈ eraseKey (.idAttr id aHomo v) (eraseKey (.plain id aHomo v) keys), x ∈ keys :=
    fun x hx => (mem_eraseKey.1 (mem_eraseKey.1 hx).1).1
  refine ⟨fun x => ?_, hp.erasePair (.plain id aHomo v), nodup_eraseKey (nodup_eraseKey hn),
    fun hid i w h => hid i w (sub _ h), fun x hx _ => sub x hx, fun x hx _ => sub x hx⟩
  rw [CI_erase_none (canon_idAttr_homo id v), CI_erase_none (canon_plain_homo id v)]

theorem applyRewrite_plain {id : Nat} {v d : Bytes} (hd : newAssoc v = some d) (l : List Key) :
    applyRewrite l (.plain id aAssoc v) =
      eraseKey (.idAttr id aAssoc v) (eraseKey (.plain id aAssoc v)
        (insertKey (.idAttr id aAssoc d) (insertKey (.plain id aAssoc d) l))) := by
  simp [applyRewrite, rewriteOf, hd]

theorem mem_applyRewrite {id : Nat} {v d : Bytes} (hd : newAssoc v = some d) {l : List Key} {x : Key} :
    x ∈ applyRewrite l (.plain id aAssoc v) ↔
      ((x = .idAttr id aAssoc d ∨ x = .plain id aAssoc d ∨ x ∈ l) ∧ x ≠ .plain id aAssoc v) ∧ x ≠ .idAttr id aAssoc v := by
  rw [applyRewrite_plain hd, mem_eraseKey, mem_eraseKey, mem_insertKey, mem_insertKey]

theorem rewrite_one {keys : List Key} (id : Nat) (v d : Bytes) (hd : newAssoc v = some d)
    (hk : Key.plain id aAssoc v ∈ keys) (hp : PInv keys) (hn : keys.Nodup) :
    Frame keys (applyRewrite keys (.plain id aAssoc v)) := by
  obtain ⟨hdl, hvl⟩ := newAssoc_some hd
  have hdv : d ≠ v := by rintro rfl; exact hvl hdl
  have hcd : newAssoc d = none := newAssoc_of_len32 hdl
  refine ⟨fun x => ?_, ?_, ?_, fun hid i w h => ?_, fun x hx hh => ?_, fun x hx hr => ?_⟩
  · have cf : canon (.plain id aAssoc d) = canon (.plain id aAssoc v) := by
      rw [canon_plain_assoc, canon_plain_assoc, hd, hcd]; rfl
    have cr : canon (.idAttr id aAssoc d) = canon (.idAttr id aAssoc v) := by
      rw [canon_idAttr_assoc, canon_idAttr_assoc, hd, hcd]; rfl
    rw [applyRewrite_plain hd,
      CI_erase_dup (e' := .idAttr id aAssoc d) (mem_eraseKey.2 ⟨mem_insertKey.2 (Or.inl rfl), by nofun⟩)
        (fun e => hdv (by cases e; rfl)) cr,
      CI_erase_dup (e' := .plain id aAssoc d) (mem_insertKey.2 (Or.inr (mem_insertKey.2 (Or.inl rfl))))
        (fun e => hdv (by cases e; rfl)) cf,
      CI_insert_dup (e' := .idAttr id aAssoc v) (mem_insertKey.2 (Or.inr (hp.fwdRev id v hk))) cr.symm,
      CI_insert_dup hk cf.symm]
  · rw [applyRewrite_plain hd]; exact (hp.insertPair (.plain id aAssoc d)).erasePair (.plain id aAssoc v)
  · rw [applyRewrite_plain hd]; exact nodup_eraseKey (nodup_eraseKey (nodup_insertKey (nodup_insertKey hn)))
  · rcases ((mem_applyRewrite hd).1 h).1.1 with e | e | h
    · cases e
    · cases e; exact hid _ _ hk
    · exact hid _ _ h
  · rcases ((mem_applyRewrite hd).1 hx).1.1 with rfl | rfl | h
    · cases hh
    · simp [isHomoFwd, aHomo_ne_aAssoc.symm] at hh
    · exact h
  · rcases ((mem_applyRewrite hd).1 hx).1.1 with rfl | rfl | h
    · cases hr
    · simp [rewritable, hcd] at hr
    · exact h

/-- `W`: the kind of key the operation works on; it takes its key out and leaves the others of the kind in -/
theorem foldl_frame {op : List Key → Key → List Key} {W : Key → Bool}
    (hW : ∀ {keys keys' : List Key}, Frame keys keys' → ∀ x ∈ keys', W x = true → x ∈ keys)
    (hop : ∀ keys k, PInv keys → keys.Nodup → k ∈ keys → W k = true →
      Frame keys (op keys k) ∧ k ∉ op keys k ∧ ∀ k' ∈ keys, W k' = true → k' ≠ k → k' ∈ op keys k) :
    ∀ (ks keys : List Key), PInv keys → keys.Nodup → ks.Nodup → (∀ k ∈ ks, k ∈ keys ∧ W k = true) →
      Frame keys (ks.foldl op keys) ∧ ∀ k ∈ ks, k ∉ ks.foldl op keys := by
  intro ks
  induction ks with
  | nil => intro keys hp hn _ _; exact ⟨Frame.refl hp hn, nofun⟩
  | cons k ks ih =>
    intro keys hp hn hnd hks
    obtain ⟨hkn, hnd'⟩ := List.nodup_cons.1 hnd
    obtain ⟨hk, hwk⟩ := hks k (List.mem_cons_self ..)
    obtain ⟨f1, gone, stay⟩ := hop keys k hp hn hk hwk
    obtain ⟨f2, gone'⟩ := ih (op keys k) f1.pinv f1.nodup hnd' fun k' hk' =>
      have ⟨h1, h2⟩ := hks k' (List.mem_cons_of_mem _ hk')
      ⟨stay k' h1 h2 (fun e => hkn (e ▸ hk')), h2⟩
    refine ⟨f1.trans f2, fun k' hk' hin => ?_⟩
    rcases List.mem_cons.1 hk' with rfl | hk'
    · exact gone (hW f2 _ hin hwk)
    · exact gone' k' hk' hin

theorem foldl_erase_homo (ks keys : List Key) (hp : PInv keys) (hn : keys.Nodup) (hnd : ks.Nodup)
    (hks : ∀ k ∈ ks, k ∈ keys ∧ isHomoFwd k = true) :
    Frame keys (ks.foldl (fun l k => eraseKey (homoRev k) (eraseKey k l)) keys) ∧
      ∀ k ∈ ks, k ∉ ks.foldl (fun l k => eraseKey (homoRev k) (eraseKey k l)) keys := by
  refine foldl_frame (W := isHomoFwd) (fun h => h.homo_mem) ?_ ks keys hp hn hnd hks
  intro keys k hp hn _ hw
  obtain ⟨id, v, rfl⟩ := isHomoFwd_iff.1 hw
  refine ⟨erase_homo_pair id v hp hn, fun h => (mem_eraseKey.1 (mem_eraseKey.1 h).1).2 rfl, fun k' hk' hw' hne => ?_⟩
  obtain ⟨i, w, rfl⟩ := isHomoFwd_iff.1 hw'
  exact mem_eraseKey.2 ⟨mem_eraseKey.2 ⟨hk', hne⟩, nofun⟩

theorem dropHomoBkt_spec (b : Bkt) (a : Option Bytes) (rem : Nat) (hp : PInv b.keys) (hn : b.keys.Nodup) :
    Frame b.keys (dropHomoBkt b a rem).1.keys ∧
    (dropHomoBkt b a rem).2.1 ≤ rem ∧ (dropHomoBkt b a rem).2.2 = none ∧
    ((dropHomoBkt b a rem).2.1 < rem → noHomo (dropHomoBkt b a rem).1.keys) := by
  have hmem : ∀ k, k ∈ sortKeys (b.keys.filter isHomoFwd) ↔ k ∈ b.keys ∧ isHomoFwd k = true :=
    fun k => mem_sortKeys.trans List.mem_filter
  have hnd : (sortKeys (b.keys.filter isHomoFwd)).Nodup := (List.mergeSort_perm _ _).nodup_iff.2 (hn.filter _)
  obtain ⟨f, gone⟩ := foldl_erase_homo ((sortKeys (b.keys.filter isHomoFwd)).take rem) b.keys hp hn
    (hnd.sublist (List.take_sublist ..)) (fun k hk => (hmem k).1 (List.mem_of_mem_take hk))
  refine ⟨f, ?_, rfl, fun hlt x hx => ?_⟩
  · simp only [dropHomoBkt, List.length_take]; exact Nat.min_le_left ..
  · simp only [dropHomoBkt, List.length_take] at hlt
    cases hh : isHomoFwd x with
    | false => rfl
    | true =>
      have : x ∈ (sortKeys (b.keys.filter isHomoFwd)).take rem := by
        rw [List.take_of_length_le (by omega)]; exact (hmem x).2 ⟨f.homo_mem x hx hh, hh⟩
      exact absurd hx (gone x this)

theorem foldl_rewrite (us keys : List Key) (hp : PInv keys) (hn : keys.Nodup) (hnd : us.Nodup)
    (hus : ∀ u ∈ us, u ∈ keys ∧ rewritable u = true) :
    Frame keys (us.foldl applyRewrite keys) ∧ ∀ u ∈ us, u ∉ us.foldl applyRewrite keys := by
  refine foldl_frame (W := rewritable) (fun h => h.rw_mem) ?_ us keys hp hn hnd hus
  intro keys k hp hn hk hw
  obtain ⟨id, v, d, rfl, hd⟩ := rewritable_iff.1 hw
  refine ⟨rewrite_one id v d hd hk hp hn, fun h => ((mem_applyRewrite hd).1 h).1.2 rfl, fun k' hk' hw' hne => ?_⟩
  obtain ⟨i, w, _, rfl, _⟩ := rewritable_iff.1 hw'
  exact (mem_applyRewrite hd).2 ⟨⟨Or.inr (Or.inr hk'), hne⟩, nofun⟩

theorem assocWalk_spec (l : List Key) (rem : Nat) :
    (assocWalk rem l).1.Sublist l ∧ ∀ u ∈ (assocWalk rem l).1, rewritable u = true := by
  fun_induction assocWalk rem l with
  | case1 => exact ⟨.slnil, fun _ h => (List.not_mem_nil h).elim⟩
  | case2 rem k ks hr h1 =>
    exact ⟨(List.nil_sublist ks).cons_cons k, List.forall_mem_cons.2 ⟨hr, fun _ h => (List.not_mem_nil h).elim⟩⟩
  | case3 rem k ks hr h1 r ih => exact ⟨ih.1.cons_cons k, List.forall_mem_cons.2 ⟨hr, ih.2⟩⟩
  | case4 rem k ks hr r ih => exact ⟨ih.1.cons k, ih.2⟩

theorem mem_assocScan {keys : List Key} {after : Option Bytes} {k : Key} :
    k ∈ assocScan keys after ↔ k ∈ keys ∧ isAssocFwd k = true ∧ (∀ a, after = some a → lexCmp k.bytes a = .gt) := by
  unfold assocScan
  rw [mem_sortKeys, List.mem_filter, List.mem_filter]
  cases after with
  | none => simp
  | some a => simp [and_assoc]

theorem nodup_assocScan {keys : List Key} (after : Option Bytes) (hn : keys.Nodup) : (assocScan keys after).Nodup :=
  (List.mergeSort_perm _ _).nodup_iff.2 ((hn.filter _).filter _)

theorem assocWalk_keys (b : Bkt) (after : Option Bytes) (rem : Nat) (hn : b.keys.Nodup) :
    (assocWalk rem (assocScan b.keys after)).1.Nodup ∧
      ∀ u ∈ (assocWalk rem (assocScan b.keys after)).1, u ∈ b.keys ∧ rewritable u = true := by
  obtain ⟨s1, s2⟩ := assocWalk_spec (assocScan b.keys after) rem
  exact ⟨s1.nodup (nodup_assocScan after hn), fun u hu => ⟨(mem_assocScan.1 (s1.subset hu)).1, s2 u hu⟩⟩

theorem assocBkt_frame (b : Bkt) (a : Option Bytes) (n : Nat) (hp : PInv b.keys) (hn : b.keys.Nodup) :
    Frame b.keys (assocBkt b a n).1.keys :=
  (foldl_rewrite _ b.keys hp hn (assocWalk_keys b a n hn).1 (assocWalk_keys b a n hn).2).1

def GoodBkt (b : Bkt) : Prop := PInv b.keys ∧ b.keys.Nodup

def Good (l : List (Nat × Bkt)) : Prop := ∀ cb ∈ l, GoodBkt cb.2

/-- what `Inv2` says of the buckets besides their order -/
def GoodIds (l : List (Nat × Bkt)) : Prop := ∀ cb ∈ l, GoodBkt cb.2 ∧ IdOK cb.2.keys

theorem GoodIds.good {l : List (Nat × Bkt)} (h : GoodIds l) : Good l := fun cb hcb => (h cb hcb).1

/-- what a committed transaction does to a bucket -/
def Tx (x y : Nat × Bkt) : Prop := y.1 = x.1 ∧ y.2.red = x.2.red ∧ (GoodBkt x.2 → Frame x.2.keys y.2.keys)

theorem Tx.refl (x : Nat × Bkt) : Tx x x := ⟨rfl, rfl, fun h => Frame.refl h.1 h.2⟩

theorem Tx.trans {x y z : Nat × Bkt} (h1 : Tx x y) (h2 : Tx y z) : Tx x z :=
  ⟨h2.1.trans h1.1, h2.2.1.trans h1.2.1, fun hg =>
    have f := h1.2.2 hg
    f.trans (h2.2.2 ⟨f.pinv, f.nodup⟩)⟩

theorem forall₂_tx_refl (l : List (Nat × Bkt)) : List.Forall₂ Tx l l := List.forall₂_same.2 fun x _ => Tx.refl x

theorem forall₂_tx_trans {a b c : List (Nat × Bkt)} (h1 : List.Forall₂ Tx a b) (h2 : List.Forall₂ Tx b c) :
    List.Forall₂ Tx a c := by
  induction h1 generalizing c with
  | nil => cases h2; exact .nil
  | cons hxy _ ih =>
    cases h2 with
    | cons hyz t => exact .cons (hxy.trans hyz) (ih t)

theorem forall₂_mem_right {α β : Type} {R : α → β → Prop} {l : List α} {l' : List β} (h : List.Forall₂ R l l') :
    ∀ y ∈ l', ∃ x ∈ l, R x y := by
  induction h with
  | nil => nofun
  | cons hxy _ ih =>
    intro y hy
    rcases List.mem_cons.1 hy with rfl | hy
    · exact ⟨_, List.mem_cons_self .., hxy⟩
    · obtain ⟨x, hx, hr⟩ := ih y hy
      exact ⟨x, List.mem_cons_of_mem _ hx, hr⟩

theorem forall₂_mem_left {α β : Type} {R : α → β → Prop} {l : List α} {l' : List β} (h : List.Forall₂ R l l') :
    ∀ x ∈ l, ∃ y ∈ l', R x y :=
  forall₂_mem_right (R := flip R) h.flip

theorem tx_cids {l l' : List (Nat × Bkt)} (h : List.Forall₂ Tx l l') : l'.map (·.1) = l.map (·.1) := by
  induction h with
  | nil => rfl
  | cons hxy _ ih => rw [List.map_cons, List.map_cons, hxy.1, ih]

theorem tx_keeps {l l' : List (Nat × Bkt)} (h : List.Forall₂ Tx l l') (hg : Good l) {P : Nat → List Key → Prop}
    (hP : ∀ c keys keys', Frame keys keys' → P c keys → P c keys') (hl : ∀ cb ∈ l, P cb.1 cb.2.keys) :
    ∀ cb ∈ l', P cb.1 cb.2.keys := by
  intro y hy
  obtain ⟨x, hx, e, _, f⟩ := forall₂_mem_right h y hy
  rw [e]
  exact hP _ _ _ (f (hg x hx)) (hl x hx)

theorem tx_good {l l' : List (Nat × Bkt)} (h : List.Forall₂ Tx l l') (hg : Good l) : Good l' := by
  intro y hy
  obtain ⟨x, hx, _, _, f⟩ := forall₂_mem_right h y hy
  exact ⟨(f (hg x hx)).pinv, (f (hg x hx)).nodup⟩

theorem iterBkts_tx (ex : Nat → Bool) (f : BktStep) (frm : Nat)
    (hf : ∀ b a n, GoodBkt b → Frame b.keys (f b a n).1.keys) (hred : ∀ b a n, (f b a n).1.red = b.red)
    (l : List (Nat × Bkt)) (after : Option Bytes) (rem : Nat) : List.Forall₂ Tx l (iterBkts ex f frm l after rem).1 := by
  fun_induction iterBkts ex f frm l after rem with
  | case1 => exact .nil
  | case2 c b rest after rem _ _ ih => exact .cons (Tx.refl _) ih
  | case3 c b rest after rem => exact .cons ⟨rfl, hred b after rem, hf b after rem⟩ (forall₂_tx_refl rest)
  | case4 c b rest after rem _ _ _ _ ih => exact .cons ⟨rfl, hred b after rem, hf b after rem⟩ ih

theorem syncAll_tx (l : List (Nat × Bkt)) : List.Forall₂ Tx l (syncAll l) := by
  unfold syncAll
  rw [List.forall₂_map_right_iff]
  exact List.forall₂_same.2 fun x _ => ⟨rfl, rfl, fun h => Frame.refl h.1 h.2⟩

theorem step_tx (ex : Nat → Bool) (B : Nat) (r : Run) : List.Forall₂ Tx r.db.bkts (step ex B r).db.bkts := by
  unfold step
  split
  · exact syncAll_tx _
  · exact iterBkts_tx ex dropHomoBkt _ (fun b a n hg => (dropHomoBkt_spec b a n hg.1 hg.2).1) (fun _ _ _ => rfl) _ _ _
  · exact iterBkts_tx ex assocBkt _ (fun b a n hg => assocBkt_frame b a n hg.1 hg.2) (fun _ _ _ => rfl) _ _ _
  · exact syncAll_tx _
  · exact forall₂_tx_refl _
  · exact forall₂_tx_refl _

theorem steps_tx (ex : Nat → Bool) (B : Nat) : ∀ (n : Nat) (r : Run), List.Forall₂ Tx r.db.bkts (steps ex B n r).db.bkts
  | 0, _ => forall₂_tx_refl _
  | n + 1, r => forall₂_tx_trans (step_tx ex B r) (steps_tx ex B n _)

theorem start_none {db : DB} (hv : db.version = none) :
    start db = ⟨{ db with version := some currentVersion }, .done⟩ := by
  unfold start; rw [hv]

theorem start_v9 {db : DB} (hv : db.version = some 9) : start db = ⟨db, .v9⟩ := by
  unfold start; simp [hv, currentVersion]

theorem start_v10 {db : DB} (hv : db.version = some 10) : start db = ⟨db, .homo none⟩ := by
  unfold start; simp [hv, currentVersion]

theorem start_current {db : DB} (hv : db.version = some 11) : start db = ⟨db, .done⟩ := by
  unfold start; simp [hv, currentVersion]

theorem start_refused {db : DB} {v : Nat} (hv : db.version = some v) (h : v ≠ 9 ∧ v ≠ 10 ∧ v ≠ 11) :
    start db = ⟨db, .refused⟩ := by
  unfold start; simp [hv, currentVersion, h.1, h.2.1, h.2.2]

theorem steps_of_done_or_refused (ex : Nat → Bool) (B : Nat) (r : Run) (h : r.ph = .done ∨ r.ph = .refused) :
    ∀ n, steps ex B n r = r := by
  intro n
  induction n with
  | zero => rfl
  | succ n ih =>
    have : step ex B r = r := by
      unfold step
      rcases h with h | h <;> rw [h]
    simp only [steps, this, ih]

theorem start_bkts (db : DB) : (start db).db.bkts = db.bkts := by
  unfold start
  cases db.version <;> simp only [apply_ite Run.db, ite_self]

theorem absOld_congr (ex : Nat → Bool) {db db' : DB} (h : List.Forall₂ Tx db.bkts db'.bkts) (hg : Good db.bkts) :
    absOld ex db' = absOld ex db := by
  have fwd : ∀ c b, (c, b) ∈ db.bkts →
      ∃ b', (c, b') ∈ db'.bkts ∧ b'.red = b.red ∧ ∀ k, CI b'.keys k ↔ CI b.keys k := by
    intro c b hm
    obtain ⟨⟨c', b'⟩, hy, e1, e2, f⟩ := forall₂_mem_left h _ hm
    cases e1
    exact ⟨b', hy, e2, (f (hg _ hm)).ci⟩
  have bwd : ∀ c b', (c, b') ∈ db'.bkts →
      ∃ b, (c, b) ∈ db.bkts ∧ b'.red = b.red ∧ ∀ k, CI b'.keys k ↔ CI b.keys k := by
    intro c b' hm
    obtain ⟨⟨c', b⟩, hx, e1, e2, f⟩ := forall₂_mem_right h _ hm
    cases e1
    exact ⟨b, hx, e2, (f (hg _ hx)).ci⟩
  unfold absOld
  congr 1
  · funext c k
    refine propext (and_congr_right fun _ => ⟨fun ⟨b', hm, hc⟩ => ?_, fun ⟨b, hm, hc⟩ => ?_⟩)
    · obtain ⟨b, hb, _, e⟩ := bwd c b' hm
      exact ⟨b, hb, (e k).1 hc⟩
    · obtain ⟨b', hb, _, e⟩ := fwd c b hm
      exact ⟨b', hb, (e k).2 hc⟩
  · funext c ids
    refine propext (and_congr_right fun _ => ⟨fun ⟨b', hm, hc⟩ => ?_, fun ⟨b, hm, hc⟩ => ?_⟩)
    · obtain ⟨b, hb, e, _⟩ := bwd c b' hm
      exact ⟨b, hb, e.symm.trans hc⟩
    · obtain ⟨b', hb, e, _⟩ := fwd c b hm
      exact ⟨b', hb, e.trans hc⟩

theorem complete_CI {keys : List Key} (h : complete keys = true) (k : Key) : CI keys k ↔ k ∈ keys := by
  unfold complete at h
  rw [List.all_eq_true] at h
  constructor
  · rintro ⟨k0, hk0, hc⟩
    have := h k0 hk0
    simp only [beq_iff_eq] at this
    rw [this] at hc; cases hc; exact hk0
  · intro hk
    exact ⟨k, hk, by simpa using h k hk⟩

theorem absNew_eq_absOld (ex : Nat → Bool) (db : DB) (h : completeDB ex db = true) : absNew ex db = absOld ex db := by
  unfold completeDB at h
  rw [List.all_eq_true] at h
  unfold absNew absOld
  congr 1
  funext c k
  refine propext (and_congr_right fun hc => exists_congr fun b => and_congr_right fun hm => ?_)
  have := h (c, b) hm
  simp only [hc, Bool.not_true, Bool.false_or] at this
  exact (complete_CI this k).symm

/-! ## Completeness: the cursors leave nothing behind -/

/-- every key still to be rewritten lies behind the in-bucket cursor `a` -/
def rwAfter (keys : List Key) (a : Bytes) : Prop := ∀ k ∈ keys, rewritable k = true → lexCmp k.bytes a = .gt

theorem oidBytes_inj {a b : Nat} (ha : a < 256 ^ 32) (hb : b < 256 ^ 32) (h : oidBytes a = oidBytes b) : a = b := by
  rw [← fromBE_beBytes 32 a ha, ← fromBE_beBytes 32 b hb]
  exact congrArg fromBE h

theorem assoc_bytes_inj {id id' : Nat} {v v' : Bytes} (h1 : id < 256 ^ 32) (h2 : id' < 256 ^ 32)
    (h : (Key.plain id aAssoc v).bytes = (Key.plain id' aAssoc v').bytes) : Key.plain id aAssoc v = Key.plain id' aAssoc v' := by
  simp only [Key.bytes, List.cons.injEq, true_and] at h
  have h' : v ++ (0 :: oidBytes id) = v' ++ (0 :: oidBytes id') := by simpa using List.append_cancel_left h
  have hl : (0 :: oidBytes id).length = (0 :: oidBytes id').length := by
    simp [oidBytes, beBytes_length]
  obtain ⟨e1, e2⟩ := List.append_inj' h' hl
  rw [e1, oidBytes_inj h1 h2 (List.cons.inj e2).2]

/-- `R`: the order of the scan -/
theorem assocWalk_cursor {R : Key → Key → Prop} (l : List Key) (rem : Nat) (hl : l.Pairwise R) (hrem : 1 ≤ rem) :
    (assocWalk rem l).1.length ≤ rem ∧
    ((assocWalk rem l).1.length < rem → ∀ x ∈ l, rewritable x = true → x ∈ (assocWalk rem l).1) ∧
    ((assocWalk rem l).1.length = rem → ∃ k ∈ l, (assocWalk rem l).2 = some k ∧
        ∀ x ∈ l, rewritable x = true → x ∉ (assocWalk rem l).1 → R k x) := by
  fun_induction assocWalk rem l with
  | case1 rem =>
    refine ⟨Nat.zero_le _, fun _ _ hx => (List.not_mem_nil hx).elim, fun heq => ?_⟩
    have : 0 = rem := heq
    subst this
    exact absurd hrem (Nat.not_succ_le_zero 0)
  | case2 rem k ks hr h1 =>
    obtain rfl : rem = 1 := Nat.le_antisymm h1 hrem
    refine ⟨Nat.le_refl _, fun h => absurd h (Nat.lt_irrefl _),
      fun _ => ⟨k, List.mem_cons_self .., rfl, fun x hx _ hn => ?_⟩⟩
    rcases List.mem_cons.1 hx with rfl | hx
    · exact absurd (List.mem_singleton.2 rfl) hn
    · exact (List.pairwise_cons.1 hl).1 x hx
  | case3 rem k ks hr h1 r ih =>
    obtain ⟨i1, i2, i3⟩ := ih (List.pairwise_cons.1 hl).2 (Nat.le_sub_one_of_lt (Nat.lt_of_not_le h1))
    refine ⟨Nat.add_le_of_le_sub hrem i1, fun hlt x hx hrx => ?_, fun heq => ?_⟩
    · rcases List.mem_cons.1 hx with rfl | hx
      · exact List.mem_cons_self ..
      · exact List.mem_cons_of_mem _ (i2 (Nat.lt_sub_of_add_lt hlt) x hx hrx)
    · obtain ⟨k', hm, e, hk'⟩ := i3 (Nat.eq_sub_of_add_eq heq)
      refine ⟨k', List.mem_cons_of_mem _ hm, by rw [e]; rfl, fun x hx hrx hn => ?_⟩
      rcases List.mem_cons.1 hx with rfl | hx
      · exact absurd (List.mem_cons_self ..) hn
      · exact hk' x hx hrx fun h => hn (List.mem_cons_of_mem _ h)
  | case4 rem k ks hr r ih =>
    obtain ⟨i1, i2, i3⟩ := ih (List.pairwise_cons.1 hl).2 hrem
    refine ⟨i1, fun hlt x hx hrx => ?_, fun heq => ?_⟩
    · rcases List.mem_cons.1 hx with rfl | hx
      · exact absurd hrx hr
      · exact i2 hlt x hx hrx
    · obtain ⟨k', hm, e, hk'⟩ := i3 heq
      refine ⟨k', List.mem_cons_of_mem _ hm, by rw [e]; rfl, fun x hx hrx hn => ?_⟩
      rcases List.mem_cons.1 hx with rfl | hx
      · exact absurd hrx hr
      · exact hk' x hx hrx hn
theorem assocBkt_spec (b : Bkt) (after : Option Bytes) (rem : Nat) (hrem : 1 ≤ rem) (hg : GoodBkt b) (hid : IdOK b.keys)
    (hafter : ∀ a, after = some a → rwAfter b.keys a) :
    (assocBkt b after rem).2.1 ≤ rem ∧
    ((assocBkt b after rem).2.1 < rem → (assocBkt b after rem).2.2 = none ∧ noRw (assocBkt b after rem).1.keys) ∧
    ((assocBkt b after rem).2.1 = rem → ∀ a', (assocBkt b after rem).2.2 = some a' → rwAfter (assocBkt b after rem).1.keys a') := by
  obtain ⟨hnd, hus⟩ := assocWalk_keys b after rem hg.2
  obtain ⟨f, gone⟩ := foldl_rewrite _ b.keys hg.1 hg.2 hnd hus
  have hsorted : (assocScan b.keys after).Pairwise (fun a b => bLe a.bytes b.bytes ∧ a ≠ b) :=
    (sortKeys_pairwise _).and (nodup_assocScan after hg.2)
  obtain ⟨w1, w2, w3⟩ := assocWalk_cursor (assocScan b.keys after) rem hsorted hrem
  have left : ∀ x ∈ (assocBkt b after rem).1.keys, rewritable x = true →
      x ∈ b.keys ∧ x ∈ assocScan b.keys after ∧ x ∉ (assocWalk rem (assocScan b.keys after)).1 := by
    intro x hx hrx
    have hxk := f.rw_mem x hx hrx
    exact ⟨hxk, mem_assocScan.2 ⟨hxk, rewritable_assocFwd hrx, fun a ha => hafter a ha x hxk hrx⟩, fun h => gone x h hx⟩
  refine ⟨w1, fun hlt => ⟨if_pos hlt, fun x hx => ?_⟩, fun heq a' ha' x hx hrx => ?_⟩
  · cases hrx : rewritable x with
    | false => rfl
    | true =>
      obtain ⟨_, h2, h3⟩ := left x hx hrx
      exact absurd (w2 hlt x h2 hrx) h3
  · have hlen : (assocWalk rem (assocScan b.keys after)).1.length = rem := heq
    obtain ⟨k, hkL, e, hk⟩ := w3 hlen
    obtain ⟨h1, h2, h3⟩ := left x hx hrx
    obtain ⟨hle, hne⟩ := hk x h2 hrx h3
    obtain rfl : a' = k.bytes := by
      have : (assocBkt b after rem).2.2 = some k.bytes := by
        simp only [assocBkt]; rw [if_neg (Nat.not_lt_of_le (Nat.le_of_eq hlen.symm)), e]; rfl
      exact Option.some.inj (ha'.symm.trans this)
    -- distinct associate keys have distinct bytes
    obtain ⟨ik, vk, rfl⟩ := isAssocFwd_iff.1 (mem_assocScan.1 hkL).2.1
    obtain ⟨ix, vx, rfl⟩ := isAssocFwd_iff.1 (rewritable_assocFwd hrx)
    rcases (bLe_iff_lt_or_eq _ _).1 hle with h | h
    · exact (lexCmp_gt_iff _ _).2 h
    · exact absurd (assoc_bytes_inj (hid _ _ (mem_assocScan.1 hkL).1) (hid _ _ h1) h) hne

/-- what a bucket step guarantees: it is a frame; `P` = the bucket is finished, `Q keys a` =
everything left to do in the bucket lies behind the in-bucket cursor `a` -/
structure CurSpec (f : BktStep) (P : List Key → Prop) (Q : List Key → Bytes → Prop) : Prop where
  frame : ∀ b a n, GoodBkt b → Frame b.keys (f b a n).1.keys
  red : ∀ b a n, (f b a n).1.red = b.red
  step : ∀ b after rem, 1 ≤ rem → GoodBkt b → IdOK b.keys → (∀ a, after = some a → Q b.keys a) →
    (f b after rem).2.1 ≤ rem ∧
    ((f b after rem).2.1 < rem → (f b after rem).2.2 = none ∧ P (f b after rem).1.keys) ∧
    ((f b after rem).2.1 = rem → ∀ a', (f b after rem).2.2 = some a' → Q (f b after rem).1.keys a')

def SortedBkts (l : List (Nat × Bkt)) : Prop := l.Pairwise (fun x y => x.1 < y.1)

def Live (ex : Nat → Bool) (P : List Key → Prop) (l : List (Nat × Bkt)) : Prop :=
  ∀ c b, (c, b) ∈ l → ex c = true → P b.keys

def LiveBefore (ex : Nat → Bool) (P : List Key → Prop) (l : List (Nat × Bkt)) (c' : Nat) : Prop :=
  ∀ c b, (c, b) ∈ l → ex c = true → c < c' → P b.keys

/-- the in-bucket cursor `a` of bucket `c` is sound -/
def CursorAt (ex : Nat → Bool) (Q : List Key → Bytes → Prop) (l : List (Nat × Bkt)) (c : Nat) (a : Bytes) : Prop :=
  ex c = true ∧ c ∈ l.map (·.1) ∧ ∀ b, (c, b) ∈ l → Q b.keys a

/-- what a transaction's bucket loop leaves -/
def CursorPost (ex : Nat → Bool) (P : List Key → Prop) (Q : List Key → Bytes → Prop) (r : List (Nat × Bkt) × Cursor) : Prop :=
  match r.2 with
  | none => Live ex P r.1
  | some (c', a') => LiveBefore ex P r.1 c' ∧ ∀ a, a' = some a → CursorAt ex Q r.1 c' a

theorem CursorPost.cons {ex : Nat → Bool} {P : List Key → Prop} {Q : List Key → Bytes → Prop} {c : Nat} {b : Bkt}
    {r : List (Nat × Bkt) × Cursor} (h : CursorPost ex P Q r) (head : ex c = true → P b.keys)
    (hlt : ∀ c' ∈ r.1.map (·.1), c < c') : CursorPost ex P Q ((c, b) :: r.1, r.2) := by
  obtain ⟨l', cur⟩ := r
  cases cur with
  | none =>
    intro c1 b1 hm he
    rcases List.mem_cons.1 hm with e | hm
    · cases e; exact head he
    · exact h c1 b1 hm he
  | some cc =>
    obtain ⟨c', a'⟩ := cc
    refine ⟨fun c1 b1 hm he hl => ?_, fun a ha => ?_⟩
    · rcases List.mem_cons.1 hm with e | hm
      · cases e; exact head he
      · exact h.1 c1 b1 hm he hl
    · obtain ⟨j1, j2, j3⟩ := h.2 a ha
      refine ⟨j1, List.mem_cons_of_mem _ j2, fun b1 hm => ?_⟩
      rcases List.mem_cons.1 hm with e | hm
      · cases e; exact absurd (hlt _ j2) (Nat.lt_irrefl _)
      · exact j3 b1 hm

/-- from a sound cursor with everything before it finished to the same, or to no cursor and everything finished -/
theorem iterBkts_cursor (ex : Nat → Bool) (f : BktStep) (frm : Nat) {P : List Key → Prop} {Q : List Key → Bytes → Prop}
    (hf : CurSpec f P Q) :
    ∀ (l : List (Nat × Bkt)) (after : Option Bytes) (rem : Nat), 1 ≤ rem → SortedBkts l →
      GoodIds l → LiveBefore ex P l frm → (∀ a, after = some a → CursorAt ex Q l frm a) →
      CursorPost ex P Q (iterBkts ex f frm l after rem) := by
  intro l
  induction l with
  | nil => intro _ _ _ _ _ _ _; exact fun _ _ h => (List.not_mem_nil h).elim
  | cons x xs ih =>
    intro after rem hrem hs hG hbef hpre
    obtain ⟨c, b⟩ := x
    obtain ⟨hcx, hsx⟩ := List.pairwise_cons.1 hs
    have hlt : ∀ c', c' ∈ xs.map (·.1) → c < c' := by
      intro c' h
      obtain ⟨y, hy, rfl⟩ := List.mem_map.1 h
      exact hcx y hy
    have hlt' : ∀ a n, ∀ c' ∈ (iterBkts ex f frm xs a n).1.map (·.1), c < c' := fun a n c' h =>
      hlt c' (tx_cids (iterBkts_tx ex f frm hf.frame hf.red xs a n) ▸ h)
    have hGxs : GoodIds xs := fun cb h => hG cb (List.mem_cons_of_mem _ h)
    have hbefxs : LiveBefore ex P xs frm := fun c1 b1 h => hbef c1 b1 (List.mem_cons_of_mem _ h)
    -- the in-bucket cursor belongs to this bucket, or to a later one if this one is not visited
    have hfrm : ∀ a, after = some a → frm = c ∨ frm ∈ xs.map (·.1) := fun a ha => List.mem_cons.1 (hpre a ha).2.1
    unfold iterBkts
    by_cases hskip : (decide (c < frm) || !ex c) = true
    · rw [if_pos hskip]
      have hsk : ex c = true → c < frm := by
        intro he
        simpa [he] using hskip
      refine (ih after rem hrem hsx hGxs hbefxs fun a ha => ?_).cons
        (fun he => hbef c b (List.mem_cons_self ..) he (hsk he)) (hlt' after rem)
      obtain ⟨p1, _, p3⟩ := hpre a ha
      refine ⟨p1, (hfrm a ha).resolve_left fun e => ?_, fun b1 h1 => p3 b1 (List.mem_cons_of_mem _ h1)⟩
      exact absurd (hsk (e ▸ p1)) (e ▸ Nat.lt_irrefl _)
    · rw [if_neg hskip]
      dsimp only
      have hvis : ¬ c < frm ∧ ex c = true := by
        simpa using hskip
      have hQ : ∀ a, after = some a → Q b.keys a := by
        intro a ha
        rcases hfrm a ha with e | h
        · exact (hpre a ha).2.2 b (e ▸ List.mem_cons_self ..)
        · exact absurd (hlt _ h) hvis.1
      obtain ⟨hGb, hIb⟩ := hG (c, b) (List.mem_cons_self ..)
      obtain ⟨t1, t2, t3⟩ := hf.step b after rem hrem hGb hIb hQ
      by_cases hd : (f b after rem).2.1 = rem
      · -- budget used up: the cursor stays in this bucket
        rw [if_pos (by simpa using hd)]
        refine ⟨fun c1 b1 h _ hl => ?_, fun a ha => ⟨hvis.2, List.mem_cons_self .., fun b1 h => ?_⟩⟩
        · rcases List.mem_cons.1 h with e | h
          · cases e; exact absurd hl (Nat.lt_irrefl _)
          · exact absurd (Nat.lt_trans (hcx _ h) hl) (Nat.lt_irrefl _)
        · rcases List.mem_cons.1 h with e | h
          · cases e; exact t3 hd a ha
          · exact absurd (hcx _ h) (Nat.lt_irrefl _)
      · -- bucket finished: on with the rest of the budget
        rw [if_neg (by simpa using hd)]
        have hlt : (f b after rem).2.1 < rem := Nat.lt_of_le_of_ne t1 hd
        obtain ⟨u1, u2⟩ := t2 hlt
        exact (ih _ _ (Nat.sub_pos_of_lt hlt) hsx hGxs hbefxs (fun a ha => by rw [u1] at ha; cases ha)).cons
          (fun _ => u2) (hlt' _ _)

theorem homo_curSpec : CurSpec dropHomoBkt noHomo (fun _ _ => False) where
  frame b a n hg := (dropHomoBkt_spec b a n hg.1 hg.2).1
  red _ _ _ := rfl
  step b after rem _ hg _ _ := by
    obtain ⟨_, s1, s2, s3⟩ := dropHomoBkt_spec b after rem hg.1 hg.2
    exact ⟨s1, fun h => ⟨s2, s3 h⟩, fun _ a' ha' => by rw [s2] at ha'; cases ha'⟩

theorem assoc_curSpec : CurSpec assocBkt noRw rwAfter where
  frame b a n hg := assocBkt_frame b a n hg.1 hg.2
  red _ _ _ := rfl
  step := assocBkt_spec

def frmOf (cur : Cursor) : Nat := (cur.map (·.1)).getD 0

/-- the invariant of a run that upgrades (a refused database is not one) -/
def PI (ex : Nat → Bool) (r : Run) : Prop :=
  SortedBkts r.db.bkts ∧ GoodIds r.db.bkts ∧
  match r.ph with
  | .v9 => True
  | .homo cur => LiveBefore ex noHomo r.db.bkts (frmOf cur) ∧ cur.bind (·.2) = none
  | .assoc cur => Live ex noHomo r.db.bkts ∧ LiveBefore ex noRw r.db.bkts (frmOf cur) ∧
      ∀ a, cur.bind (·.2) = some a → CursorAt ex rwAfter r.db.bkts (frmOf cur) a
  | .final => Live ex noHomo r.db.bkts ∧ Live ex noRw r.db.bkts
  | .done => Live ex noHomo r.db.bkts ∧ Live ex noRw r.db.bkts
  | .refused => False

theorem tx_inv {l l' : List (Nat × Bkt)} (tx : List.Forall₂ Tx l l') (hs : SortedBkts l)
    (hG : GoodIds l) :
    SortedBkts l' ∧ GoodIds l' := by
  have hg : Good l := hG.good
  refine ⟨?_, fun cb h => ⟨tx_good tx hg cb h,
    tx_keeps tx hg (P := fun _ k => IdOK k) (fun _ _ _ f => f.idOK) (fun cb h => (hG cb h).2) cb h⟩⟩
  have h1 : (l.map (·.1)).Pairwise (· < ·) := List.pairwise_map.2 hs
  rw [← tx_cids tx] at h1
  exact List.pairwise_map.1 h1

theorem tx_live {l l' : List (Nat × Bkt)} (tx : List.Forall₂ Tx l l') (hg : Good l) {ex : Nat → Bool}
    {P : List Key → Prop} (hP : ∀ keys keys', Frame keys keys' → P keys → P keys') (h : Live ex P l) : Live ex P l' :=
  fun c b hm => tx_keeps tx hg (P := fun c k => ex c = true → P k) (fun _ _ _ f hk he => hP _ _ f (hk he))
    (fun cb hcb => h cb.1 cb.2 hcb) (c, b) hm

theorem batch_spec {ex : Nat → Bool} {f : BktStep} {P : List Key → Prop} {Q : List Key → Bytes → Prop} (hf : CurSpec f P Q)
    {B : Nat} (hB : 1 ≤ B) {l : List (Nat × Bkt)} (hs : SortedBkts l) (hG : GoodIds l)
    (cur : Cursor) (hbef : LiveBefore ex P l (frmOf cur)) (hpre : ∀ a, cur.bind (·.2) = some a → CursorAt ex Q l (frmOf cur) a) :
    List.Forall₂ Tx l (batch ex f B l cur).1 ∧ SortedBkts (batch ex f B l cur).1 ∧
      GoodIds (batch ex f B l cur).1 ∧ CursorPost ex P Q (batch ex f B l cur) :=
  have tx := iterBkts_tx ex f (frmOf cur) hf.frame hf.red l (cur.bind (·.2)) B
  ⟨tx, (tx_inv tx hs hG).1, (tx_inv tx hs hG).2, iterBkts_cursor ex f (frmOf cur) hf l _ B hB hs hG hbef hpre⟩

theorem step_PI (ex : Nat → Bool) (B : Nat) (hB : 1 ≤ B) (r : Run) (h : PI ex r) : PI ex (step ex B r) := by
  obtain ⟨db, ph⟩ := r
  obtain ⟨hs, hG, hph⟩ := h
  have hg : Good db.bkts := hG.good
  cases ph with
  | refused => exact hph.elim
  | done => exact ⟨hs, hG, hph⟩
  | v9 =>
    obtain ⟨hs', hG'⟩ := tx_inv (syncAll_tx db.bkts) hs hG
    exact ⟨hs', hG', fun _ _ _ _ hlt => absurd hlt (Nat.not_lt_zero _), rfl⟩
  | final =>
    obtain ⟨hs', hG'⟩ := tx_inv (syncAll_tx db.bkts) hs hG
    exact ⟨hs', hG', tx_live (syncAll_tx _) hg (fun _ _ f => f.noHomo) hph.1,
      tx_live (syncAll_tx _) hg (fun _ _ f => f.noRw) hph.2⟩
  | homo cur =>
    obtain ⟨_, hs', hG', cu⟩ := batch_spec homo_curSpec hB hs hG cur hph.1 (fun a ha => by rw [hph.2] at ha; cases ha)
    simp only [step]
    generalize batch ex dropHomoBkt B db.bkts cur = x at hs' hG' cu ⊢
    obtain ⟨l', cur'⟩ := x
    cases cur' with
    | none => exact ⟨hs', hG', cu, fun _ _ _ _ hlt => absurd hlt (Nat.not_lt_zero _), fun a ha => nomatch ha⟩
    | some cc =>
      obtain ⟨c', a'⟩ := cc
      refine ⟨hs', hG', cu.1, ?_⟩
      cases a' with
      | none => rfl
      | some a =>
        -- this phase's bucket step never leaves an in-bucket cursor
        obtain ⟨_, j2, j3⟩ := cu.2 a rfl
        obtain ⟨⟨_, b'⟩, hm, rfl⟩ := List.mem_map.1 j2
        exact (j3 b' hm).elim
  | assoc cur =>
    obtain ⟨tx, hs', hG', cu⟩ := batch_spec assoc_curSpec hB hs hG cur hph.2.1 hph.2.2
    have g1' := tx_live tx hg (fun _ _ f => f.noHomo) hph.1
    simp only [step]
    generalize batch ex assocBkt B db.bkts cur = x at hs' hG' g1' cu ⊢
    obtain ⟨l', cur'⟩ := x
    cases cur' with
    | none => exact ⟨hs', hG', g1', cu⟩
    | some cc => exact ⟨hs', hG', g1', cu⟩

theorem steps_PI (ex : Nat → Bool) (B : Nat) (hB : 1 ≤ B) : ∀ n r, PI ex r → PI ex (steps ex B n r)
  | 0, _, h => h
  | n + 1, r, h => steps_PI ex B hB n _ (step_PI ex B hB r h)

theorem complete_of_clean {keys : List Key} (hp : PInv keys) (h1 : noHomo keys) (h2 : noRw keys) : complete keys = true := by
  unfold complete
  rw [List.all_eq_true]
  intro k hk
  rw [beq_iff_eq]
  have nh : ∀ id v, Key.plain id aHomo v ∉ keys := fun id v hm => by
    have := h1 _ hm
    simp [isHomoFwd] at this
  have nr : ∀ id v, Key.plain id aAssoc v ∈ keys → (newAssoc v).getD v = v := by
    intro id v hm
    have := h2 _ hm
    simp only [rewritable, beq_self_eq_true, Bool.true_and] at this
    cases hn : newAssoc v with
    | none => rfl
    | some d => rw [hn] at this; cases this
  cases k with
  | plain id a v =>
    by_cases ha : a = aHomo
    · rw [ha] at hk; exact absurd hk (nh id v)
    · by_cases hb : a = aAssoc
      · rw [hb] at hk ⊢; rw [canon_plain_assoc, nr id v hk]
      · exact canon_plain_other ha hb id v
  | idAttr id a v =>
    by_cases ha : a = aHomo
    · rw [ha] at hk; exact absurd (hp.homoRevFwd id v hk) (nh id v)
    · by_cases hb : a = aAssoc
      · rw [hb] at hk ⊢; rw [canon_idAttr_assoc, nr id v (hp.revFwd id v hk)]
      · exact canon_idAttr_other ha hb id v
  | _ => rfl

theorem completeDB_of_clean (ex : Nat → Bool) (db : DB) (hg : Good db.bkts) (h1 : Live ex noHomo db.bkts)
    (h2 : Live ex noRw db.bkts) : completeDB ex db = true := by
  unfold completeDB
  rw [List.all_eq_true]
  intro cb hcb
  cases he : ex cb.1 with
  | false => rfl
  | true => exact complete_of_clean (hg cb hcb).1 (h1 cb.1 cb.2 hcb he) (h2 cb.1 cb.2 hcb he)

/-! ### the decidable invariant -/

theorem sortedCids_iff : ∀ l : List (Nat × Bkt), sortedCids l = true ↔ SortedBkts l
  | [] => by simp [sortedCids, SortedBkts]
  | x :: r => by
    unfold SortedBkts
    simp only [sortedCids, Bool.and_eq_true, List.all_eq_true, decide_eq_true_eq, List.pairwise_cons]
    rw [sortedCids_iff r]; rfl

theorem idOKb_iff (keys : List Key) : idOKb keys = true ↔ IdOK keys := by
  unfold idOKb IdOK
  rw [List.all_eq_true]
  constructor
  · intro h id v hm
    have := h _ hm
    simpa using this
  · intro h k hk
    cases k with
    | plain id a v =>
      by_cases ha : a = aAssoc
      · rw [ha] at hk ⊢; simpa using h id v hk
      · simp [ha]
    | _ => simp

theorem nodupKeys_iff : ∀ l : List Key, nodupKeys l = true ↔ l.Nodup
  | [] => by simp [nodupKeys]
  | k :: ks => by
    simp only [nodupKeys, Bool.and_eq_true, Bool.not_eq_true', List.nodup_cons, nodupKeys_iff ks]
    constructor
    · rintro ⟨h1, h2⟩; exact ⟨by simpa using h1, h2⟩
    · rintro ⟨h1, h2⟩; exact ⟨by simpa using h1, h2⟩

theorem inv_iff_good (db : DB) : Inv db = true ↔ Good db.bkts := by
  unfold Inv Good GoodBkt
  rw [List.all_eq_true]
  refine forall₂_congr fun cb _ => ?_
  rw [Bool.and_eq_true, bktInv_iff, nodupKeys_iff]

theorem inv2_iff (db : DB) :
    Inv2 db = true ↔ SortedBkts db.bkts ∧ GoodIds db.bkts := by
  unfold Inv2
  rw [Bool.and_eq_true, Bool.and_eq_true, inv_iff_good, sortedCids_iff, List.all_eq_true]
  constructor
  · rintro ⟨⟨h1, h2⟩, h3⟩
    exact ⟨h2, fun cb h => ⟨h1 cb h, (idOKb_iff _).1 (h3 cb h)⟩⟩
  · rintro ⟨h2, h⟩
    exact ⟨⟨fun cb hcb => (h cb hcb).1, h2⟩, fun cb hcb => (idOKb_iff _).2 (h cb hcb).2⟩

theorem inv_of_inv2 {db : DB} (h : Inv2 db = true) : Inv db = true :=
  (inv_iff_good db).2 fun cb hcb => (((inv2_iff db).1 h).2 cb hcb).1

theorem PI_start (ex : Nat → Bool) (old : DB) (h : Inv2 old = true)
    (hv : old.version = some 9 ∨ old.version = some 10) : PI ex (start old) := by
  obtain ⟨h2, h3⟩ := (inv2_iff old).1 h
  rcases hv with hv | hv
  · rw [start_v9 hv]; exact ⟨h2, h3, trivial⟩
  · rw [start_v10 hv]; exact ⟨h2, h3, fun _ _ _ _ hlt => absurd hlt (Nat.not_lt_zero _), rfl⟩

theorem PI_inv2 (ex : Nat → Bool) (r : Run) (h : PI ex r) : Inv2 r.db = true := (inv2_iff r.db).2 ⟨h.1, h.2.1⟩

end NeoFS.Migrate
