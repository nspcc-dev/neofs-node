import NeoFS.Props.C19
/-!
Induction over the listing for C19: what a remaining shard has taken stays with it for the rest of the
evacuation, hence after a successful evacuation every LISTED object is kept by a remaining shard.
-/
namespace NeoFS.Engine

/-- **Induction over the listing**: if the objects of one source are all processed without error (strict
mode), every one of them is kept by a shard of the order outside the source set at the end. -/
theorem evacObjs_all_kept (src : Nat) (srcs ord : List Nat) (hsrc : srcs.contains src = true) :
    ∀ (l : List Obj) (e : Eng) (n : Nat) (e' : Eng) (n' : Nat) (s : Shard), e.shards[src]? = some s →
      evacObjs src srcs ord false l e n = (e', n', none) →
      ∀ x ∈ l, ∃ j ∈ ord, srcs.contains j = false ∧ ∃ t, e'.shards[j]? = some t ∧ t.keeps x.id := by
  intro l
  induction l with
  | nil => intro e n e' n' s _ _ x hx; cases hx
  | cons y rest ih =>
    intro e n e' n' s hs h x hx
    unfold evacObjs at h
    rw [hs] at h
    simp only at h
    split at h
    · cases h
    · rename_i o hget
      have hoid : o.id = y.id := Shard.get_id s y.id e.epoch false o hget
      obtain ⟨e1, b, m, heq, h⟩ : ∃ e1 b m, evacTargets o srcs ord e = (e1, some b) ∧
          evacObjs src srcs ord false rest e1 m = (e', n', none) := by
        split at h
        · exact ⟨_, true, _, ‹_›, h⟩
        · exact ⟨_, false, _, ‹_›, h⟩
        · cases h
      rcases List.mem_cons.mp hx with rfl | hx'
      · -- the taker of `y` keeps it through the rest of the listing
        obtain ⟨j, hj, hns, ht⟩ := evacTargets_keeps o srcs ord e e1 b heq
        have := evacObjs_inv (P := fun e => ∃ t, e.shards[j]? = some t ∧ t.keeps o.id) srcs
          (fun o' e j' _ ⟨t, ht, hk⟩ => putToShard_keeps_mono e j' j o' t o.id ht hk) src ord false rest e1 m ht
        rw [h, hoid] at this
        exact ⟨j, hj, hns, this⟩
      · -- the source is unchanged by the object step
        have hs1 : e1.shards[src]? = some s := by
          rw [← hs, ← evacTargets_frame o srcs src hsrc ord e, heq]
        exact ih e1 m e' n' s hs1 h x hx'

theorem evacShards_all_kept (srcs ord : List Nat) :
    ∀ (l : List Nat) (e : Eng) (n : Nat) (e' : Eng) (n' : Nat), (∀ i ∈ l, srcs.contains i = true) →
      evacShards srcs ord false l e n = (e', n', none) →
      ∀ src ∈ l, ∀ s, e.shards[src]? = some s → s.mode.noMeta = false →
        ∀ x ∈ sortById s.listing, ∃ j ∈ ord, srcs.contains j = false ∧ ∃ t, e'.shards[j]? = some t ∧ t.keeps x.id := by
  intro l
  induction l with
  | nil => intro e n e' n' _ _ src hsrc; cases hsrc
  | cons a rest ih =>
    intro e n e' n' hall h src hsrc s hs hm x hx
    have hall' : ∀ i ∈ rest, srcs.contains i = true := fun i hi => hall i (List.mem_cons_of_mem a hi)
    unfold evacShards at h
    split at h
    · -- shard `a` does not exist: `src ≠ a`
      rename_i hnone
      rcases List.mem_cons.mp hsrc with rfl | hsrc'
      · rw [hnone] at hs; cases hs
      · exact ih e n e' n' hall' h src hsrc' s hs hm x hx
    · rename_i sa hsa
      split at h
      · rename_i hdeg
        rcases List.mem_cons.mp hsrc with rfl | hsrc'
        · rw [hsa] at hs; cases hs; rw [hm] at hdeg; cases hdeg
        · exact ih e n e' n' hall' h src hsrc' s hs hm x hx
      · split at h
        · rename_i e1 n1 heq
          rcases List.mem_cons.mp hsrc with rfl | hsrc'
          · rw [hsa] at hs; cases hs
            obtain ⟨j, hj, hns, ht⟩ :=
              evacObjs_all_kept src srcs ord (hall src List.mem_cons_self) _ e n e1 n1 s hsa heq x hx
            have := evacShards_inv (P := fun e => ∃ t, e.shards[j]? = some t ∧ t.keeps x.id) srcs
              (fun o e j' _ ⟨t, ht, hk⟩ => putToShard_keeps_mono e j' j o t x.id ht hk) ord false rest e1 n1 ht
            rw [h] at this
            exact ⟨j, hj, hns, this⟩
          · have hs1 : e1.shards[src]? = some s := by
              rw [← hs, ← evacObjs_frame a srcs ord false src (hall' src hsrc') (sortById sa.listing) e n, heq]
            exact ih e1 n1 e' n' hall' h src hsrc' s hs1 hm x hx
        · -- the objects of shard `a` failed: the result is not a success
          rename_i hr
          exact absurd h (hr e' n')

/-- **C19, what the code preserves**: for ALL engines, source sets, visiting
orders and target modes/failures: if `Evacuate(srcs, ignoreErrors = false)` succeeds, every object LISTED by a
source shard (every indexed object without tombstone / garbage mark) is kept by a shard of the order outside
the source set at the end: indexed in its metabase or, on a shard without metabase, in its blob store.  The
extra hypothesis against `C19_full` is "listed" instead of "served" (see `C19_counterexample`), and "kept"
instead of "served" (the status on the target is the target's own). -/
theorem evacuate_preserves_partial (e : Eng) (srcs ord : List Nat)
    (hok : (e.evacuate srcs ord false).2.2 = none)
    (src : Nat) (hsrc : src ∈ srcs) (s : Shard) (hs : e.shards[src]? = some s) (hm : s.mode.noMeta = false)
    (x : Obj) (hx : x ∈ sortById s.listing) :
    ∃ j ∈ ord, j ∉ srcs ∧ ∃ t, (e.evacuate srcs ord false).1.shards[j]? = some t ∧ t.keeps x.id := by
  rcases evacuate_eq e srcs ord false with ⟨er, h⟩ | h
  · rw [h] at hok; cases hok
  · rw [h] at hok ⊢
    obtain ⟨j, hj, hns, ht⟩ := evacShards_all_kept srcs ord srcs e 0 _ _
      (fun i hi => List.contains_iff_mem.mpr hi) (Prod.ext rfl (Prod.ext rfl hok)) src hsrc s hs hm x hx
    exact ⟨j, hj, fun hmem => Bool.false_ne_true (hns.symm.trans (List.contains_iff_mem.mpr hmem)), ht⟩

/-- non-vacuity: the evacuation of `exA` succeeds and lists the object and its lock -/
example : (exA.evacuate [0] [2, 1, 0] false).2.2 = none ∧ o1 ∈ sortById (⟨.ro, [o1, l7], [o1, l7], [], false, false, 0, 0, 0⟩ : Shard).listing := by
  decide

end NeoFS.Engine
