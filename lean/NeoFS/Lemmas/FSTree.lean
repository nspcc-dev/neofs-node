import NeoFS.Model.FSTree
/-!
Byte-level lemmas of the file-tree model: the record encoding round trip and the two scanners on well-formed files.
Core Lean only.
-/
namespace NeoFS.FSTree

theorem beN_length (k n : Nat) : (beN k n).length = k := by
  induction k generalizing n with
  | zero => rfl
  | succ k ih => simp [beN, ih]

theorem fromBE_append_single (xs : Bytes) (b : Nat) : fromBE (xs ++ [b]) = fromBE xs * 256 + b := by
  simp [fromBE, List.foldl_append]

theorem fromBE_beN (k n : Nat) : fromBE (beN k n) = n % 256 ^ k := by
  induction k generalizing n with
  | zero => simp [beN, fromBE, Nat.mod_one]
  | succ k ih =>
    rw [beN, fromBE_append_single, ih, Nat.pow_succ]
    rw [Nat.mul_comm (256 ^ k) 256, Nat.mod_mul]
    omega

theorem beN_inj (k a b : Nat) (ha : a < 256 ^ k) (hb : b < 256 ^ k) (h : beN k a = beN k b) : a = b := by
  have := congrArg fromBE h
  rw [fromBE_beN, fromBE_beN, Nat.mod_eq_of_lt ha, Nat.mod_eq_of_lt hb] at this
  exact this

theorem record_length (a : Nat) (d : Bytes) : (record a d).length = dataOff + d.length := by
  simp [record, beN_length, dataOff]; omega

theorem record_append (a : Nat) (d t : Bytes) :
    record a d ++ t = (127 :: 0 :: (beN 32 a ++ beN 4 d.length)) ++ (d ++ t) := by
  simp [record]

theorem header_length (a n : Nat) : (127 :: 0 :: (beN 32 a ++ beN 4 n)).length = dataOff := by
  simp [beN_length, dataOff]

theorem drop_record (a : Nat) (d t : Bytes) : (record a d ++ t).drop dataOff = d ++ t := by
  rw [record_append]; exact List.drop_left' (header_length a _)

/-- what the reader sees at the start of a record: the id and the length come back -/
theorem parsePrefix_record (a : Nat) (d t : Bytes) :
    parsePrefix ((record a d ++ t).take dataOff) = some (beN 32 a, d.length % 2 ^ 32) := by
  rw [record_append, List.take_left' (header_length a _), parsePrefix, if_neg (by rw [header_length]; exact Nat.lt_irrefl _)]
  rw [List.take_left' (beN_length _ _), List.drop_left' (beN_length _ _),
    List.take_of_length_le (by rw [beN_length]; exact Nat.le_refl _), fromBE_beN]

def IdOK (a : Nat) : Prop := a < 256 ^ 32
def DataOK (d : Bytes) : Prop := d ≠ [] ∧ d.length < 2 ^ 32
def RecsOK (rs : List (Nat × Bytes)) : Prop := ∀ r ∈ rs, IdOK r.1 ∧ DataOK r.2
/-- `d` does not parse as the start of a combined file: the readers return it whole -/
def PlainOK (d : Bytes) : Prop := d.length < dataOff ∨ parsePrefix (d.take dataOff) = none

theorem scanRaw_plain (idb d : Bytes) (h : PlainOK d) (fuel : Nat) : scanRaw idb (fuel + 1) false d = .ok d := by
  unfold scanRaw
  rcases h with h | h
  · simp [h]
  · by_cases hl : d.length < dataOff
    · simp [hl]
    · simp [hl, h]

theorem extractRaw_plain (a : Nat) (d : Bytes) (h : PlainOK d) : extractRaw a d = .ok d :=
  scanRaw_plain _ d h _

theorem streamRaw_plain (buf a : Nat) (d : Bytes) (h : PlainOK d) : streamRaw true buf a d = .ok d := by
  unfold streamRaw
  rcases h with h | h
  · simp [h]
  · by_cases hl : d.length < dataOff
    · simp [hl]
    · simp [hl, h]

theorem encodeRecs_append (xs ys : List (Nat × Bytes)) : encodeRecs (xs ++ ys) = encodeRecs xs ++ encodeRecs ys := by
  induction xs with
  | nil => rfl
  | cons x xs ih => simp [encodeRecs, ih]

theorem encodeRecs_length_ge (rs : List (Nat × Bytes)) : rs.length ≤ (encodeRecs rs).length := by
  induction rs with
  | nil => simp
  | cons r rs ih => simp [encodeRecs, record_length, dataOff]; omega

theorem encodeRecs_ne_nil (rs : List (Nat × Bytes)) (h : rs ≠ []) : encodeRecs rs ≠ [] := by
  intro h0
  have := encodeRecs_length_ge rs
  rw [h0] at this
  exact h (List.eq_nil_of_length_eq_zero (Nat.le_zero.mp this))

theorem lookup_cons_cases {r : Nat × Bytes} {rs : List (Nat × Bytes)} {a : Nat} {d : Bytes}
    (h : (r :: rs).lookup a = some d) : (r.1 = a ∧ r.2 = d) ∨ (r.1 ≠ a ∧ rs.lookup a = some d) := by
  rw [List.lookup_cons] at h
  by_cases hra : r.1 = a
  · rw [hra, beq_self_eq_true] at h; exact .inl ⟨hra, Option.some.inj h⟩
  · rw [beq_eq_false_iff_ne.mpr (Ne.symm hra)] at h; exact .inr ⟨hra, h⟩

theorem scanRaw_record (idb : Bytes) (a : Nat) (d t : Bytes) (hd : DataOK d) (fuel : Nat) (comb : Bool) :
    scanRaw idb (fuel + 1) comb (record a d ++ t) = if beN 32 a = idb then .ok d else scanRaw idb fuel true t := by
  have hl : ¬ (record a d ++ t).length < dataOff := by rw [List.length_append, record_length]; omega
  have hne : d.length ≠ 0 := fun h0 => hd.1 (List.eq_nil_of_length_eq_zero h0)
  rw [scanRaw, if_neg hl, parsePrefix_record, drop_record, Nat.mod_eq_of_lt hd.2]
  simp [hne]

theorem streamScan_record (buf : Nat) (idb : Bytes) (a : Nat) (d t : Bytes) (hd : DataOK d) (fuel : Nat) :
    streamScan true buf idb (fuel + 1) (record a d ++ t) =
      if beN 32 a = idb then .ok d else if t = [] then .error .eof else streamScan true buf idb fuel t := by
  have hne : d.length ≠ 0 := fun h0 => hd.1 (List.eq_nil_of_length_eq_zero h0)
  rw [streamScan, parsePrefix_record, drop_record, Nat.mod_eq_of_lt hd.2]
  simp only [hne, List.length_take, List.length_append, if_false, List.take_left', List.drop_left', not_true, and_false]
  rw [if_neg (by omega : ¬ min (min d.length buf) (d.length + t.length) < min d.length buf)]

/-- KEY LEMMA (round trip of the combined-file encoding): scanning a well-formed combined file for a member
returns exactly the bytes of its first record, whatever follows the records -/
theorem scanRaw_recs (a : Nat) (ha : IdOK a) (rs : List (Nat × Bytes)) (junk : Bytes) (hrs : RecsOK rs)
    (d : Bytes) (h : rs.lookup a = some d) (fuel : Nat) (hf : rs.length < fuel) (comb : Bool) :
    scanRaw (beN 32 a) fuel comb (encodeRecs rs ++ junk) = .ok d := by
  induction rs generalizing fuel comb with
  | nil => cases h
  | cons r rs ih =>
    obtain ⟨f, rfl⟩ : ∃ f, fuel = f + 1 := ⟨fuel - 1, by have := Nat.zero_lt_of_lt hf; omega⟩
    have hr := hrs r List.mem_cons_self
    rw [encodeRecs, List.append_assoc, scanRaw_record _ _ _ _ hr.2]
    rcases lookup_cons_cases h with ⟨hra, rfl⟩ | ⟨hra, hl⟩
    · rw [if_pos (by rw [hra])]
    · rw [if_neg fun hh => hra (beN_inj 32 _ _ hr.1 ha hh)]
      exact ih (fun x hx => hrs x (List.mem_cons_of_mem _ hx)) hl f (Nat.lt_of_succ_lt_succ hf) true

theorem extractRaw_recs (a : Nat) (ha : IdOK a) (rs : List (Nat × Bytes)) (junk : Bytes) (hrs : RecsOK rs)
    (d : Bytes) (h : rs.lookup a = some d) : extractRaw a (encodeRecs rs ++ junk) = .ok d := by
  unfold extractRaw
  apply scanRaw_recs a ha rs junk hrs d h
  have := encodeRecs_length_ge rs
  simp; omega

theorem streamScan_recs (buf a : Nat) (ha : IdOK a) (rs : List (Nat × Bytes)) (junk : Bytes) (hrs : RecsOK rs)
    (d : Bytes) (h : rs.lookup a = some d) (fuel : Nat) (hf : rs.length < fuel) :
    streamScan true buf (beN 32 a) fuel (encodeRecs rs ++ junk) = .ok d := by
  induction rs generalizing fuel with
  | nil => cases h
  | cons r rs ih =>
    obtain ⟨f, rfl⟩ : ∃ f, fuel = f + 1 := ⟨fuel - 1, by have := Nat.zero_lt_of_lt hf; omega⟩
    have hr := hrs r List.mem_cons_self
    rw [encodeRecs, List.append_assoc, streamScan_record _ _ _ _ _ hr.2]
    rcases lookup_cons_cases h with ⟨hra, rfl⟩ | ⟨hra, hl⟩
    · rw [if_pos (by rw [hra])]
    · have hnn : encodeRecs rs ++ junk ≠ [] := fun h0 =>
        encodeRecs_ne_nil rs (fun h1 => by rw [h1] at hl; cases hl) (List.append_eq_nil_iff.mp h0).1
      rw [if_neg fun hh => hra (beN_inj 32 _ _ hr.1 ha hh), if_neg hnn]
      exact ih (fun x hx => hrs x (List.mem_cons_of_mem _ hx)) hl f (Nat.lt_of_succ_lt_succ hf)

theorem streamRaw_recs (buf a : Nat) (ha : IdOK a) (rs : List (Nat × Bytes)) (junk : Bytes) (hrs : RecsOK rs)
    (d : Bytes) (h : rs.lookup a = some d) : streamRaw true buf a (encodeRecs rs ++ junk) = .ok d := by
  cases rs with
  | nil => cases h
  | cons r rs =>
    have e : encodeRecs (r :: rs) ++ junk = record r.1 r.2 ++ (encodeRecs rs ++ junk) := by rw [encodeRecs, List.append_assoc]
    have hl : ¬ (encodeRecs (r :: rs) ++ junk).length < dataOff := by
      rw [e, List.length_append, record_length]; omega
    have hp : parsePrefix ((encodeRecs (r :: rs) ++ junk).take dataOff) = some (beN 32 r.1, r.2.length % 2 ^ 32) := by
      rw [e]; exact parsePrefix_record _ _ _
    rw [streamRaw, if_neg hl, hp]
    apply streamScan_recs buf a ha (r :: rs) junk hrs d h
    have := encodeRecs_length_ge (r :: rs)
    rw [List.length_append]; omega

theorem decompress_ne_notFound (dec : Bytes → Option Bytes) (d : Bytes) : decompress dec d ≠ .error .notFound := by
  unfold decompress
  split
  · split <;> simp
  · simp

/-- the file `f` holds the stored bytes `d` for address `a`: alone, or as the first record of `a` in a combined file -/
def Holds (f : Bytes) (a : Nat) (d : Bytes) : Prop :=
  (f = d ∧ PlainOK d) ∨ (∃ rs junk, f = encodeRecs rs ++ junk ∧ RecsOK rs ∧ rs.lookup a = some d)

/-- both readers return exactly the held bytes (for every header buffer length) -/
theorem holds_read (f : Bytes) (a : Nat) (d : Bytes) (ha : IdOK a) (h : Holds f a d) (buf : Nat) :
    extractRaw a f = .ok d ∧ streamRaw true buf a f = .ok d := by
  rcases h with ⟨rfl, hp⟩ | ⟨rs, junk, rfl, hrs, hl⟩
  · exact ⟨extractRaw_plain a _ hp, streamRaw_plain buf a _ hp⟩
  · exact ⟨extractRaw_recs a ha rs junk hrs d hl, streamRaw_recs buf a ha rs junk hrs d hl⟩

/-- written by hand: `deriving` does not reach `Except` -/
instance : DecidableEq (Except Err Bytes) := fun
  | .ok a, .ok b => if h : a = b then isTrue (h ▸ rfl) else isFalse fun e => h (Except.ok.inj e)
  | .error a, .error b => if h : a = b then isTrue (h ▸ rfl) else isFalse fun e => h (Except.error.inj e)
  | .ok _, .error _ => isFalse nofun
  | .error _, .ok _ => isFalse nofun

end NeoFS.FSTree
