import NeoFS.Lemmas.SearchMerge
import NeoFS.Props.C05
/-!
The comparison `MergeSearchResults` applies per attribute kind, as a lawful comparator `ordK` on the items for which
the comparison succeeds (`ValidK`): integers by value (C05: `compareIntStrings` is numeric order), ids and owners by
their decoded bytes, everything else by the bytes of the string.
-/
namespace NeoFS.SearchMerge
open NeoFS.Int256

def intKey (x : Item) : Int :=
  match x.attr with
  | some a => (match splitIntString a with | some p => splitVal p | none => 0)
  | none => 0

def bytesKey (dec : Str → Option (List Nat)) (x : Item) : List Nat :=
  match x.attr with
  | some a => (dec a).getD []
  | none => []

/-- the comparator of each kind, total on all items (defaults where the code would fail) -/
def ordK : MKind → Item → Item → Ordering
  | .byId, _, _ => .eq
  | .int, x, y => ordInt (intKey x) (intKey y)
  | .oid, x, y => lexCmp (bytesKey decodeOID x) (bytesKey decodeOID y)
  | .owner, x, y => lexCmp (bytesKey decodeOwner x) (bytesKey decodeOwner y)
  | .str, x, y => lexCmp (bytesKey (fun a => some (strBytes a)) x) (bytesKey (fun a => some (strBytes a)) y)

/-- the items on which the merge's comparison does not fail -/
def ValidK : MKind → Item → Prop
  | .byId, _ => True
  | .int, x => ∃ a p, x.attr = some a ∧ splitIntString a = some p
  | .oid, x => ∃ a b, x.attr = some a ∧ decodeOID a = some b
  | .owner, x => ∃ a b, x.attr = some a ∧ decodeOwner a = some b
  | .str, x => ∃ a, x.attr = some a

theorem ordK_laws (k : MKind) : OrdLaws (ordK k) := by
  cases k with
  | byId => exact ⟨fun _ => rfl, fun _ _ => rfl, fun _ _ _ _ _ => by simp [ordK]⟩
  | int => exact ordInt_laws.comap intKey
  | oid => exact lexCmp_laws.comap (bytesKey decodeOID)
  | owner => exact lexCmp_laws.comap (bytesKey decodeOwner)
  | str => exact lexCmp_laws.comap (bytesKey fun a => some (strBytes a))

theorem cmpAttr_valid (k : MKind) (x y : Item) (hx : ValidK k x) (hy : ValidK k y) : cmpAttr k x y = .ok (ordK k x y) := by
  cases k with
  | byId => rfl
  | int =>
    obtain ⟨a, p, ha, hp⟩ := hx
    obtain ⟨b, q, hb, hq⟩ := hy
    simp only [cmpAttr, ha, hb, compare_strings_numeric a b p q hp hq, ordK, intKey, hp, hq]
  | oid =>
    obtain ⟨a, p, ha, hp⟩ := hx
    obtain ⟨b, q, hb, hq⟩ := hy
    simp [cmpAttr, ha, hb, ordK, bytesKey, hp, hq]
  | owner =>
    obtain ⟨a, p, ha, hp⟩ := hx
    obtain ⟨b, q, hb, hq⟩ := hy
    simp [cmpAttr, ha, hb, ordK, bytesKey, hp, hq]
  | str =>
    obtain ⟨a, ha⟩ := hx
    obtain ⟨b, hb⟩ := hy
    simp [cmpAttr, ha, hb, ordK, bytesKey, lexCmpChars, strBytes]

theorem firstCheck_valid (k : MKind) (x : Item) (hx : ValidK k x) : firstCheck k x = .ok () := by
  cases k with
  | int =>
    obtain ⟨a, p, ha, hp⟩ := hx
    simp [firstCheck, ha, hp]
  | byId => rfl
  | oid => rfl
  | owner => rfl
  | str => rfl

theorem toInt_mk (neg : Bool) (m : Nat) : (Int256.mk neg m).toInt = if neg then -(m : Int) else m := by
  unfold I256.toInt Int256.mk
  cases neg <;> by_cases h0 : m = 0 <;> simp [h0]

theorem intKey_toDec (i : Nat) (z : I256) (hz : z.WF) :
    (∃ p, splitIntString (toDec z) = some p) ∧ intKey ⟨i, some (toDec z)⟩ = z.toInt := by
  have h := readers_agree (toDec z)
  rw [parse_toDec z hz] at h
  obtain ⟨p, hs, hp⟩ := Option.bind_eq_some_iff.mp h
  refine ⟨⟨p, hs⟩, ?_⟩
  simp only [parseNormalized, Option.ite_none_left_eq_some, Option.ite_none_right_eq_some, Option.some.injEq] at hp
  simp only [intKey, hs]
  rw [← hp.2.2.2, toInt_mk]
  rfl

theorem ordK_int_toDec {i1 i2 : Nat} {z1 z2 : I256} (h1 : z1.WF) (h2 : z2.WF) :
    ordK .int ⟨i1, some (toDec z1)⟩ ⟨i2, some (toDec z2)⟩ = lexCmp (encode z1) (encode z2) := by
  simp only [ordK, (intKey_toDec i1 z1 h1).2, (intKey_toDec i2 z2 h2).2, encode_order z1 z2 h1 h2]

theorem decodeOID_b58 {r : List Nat} (l : r.length = 32) (b : b58Decode (b58Encode r) = some r) : decodeOID (b58Encode r) = some r := by
  rw [decodeOID, b]
  exact if_pos l

theorem decodeOwner_b58 {r : List Nat} (l : r.length = 25) (p : r.head? = some 0x35) (b : b58Decode (b58Encode r) = some r) :
    decodeOwner (b58Encode r) = some r := by
  rw [decodeOwner, b]
  exact if_pos ⟨l, p⟩

theorem ordK_oid_b58 {i1 i2 : Nat} {r1 r2 : List Nat} (l1 : r1.length = 32) (l2 : r2.length = 32) (b1 : b58Decode (b58Encode r1) = some r1)
    (b2 : b58Decode (b58Encode r2) = some r2) :
    ordK .oid ⟨i1, some (b58Encode r1)⟩ ⟨i2, some (b58Encode r2)⟩ = lexCmp r1 r2 := by
  simp [ordK, bytesKey, decodeOID_b58 l1 b1, decodeOID_b58 l2 b2]

theorem ordK_owner_b58 {i1 i2 : Nat} {r1 r2 : List Nat} (l1 : r1.length = 25) (l2 : r2.length = 25)
    (p1 : r1.head? = some 0x35) (p2 : r2.head? = some 0x35) (b1 : b58Decode (b58Encode r1) = some r1)
    (b2 : b58Decode (b58Encode r2) = some r2) :
    ordK .owner ⟨i1, some (b58Encode r1)⟩ ⟨i2, some (b58Encode r2)⟩ = lexCmp r1 r2 := by
  simp [ordK, bytesKey, decodeOwner_b58 l1 p1 b1, decodeOwner_b58 l2 p2 b2]

theorem ordK_str (i1 i2 : Nat) (s1 s2 : Str) : ordK .str ⟨i1, some s1⟩ ⟨i2, some s2⟩ = lexCmpChars s1 s2 := by
  simp [ordK, bytesKey, lexCmpChars, strBytes]

/-- valid, coherent items form a universe for the merge -/
theorem univ_of_valid (k : MKind) (P : Item → Prop) (hv : ∀ x, P x → ValidK k x)
    (hco : ∀ x y, P x → P y → x.id = y.id → x = y) : Univ k (ordK k) P :=
  ⟨ordK_laws k, fun x y hx hy => cmpAttr_valid k x y (hv x hx) (hv y hy), fun x hx => firstCheck_valid k x (hv x hx), hco⟩

end NeoFS.SearchMerge
