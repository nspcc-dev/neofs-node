import NeoFS.Model.WC
/-! The sorted association lists of `Model/WC.lean`, the accounting invariant, `Flush` with a working main storage. -/
namespace NeoFS.WC

def Sorted (l : List (Nat × Nat)) : Prop := l.Pairwise fun a b => a.1 < b.1

/-- the accounting invariant: the counters describe exactly the files the cache holds -/
structure Inv (s : St) : Prop where
  map : s.objMap = s.files
  size : s.size = total s.files
  sorted : Sorted s.files

theorem mem_insertKV {k v : Nat} {x : Nat × Nat} {l : List (Nat × Nat)} (h : x ∈ insertKV k v l) : x = (k, v) ∨ x ∈ l := by
  induction l with
  | nil => exact Or.inl (List.mem_singleton.mp h)
  | cons y ys ih =>
    unfold insertKV at h
    split at h
    · exact (List.mem_cons.mp h).imp_right id
    · split at h
      · exact (List.mem_cons.mp h).imp_right (List.mem_cons_of_mem _)
      · rcases List.mem_cons.mp h with h | h
        · exact Or.inr (h ▸ List.mem_cons_self)
        · exact (ih h).imp_right (List.mem_cons_of_mem _)

theorem insertKV_sorted (k v : Nat) (l : List (Nat × Nat)) (h : Sorted l) : Sorted (insertKV k v l) := by
  induction l with
  | nil => exact List.pairwise_singleton _ _
  | cons y ys ih =>
    have hy := List.pairwise_cons.mp h
    unfold insertKV
    split
    · rename_i hlt
      exact List.pairwise_cons.mpr ⟨fun x hx => (List.mem_cons.mp hx).elim (fun e => e ▸ hlt)
        fun hx => Nat.lt_trans hlt (hy.1 x hx), h⟩
    · split
      · rename_i heq
        exact List.pairwise_cons.mpr ⟨fun x hx => heq ▸ hy.1 x hx, hy.2⟩
      · refine List.pairwise_cons.mpr ⟨fun x hx => ?_, ih hy.2⟩
        rcases mem_insertKV hx with rfl | hx
        · show y.1 < k; omega
        · exact hy.1 x hx

theorem erase_cons (k : Nat) (y : Nat × Nat) (ys : List (Nat × Nat)) :
    erase k (y :: ys) = if y.1 = k then erase k ys else y :: erase k ys := by
  unfold erase
  rw [List.filter_cons]
  by_cases h : y.1 = k <;> simp [h]

theorem erase_sorted (k : Nat) (l : List (Nat × Nat)) (h : Sorted l) : Sorted (erase k l) :=
  List.Pairwise.filter _ h

theorem lookup_cons (k : Nat) (y : Nat × Nat) (ys : List (Nat × Nat)) :
    lookup k (y :: ys) = if y.1 = k then some y.2 else lookup k ys := by
  unfold lookup
  by_cases h : y.1 = k <;> simp [h]

theorem total_cons (y : Nat × Nat) (ys : List (Nat × Nat)) : total (y :: ys) = y.2 + total ys := by
  simp [total]

theorem lookup_none_of_ne (k : Nat) (l : List (Nat × Nat)) (h : ∀ x ∈ l, x.1 ≠ k) : lookup k l = none := by
  induction l with
  | nil => rfl
  | cons y ys ih =>
    rw [lookup_cons, if_neg (h y List.mem_cons_self)]
    exact ih fun x hx => h x (List.mem_cons_of_mem _ hx)

theorem erase_of_ne (k : Nat) (l : List (Nat × Nat)) (h : ∀ x ∈ l, x.1 ≠ k) : erase k l = l := by
  induction l with
  | nil => rfl
  | cons y ys ih => rw [erase_cons, if_neg (h y List.mem_cons_self), ih fun x hx => h x (List.mem_cons_of_mem _ hx)]

theorem total_insertKV (k v : Nat) (l : List (Nat × Nat)) (h : Sorted l) :
    total (insertKV k v l) + (lookup k l).getD 0 = total l + v := by
  induction l with
  | nil => simp [insertKV, total, lookup]
  | cons y ys ih =>
    have hy := List.pairwise_cons.mp h
    unfold insertKV
    split
    · rename_i hlt
      have hne : ∀ x ∈ y :: ys, x.1 ≠ k := fun x hx =>
        (List.mem_cons.mp hx).elim (fun e => e ▸ Nat.ne_of_gt hlt) fun hx => Nat.ne_of_gt (Nat.lt_trans hlt (hy.1 x hx))
      rw [lookup_none_of_ne k _ hne]
      simp only [total_cons, Option.getD_none]; omega
    · split
      · rename_i heq
        rw [lookup_cons, if_pos heq.symm]
        simp only [total_cons, Option.getD_some]; omega
      · rename_i hne
        have := ih hy.2
        rw [lookup_cons, if_neg (Ne.symm hne)]
        simp only [total_cons]; omega

theorem total_erase (k : Nat) (l : List (Nat × Nat)) (h : Sorted l) :
    total (erase k l) + (lookup k l).getD 0 = total l := by
  induction l with
  | nil => simp [erase, total, lookup]
  | cons y ys ih =>
    have hy := List.pairwise_cons.mp h
    rw [erase_cons, lookup_cons, total_cons]
    by_cases hk : y.1 = k
    · rw [if_pos hk, if_pos hk, erase_of_ne k ys fun x hx => hk ▸ Nat.ne_of_gt (hy.1 x hx)]
      simp only [Option.getD_some]; omega
    · have := ih hy.2
      rw [if_neg hk, if_neg hk, total_cons]
      omega

theorem lookup_le_total (k : Nat) (l : List (Nat × Nat)) : (lookup k l).getD 0 ≤ total l := by
  induction l with
  | nil => simp [lookup, total]
  | cons y ys ih =>
    rw [lookup_cons, total_cons]
    split
    · simp only [Option.getD_some]; omega
    · omega

theorem lookup_insertKV_self (k v : Nat) (l : List (Nat × Nat)) : lookup k (insertKV k v l) = some v := by
  induction l with
  | nil => rw [insertKV, lookup_cons, if_pos rfl]
  | cons y ys ih =>
    unfold insertKV
    split
    · rw [lookup_cons, if_pos rfl]
    · split
      · rw [lookup_cons, if_pos rfl]
      · rename_i h
        rw [lookup_cons, if_neg (Ne.symm h)]; exact ih

theorem lookup_insertKV_ne (k v a : Nat) (h : a ≠ k) (l : List (Nat × Nat)) :
    lookup a (insertKV k v l) = lookup a l := by
  induction l with
  | nil => rw [insertKV, lookup_cons, if_neg (Ne.symm h)]
  | cons y ys ih =>
    unfold insertKV
    split
    · rw [lookup_cons, if_neg (Ne.symm h)]
    · split
      · rename_i heq
        rw [lookup_cons, lookup_cons, if_neg (Ne.symm h), if_neg (heq ▸ Ne.symm h)]
      · rw [lookup_cons, lookup_cons, ih]

theorem lookup_erase_self (k : Nat) (l : List (Nat × Nat)) : lookup k (erase k l) = none := by
  induction l with
  | nil => rfl
  | cons y ys ih =>
    rw [erase_cons]
    split
    · exact ih
    · rename_i h
      rw [lookup_cons, if_neg h]; exact ih

theorem lookup_erase_ne (k a : Nat) (h : k ≠ a) (l : List (Nat × Nat)) : lookup a (erase k l) = lookup a l := by
  induction l with
  | nil => rfl
  | cons y ys ih =>
    rw [erase_cons, lookup_cons]
    split
    · rename_i hy
      rw [if_neg (hy ▸ h)]; exact ih
    · rw [lookup_cons, ih]

theorem lookup_of_mem_sorted (a n : Nat) (l : List (Nat × Nat)) (hs : Sorted l) (hm : (a, n) ∈ l) :
    lookup a l = some n := by
  induction l with
  | nil => cases hm
  | cons y ys ih =>
    have hy := List.pairwise_cons.mp hs
    rw [lookup_cons]
    rcases List.mem_cons.mp hm with rfl | hm
    · exact if_pos rfl
    · rw [if_neg (Nat.ne_of_lt (hy.1 (a, n) hm))]
      exact ih hy.2 hm

theorem flushSingle_ok_err (s : St) (a : Nat) : (flushSingle s a true).2 = .ok := by
  unfold flushSingle; split <;> rfl

theorem flushSingle_ok_files (s : St) (a : Nat) : (flushSingle s a true).1.files = erase a s.files := by
  unfold flushSingle
  split
  · rename_i hl
    refine (erase_of_ne a s.files fun y hy hya => ?_).symm
    have := List.find?_eq_none.mp (Option.map_eq_none_iff.mp hl) y hy
    simp [hya] at this
  · rename_i n hl
    simp only [Bool.not_true, Bool.false_eq_true, if_false, delete, hl]
    rfl

theorem flushSingle_ok_main_ne (s : St) {a x : Nat} (h : a ≠ x) :
    lookup a (flushSingle s x true).1.main = lookup a s.main := by
  unfold flushSingle
  split
  · rfl
  · rename_i n hl
    simp only [Bool.not_true, Bool.false_eq_true, if_false, delete, hl]
    exact lookup_insertKV_ne x n a h _

theorem flush_moves (s : St) (a n : Nat) (hf : lookup a s.files = some n) :
    lookup a (flushSingle s a true).1.files = none ∧ lookup a (flushSingle s a true).1.main = some n := by
  refine ⟨flushSingle_ok_files s a ▸ lookup_erase_self a _, ?_⟩
  unfold flushSingle
  simp only [hf, Bool.not_true, Bool.false_eq_true, if_false, delete]
  exact lookup_insertKV_self a n _

theorem foldl_flush_ok (l : List (Nat × Nat)) (st : St) :
    l.foldl (fun (acc : St × Err) f => if acc.2 != .ok then acc else flushSingle acc.1 f.1 true) (st, .ok) =
      (l.foldl (fun st f => (flushSingle st f.1 true).1) st, .ok) :=
  List.foldl_hom (fun st => (st, Err.ok)) fun st x => Prod.ext rfl (flushSingle_ok_err st x.1)

theorem foldl_flush_files (l : List (Nat × Nat)) (st : St) :
    (l.foldl (fun st f => (flushSingle st f.1 true).1) st).files = l.foldl (fun fs f => erase f.1 fs) st.files :=
  (List.foldl_hom St.files fun st x => (flushSingle_ok_files st x.1).symm).symm

theorem foldl_flush_main_ne (a : Nat) (l : List (Nat × Nat)) (st : St) (h : ∀ f ∈ l, f.1 ≠ a) :
    lookup a (l.foldl (fun st f => (flushSingle st f.1 true).1) st).main = lookup a st.main :=
  List.foldlRecOn (motive := fun st' => lookup a st'.main = lookup a st.main) l _ rfl fun st' hs x hx =>
    (flushSingle_ok_main_ne st' (h x hx).symm).trans hs

theorem foldl_flush_stores : ∀ (l : List (Nat × Nat)) (st : St), Sorted l → (∀ f ∈ l, lookup f.1 st.files = some f.2) →
    ∀ f ∈ l, lookup f.1 (l.foldl (fun st f => (flushSingle st f.1 true).1) st).main = some f.2 := by
  intro l
  induction l with
  | nil => intro _ _ _ f hf; cases hf
  | cons x xs ih =>
    intro st hs hl f hf
    have hx := List.pairwise_cons.mp hs
    rw [List.foldl_cons]
    rcases List.mem_cons.mp hf with rfl | hf
    · rw [foldl_flush_main_ne f.1 xs _ fun g hg => Nat.ne_of_gt (hx.1 g hg)]
      exact (flush_moves st f.1 f.2 (hl f List.mem_cons_self)).2
    · refine ih _ hx.2 (fun g hg => ?_) f hf
      rw [flushSingle_ok_files, lookup_erase_ne x.1 g.1 (Nat.ne_of_lt (hx.1 g hg))]
      exact hl g (List.mem_cons_of_mem _ hg)

theorem foldl_erase_all : ∀ (l l0 : List (Nat × Nat)), (∀ x ∈ l0, ∃ f ∈ l, f.1 = x.1) →
    l.foldl (fun fs f => erase f.1 fs) l0 = [] := by
  intro l
  induction l with
  | nil =>
    intro l0 h
    cases l0 with
    | nil => rfl
    | cons x xs => obtain ⟨f, hf, _⟩ := h x (by simp); cases hf
  | cons y ys ih =>
    intro l0 h
    simp only [List.foldl_cons]
    apply ih
    intro x hx
    unfold erase at hx
    obtain ⟨hx1, hx2⟩ := List.mem_filter.mp hx
    obtain ⟨f, hf, he⟩ := h x hx1
    simp only [List.mem_cons] at hf
    rcases hf with rfl | hf
    · simp [he] at hx2
    · exact ⟨f, hf, he⟩

end NeoFS.WC
