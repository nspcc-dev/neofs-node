import NeoFS.Lemmas.Wire
/-! C41: the fast scan over bytes equals an abstract scan over the full decoder's field list. -/
namespace NeoFS.Wire

theorem Except.map_eq_error {ε α β : Type} {f : α → β} {x : Except ε α} {e : ε} (h : x.map f = .error e) : x = .error e := by
  cases x with
  | ok a => nomatch h
  | error a => rw [Except.error.inj h]

theorem Except.map_eq_ok {ε α β : Type} {f : α → β} {x : Except ε α} {b : β} (h : x.map f = .ok b) :
    ∃ a, x = .ok a ∧ f a = b := by
  cases x with
  | ok a => exact ⟨a, rfl, Except.ok.inj h⟩
  | error a => nomatch h

theorem numOKParse_eq_numOKFull : numOKParse = numOKFull := rfl

def fbOf (f : Field) : FB := ⟨f.from_, f.vfrom, f.to_⟩

/-- missing = zero bounds -/
def unopt (r : Option FB × Option FB × Option FB) : FB × FB × FB := (r.1.getD {}, r.2.1.getD {}, r.2.2.getD {})

/-- `boundsLoop` as a function of the reference decoder's field list: strictly ascending LEN fields up to
`last`; the scan ends at `last`, at a greater number or with the list -/
def scanSpec (last : Nat) (slot : Nat → Nat) :
    List Field → Nat → Option FB → Option FB → Except Err (Option FB × Option FB × Option FB)
  | [], _, idf, sigf => .ok (idf, sigf, none)
  | f :: fs, prev, idf, sigf =>
    if f.num > last then .ok (idf, sigf, none)
    else if f.num < prev then .error .unordered
    else if f.num = prev then .error .repeated
    else if f.wt ≠ 2 then .error .wtype
    else if f.num = last then .ok (idf, sigf, some (fbOf f))
    else scanSpec last slot fs f.num (if slot f.num = 0 then some (fbOf f) else idf)
      (if slot f.num = 1 then some (fbOf f) else sigf)

theorem scanSpec_error {last : Nat} {slot : Nat → Nat} {fs : List Field} {prev : Nat} {idf sigf : Option FB} {e : Err}
    (h : scanSpec last slot fs prev idf sigf = .error e) : e = .unordered ∨ e = .repeated ∨ e = .wtype := by
  fun_induction scanSpec last slot fs prev idf sigf with
  | case1 | case2 | case6 => nomatch h
  | case3 => exact .inl (Except.error.inj h).symm
  | case4 => exact .inr (.inl (Except.error.inj h).symm)
  | case5 => exact .inr (.inr (Except.error.inj h).symm)
  | case7 =>
    rename_i ih
    exact ih h

theorem refLoop_of_nil {fuel off : Nat} {fs : List Field} (h : refLoop fuel off [] = some fs) : fs = [] := by
  cases fuel with
  | zero => nomatch h
  | succ fuel => rw [refLoop, if_pos rfl] at h; exact (Option.some.inj h).symm

theorem refLoop_inv {fuel off : Nat} {rest : Bytes} {fs : List Field} (h : refLoop fuel off rest = some fs)
    (hne : rest ≠ []) :
    ∃ fuel' num wt n m fs', fuel = fuel' + 1 ∧ decodeTag numOKFull rest = some (num, wt, n) ∧
      skipValue num wt (rest.drop n) = some m ∧ refLoop fuel' (off + n + m) (rest.drop (n + m)) = some fs' ∧
      fs = ⟨num, wt, off, off + n + lenPrefix wt (rest.drop n), off + n + m⟩ :: fs' := by
  cases fuel with
  | zero => nomatch h
  | succ fuel =>
    rw [refLoop, if_neg hne] at h
    split at h
    · nomatch h
    · rename_i num wt n ht
      split at h
      · nomatch h
      · rename_i m hm
        split at h
        · nomatch h
        · rename_i fs' hfs
          cases h
          exact ⟨fuel, num, wt, n, m, fs', rfl, ht, hm, hfs, rfl⟩

theorem skipValue_len {num : Nat} {b : Bytes} {m : Nat} (h : skipValue num 2 b = some m) (hb : b.length < 2 ^ 63) :
    ∃ u n2, parseLEN b = some (u, n2) ∧ m = n2 + u ∧ lenPrefix 2 b = n2 := by
  rw [skipValue, if_neg (by decide), skipScalar] at h
  split at h
  · rename_i u n2 hv
    split at h
    · cases h
      refine ⟨u, n2, ?_, rfl, ?_⟩
      · rw [parseLEN, hv]
        simp only
        rw [if_neg (by unfold maxInt; omega), if_neg (by omega)]
      · rw [lenPrefix, if_pos rfl, hv]
    · nomatch h
  · nomatch h

theorem refLoop_head_parses {buf : Bytes} (hlen : buf.length < 2 ^ 63) {fuel off : Nat} {fs : List Field}
    (h : refLoop fuel off (buf.drop off) = some fs) (hoff : off < buf.length) :
    ∃ fuel0 n f fs', fuel = fuel0 + 1 ∧ fs = f :: fs' ∧ parseTag (buf.drop off) = .ok (f.num, f.wt, n) ∧
      refLoop fuel0 f.to_ (buf.drop f.to_) = some fs' ∧
      parseLENFieldBounds buf off n f.wt = (if f.wt = 2 then .ok (fbOf f) else .error .wtype) ∧
      (f.wt = 2 → f.to_ ≤ buf.length) := by
  have hne : buf.drop off ≠ [] := fun h0 => Nat.not_le_of_lt hoff (List.drop_eq_nil_iff.1 h0)
  obtain ⟨fuel0, num, wt, n, m, fs', rfl, ht, hm, hfs, rfl⟩ := refLoop_inv h hne
  rw [List.drop_drop] at hm hfs
  rw [← Nat.add_assoc] at hfs
  refine ⟨fuel0, n, _, fs', rfl, rfl, by rw [parseTag, numOKParse_eq_numOKFull, ht], hfs, ?_⟩
  by_cases hwt : wt = 2
  · subst hwt
    obtain ⟨u, n2, hp, rfl, hlp⟩ := skipValue_len hm (by rw [List.length_drop]; omega)
    have := parseLEN_spec hp
    rw [List.length_drop] at this
    rw [parseLENFieldBounds, if_neg (fun h => h rfl), hp, List.drop_drop, hlp, if_pos rfl]
    exact ⟨by simp only [fbOf, Nat.add_assoc], fun _ => by simp only; omega⟩
  · rw [parseLENFieldBounds, if_pos hwt, if_neg hwt]
    exact ⟨rfl, fun h => absurd h hwt⟩

theorem getD_ite_some (c : Prop) [Decidable c] (x : FB) (o : Option FB) :
    (if c then some x else o).getD {} = if c then x else o.getD {} := by
  split <;> rfl

/-- the refinement: whenever the full decoder's wire stage accepts the bytes from `off` on, the fast scan
returns exactly what the abstract scan over the decoded field list returns -/
theorem boundsLoop_refines {buf : Bytes} {last : Nat} {slot : Nat → Nat} (hlen : buf.length < 2 ^ 63)
    {fuelB fuelR off prev : Nat} (idf sigf : Option FB) {fs : List Field}
    (href : refLoop fuelR off (buf.drop off) = some fs) (hoff : off < buf.length) (hprev : prev < last)
    (hfuel : last + 1 ≤ fuelB + prev) :
    boundsLoop buf last slot fuelB off prev (idf.getD {}) (sigf.getD {}) =
      (scanSpec last slot fs prev idf sigf).map unopt := by
  induction fuelB generalizing fuelR off prev idf sigf fs with
  | zero => omega
  | succ fuelB ih =>
    obtain ⟨fuel0, n, f, fs, rfl, rfl, ht, hfs, hp, hto⟩ := refLoop_head_parses hlen href hoff
    rw [boundsLoop, ht, scanSpec]
    simp only
    by_cases c1 : f.num > last
    · simp only [if_pos c1]; rfl
    by_cases c2 : f.num < prev
    · simp only [if_neg c1, if_pos c2]; rfl
    by_cases c3 : f.num = prev
    · simp only [if_neg c1, if_neg c2, if_pos c3]; rfl
    simp only [if_neg c1, if_neg c2, if_neg c3]
    rw [hp]
    by_cases hwt : f.wt = 2
    · rw [if_pos hwt, if_neg (not_not_intro hwt)]
      simp only
      by_cases c5 : f.num = last
      · simp only [if_pos c5]; rfl
      simp only [if_neg c5, ← getD_ite_some]
      by_cases hend : (fbOf f).to_ = buf.length
      · -- the buffer ends here, and so does the field list
        have : fs = [] := by
          rw [show (fbOf f).to_ = f.to_ from rfl] at hend
          rw [hend, List.drop_length] at hfs
          exact refLoop_of_nil hfs
        rw [if_pos hend, this, scanSpec]
        rfl
      · rw [if_neg hend]
        exact ih _ _ hfs (Nat.lt_of_le_of_ne (hto hwt) hend) (by omega) (by omega)
    · rw [if_neg hwt, if_pos hwt]
      rfl

end NeoFS.Wire
