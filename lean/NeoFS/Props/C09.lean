import NeoFS.Props.C15
/-!
# C09 — a removed object never becomes readable again without a new upload

`Gone s a` ("the metabase carries the default garbage key of `a`, or does not index `a`") is what every way of
reporting an object removed implies (`reported_gone`: tombstoned, marked as garbage / dropped, deleted), it makes
every read fail (`gone_unreadable`), and it is preserved by EVERY atomic step of EVERY operation other than a
new `Put` of that very object and a metabase resync (`gone_step`).  Hence, for every history (puts of other
objects and tombstones, deletions, marks, GC passes with tombstone expiry, flushes, the flush-versus-delete
schedule, epoch advances, restarts) with crashes at any step boundary: once removed, never readable again
(`no_resurrection_partial`).

The full statement `C09_full` (resyncs allowed) is FALSE for the code as it is: a resync rebuilds the metabase
from what the main storage holds, and the main storage can hold bytes of removed objects while nothing in it
says so — a garbage mark lives in the metabase only, a tombstone may still sit in the write-cache, or may have
expired and been collected while an orphan of its target survived (left by a crash between the metabase and
the blob step of a deletion, or re-created by a flusher that raced the deletion).  `C09_counterexample` and the
three named witnesses are kernel-evaluated and replayed on the real shard on every run (known finding).
`resync_without_blob_keeps_gone`: a resync is harmless for a removed object whose bytes are not in the main
storage (no orphan).
-/
namespace NeoFS.ShardSteps

/-- the metabase marks `a` for removal with the default mark, or does not index it -/
def Gone (s : St) (a : Nat) : Prop := s.garb a = some .dflt ∨ indexed s a = false

theorem gone_of_meta_eq {s s' : St} {a : Nat} (hi : s'.idx = s.idx) (hg : s'.garb = s.garb) (h : Gone s a) :
    Gone s' a := by
  simpa [Gone, indexed, hi, hg] using h

/-- how an object is reported removed: the metabase answers "already removed" (tombstone) or "marked as
garbage" (dropped), or it does not know the object (deleted) -/
def RemovedReport (s : St) (a : Nat) : Prop :=
  status s a = .tombstoned ∨ status s a = .gcMarked ∨ indexed s a = false

instance (s : St) (a : Nat) : Decidable (RemovedReport s a) := by
  unfold RemovedReport; infer_instance

theorem reported_gone {content : Nat → Body} {s : St} {a : Nat} (hI : Inv content s) (h : RemovedReport s a) :
    Gone s a := by
  have hs := status_spec s a
  rcases h with h | h | h
  · rw [h] at hs
    cases hi : indexed s a
    · exact Or.inr hi
    · exact Or.inl (hI.tomb a hi hs.2)
  · rw [h] at hs
    exact Or.inl hs.2.2
  · exact Or.inr h

theorem gone_unreadable {s : St} {a : Nat} (h : Gone s a) : (get s a).1 ≠ .ok := by
  have hs := status_spec s a
  unfold get
  split
  · nofun
  · nofun
  · nofun
  · rename_i hst
    rw [hst] at hs
    have hni : ¬ indexed s a = true := fun hi => h.elim hs.2.2 fun h' => nomatch hi.symm.trans h'
    rw [if_neg hni]
    nofun

/-- steps that may index `a` again -/
def touches (a : Nat) : Step → Bool
  | .metaPut a' _ => a' == a
  | .resyncBatch _ => true
  | _ => false

theorem insertObj_gone (s : St) (a' : Nat) (k : Kind) (a : Nat) (hne : a' ≠ a) (h : Gone s a) :
    Gone (insertObj s a' k).1 a := by
  have hne' : a ≠ a' := fun e => hne e.symm
  cases k with
  | reg =>
    simp only [insertObj, Gone, indexed, upd_other _ _ hne']
    exact h
  | ts tg x =>
    simp only [insertObj]
    split
    · exact h
    · simp only [Gone, indexed, upd_other _ _ hne']
      by_cases hat : a = tg
      · subst hat; left; simp
      · unfold Gone indexed at h
        simpa [upd_other _ _ hat] using h

theorem metaPut_gone (s : St) (a' : Nat) (k : Kind) (a : Nat) (hne : a' ≠ a) (h : Gone s a) :
    Gone (metaPut s a' k).1 a :=
  metaPut_cases (P := fun r => Gone r.1 a) s a' k (fun _ => h) (fun _ _ => h) (fun _ => h)
    (fun _ _ _ => insertObj_gone s a' k a hne h)

/-- every atomic step that is not a metabase put of `a` itself (and not the refill of a resync) keeps `a` gone -/
theorem gone_step {s : St} {a : Nat} (st : Step) (ht : touches a st = false) (h : Gone s a) :
    Gone (applyStep s st) a := by
  cases st with
  | metaPut a' k =>
    have hne : a' ≠ a := by simpa [touches] using ht
    exact metaPut_gone s a' k a hne h
  | resyncBatch order => simp [touches] at ht
  | metaDelete ids =>
    by_cases hm : a ∈ ids
    · right; simp [indexed, applyStep, hm]
    · simpa [Gone, indexed, applyStep, hm] using h
  | metaMark ids m =>
    simp only [applyStep]
    split
    · exact h.imp_left (foldl_markOne_keeps_dflt m ids s.garb a)
    · exact h
  | metaReset => exact Or.inr rfl
  | flushCopy x =>
    simp only [applyStep]
    split <;> exact h
  | _ => exact h

theorem gone_steps {a : Nat} : ∀ (l : List Step) (s : St), (∀ st ∈ l, touches a st = false) → Gone s a →
    Gone (applySteps s l) a :=
  fun l _ hl h => List.foldlRecOn (motive := (Gone · a)) l _ h fun _ hs st hst => gone_step st (hl st hst) hs

/-- operations that do not upload `a` anew and do not resync -/
def Quiet (a : Nat) : Op → Prop
  | .put a' _ => a' ≠ a
  | .resync _ => False
  | _ => True

theorem noTouch_of_isDelOf {P : Nat → Prop} {x : Step} (a : Nat) (hx : IsDelOf P x) : touches a x = false := by
  cases x with
  | wcDel _ => rfl
  | blobDel _ => rfl
  | _ => exact False.elim hx

theorem deleteSteps_noTouch (a : Nat) (s : St) (ids : List Nat) : ∀ st ∈ deleteSteps s ids, touches a st = false := by
  rcases deleteSteps_spec s ids with h | ⟨dels, h, hd⟩
  · rw [h]; exact List.forall_mem_nil _
  · rw [h]
    exact fun st hst => (List.mem_cons.mp hst).elim (fun e => e ▸ rfl) fun hst => noTouch_of_isDelOf a (hd st hst)

theorem flushSteps_noTouch (a : Nat) (s : St) (x : Nat) : ∀ st ∈ flushSteps s x, touches a st = false := by
  unfold flushSteps
  split
  · exact List.forall_mem_cons.mpr ⟨rfl, List.forall_mem_singleton.mpr rfl⟩
  · exact List.forall_mem_nil _

theorem flushAllSteps_noTouch (a : Nat) (order : List Nat) : ∀ (s : St), ∀ st ∈ flushAllSteps s order, touches a st = false := by
  induction order with
  | nil => exact fun _ => List.forall_mem_nil _
  | cons x rest ih => exact fun s => List.forall_mem_append.mpr ⟨flushSteps_noTouch a s x, ih _⟩

theorem opSteps_noTouch {a : Nat} {s : St} (o : Op) (hq : Quiet a o) : ∀ st ∈ opSteps s o, touches a st = false := by
  cases o with
  | put a' b =>
    have hne : a' ≠ a := hq
    refine List.forall_mem_cons.mpr ⟨by split <;> rfl, List.forall_mem_cons.mpr ⟨beq_eq_false_iff_ne.mpr hne, ?_⟩⟩
    split
    · refine List.forall_mem_append.mpr ⟨?_, List.forall_mem_singleton.mpr rfl⟩
      split
      · exact List.forall_mem_singleton.mpr rfl
      · exact List.forall_mem_nil _
    · exact List.forall_mem_nil _
  | delete ids => exact deleteSteps_noTouch a s ids
  | mark ids m =>
    refine List.forall_mem_cons.mpr ⟨rfl, ?_⟩
    split
    · exact List.forall_mem_map.mpr fun _ _ => rfl
    · exact List.forall_mem_nil _
  | gc =>
    refine List.forall_mem_append.mpr ⟨?_, deleteSteps_noTouch a _ _⟩
    unfold expirySteps
    split
    · exact deleteSteps_noTouch a s _
    · exact List.forall_mem_nil _
  | flush x => exact flushSteps_noTouch a s x
  | flushAll order => exact flushAllSteps_noTouch a order s
  | flushRace x =>
    simp only [opSteps, flushRaceSteps]
    split
    · exact List.forall_mem_append.mpr ⟨deleteSteps_noTouch a s _, List.forall_mem_cons.mpr ⟨rfl, List.forall_mem_singleton.mpr rfl⟩⟩
    · exact List.forall_mem_nil _
  | epoch e => exact List.forall_mem_nil _
  | reopen => exact List.forall_mem_nil _
  | resync order => exact hq.elim
theorem opPost_gone {s0 s : St} {a : Nat} (o : Op) (h : Gone s a) : Gone (opPost s0 s o) a :=
  gone_of_meta_eq (opPost_persistent s0 s o).2.2.1 (opPost_persistent s0 s o).2.2.2.1 h

theorem gone_hist {a : Nat} : ∀ (h : List (Op × Option Nat)) (s : St), (∀ p ∈ h, Quiet a p.1) → Gone s a →
    Gone (runHist s h) a :=
  fun h s hq hg => runHist_ind (P := (Gone · a))
    (fun s o hq hg => opPost_gone o (gone_steps _ s (opSteps_noTouch o hq) hg))
    (fun s o _ hq hg => gone_of_meta_eq rfl rfl
      (gone_steps _ s (fun st hst => opSteps_noTouch o hq st (List.mem_of_mem_take hst)) hg)) h s hq hg

/-- the full property: after ANY history in which the object was reported removed, ANY continuation without a
new `Put` of it (resyncs included) never reads it back -/
def C09_full : Prop :=
  ∀ (content : Nat → Body) (wc : Bool) (h1 h2 : List (Op × Option Nat)) (a : Nat),
    WFHist content (h1 ++ h2) → RemovedReport (runHist { hasWC := wc } h1) a →
    (∀ p ∈ h2, ∀ b, p.1 ≠ .put a b) →
    (get (runHist (runHist { hasWC := wc } h1) h2) a).1 ≠ .ok

/-- **C09, proved part.** The same with continuations free of resyncs: every history, every crash point. -/
theorem no_resurrection_partial (content : Nat → Body) (wc : Bool) (h1 h2 : List (Op × Option Nat)) (a : Nat)
    (hw : WFHist content h1) (hr : RemovedReport (runHist { hasWC := wc } h1) a)
    (hq : ∀ p ∈ h2, Quiet a p.1) :
    (get (runHist (runHist { hasWC := wc } h1) h2) a).1 ≠ .ok :=
  gone_unreadable (gone_hist h2 _ hq (reported_gone (runHist_inv h1 _ (inv_init content wc) hw) hr))

/-- at the granularity of atomic steps (any interleaving): no step other than the metabase put of the object
itself and a resync refill brings it back, a crash anywhere included -/
theorem no_resurrection_trace (s : St) (a : Nat) (tr : List Step) (k : Nat) (hg : Gone s a)
    (ht : ∀ st ∈ tr, touches a st = false) : (get (crash (applySteps s (tr.take k))) a).1 ≠ .ok :=
  gone_unreadable (gone_of_meta_eq rfl rfl
    (gone_steps _ s (fun st hst => ht st (List.mem_of_mem_take hst)) hg))

/-- a resync (cut by a crash anywhere, or complete) cannot bring back a removed object whose bytes the main
storage does not hold (no orphan) -/
theorem resync_without_blob_keeps_gone (s : St) (a : Nat) (order : List Nat) (k : Nat) (hg : Gone s a)
    (hb : s.blob a = none) :
    (get (crashOp s (.resync order) k) a).1 ≠ .ok ∧ (get (runOp s (.resync order)) a).1 ≠ .ok := by
  have h1 : Gone (applyStep s .metaReset) a := Or.inr (by simp [indexed, applyStep])
  have h2 : Gone (applyStep (applyStep s .metaReset) (.resyncBatch order)) a := by
    simp only [applyStep] at h1 ⊢
    cases hp : putBatch { s with idx := fun _ => none, garb := fun _ => none, hasBkt := false } s.blob order with
    | none => simpa using h1
    | some s' =>
      simpa using putBatch_ind (P := (Gone · a)) s.blob (fun s x b hxb hg =>
        metaPut_gone s x b.kind a (fun e => nomatch (e ▸ hxb).symm.trans hb) hg) order _ s' h1 hp
  constructor
  · apply gone_unreadable
    apply gone_of_meta_eq (s := applySteps s ((opSteps s (.resync order)).take k)) rfl rfl
    match k with
    | 0 => simpa [opSteps, applySteps] using hg
    | 1 => simpa [opSteps, applySteps] using h1
    | k + 2 => simpa [opSteps, applySteps] using h2
  · apply gone_unreadable
    simpa [runOp, opPost, opSteps, applySteps] using h2

/-! ### the full statement is false for the code as it is: witnesses (replayed on the real shard on every run) -/

/-- object 1 is dropped (default garbage mark: reads answer "not found"); a resync before the GC has physically
removed it re-indexes it from the main storage, where nothing says it was dropped -/
def wDrop1 : List (Op × Option Nat) := [(.put 1 b1, none), (.mark [1] .dflt, none)]
def wDrop2 : List (Op × Option Nat) := [(.resync [1], none)]

theorem C09_counterexample : ¬ C09_full := by
  intro h
  have hwf : WFHist contentEx (wDrop1 ++ wDrop2) := by
    intro p hp
    simp [wDrop1, wDrop2] at hp
    rcases hp with rfl | rfl | rfl <;> simp [WFOp, contentEx, b1]
  have hnp : ∀ p ∈ wDrop2, ∀ b, p.1 ≠ Op.put 1 b := by
    intro p hp b
    simp [wDrop2] at hp
    subst hp
    simp
  exact h contentEx false wDrop1 wDrop2 1 hwf (by decide) hnp (by decide)

/-- tombstoned object; the GC's deletion is cut by a crash between the metabase step and the blob step (an
orphan blob stays); the tombstone expires and is collected; a resync re-indexes the orphan -/
def wOrphan : List (Op × Option Nat) :=
  [(.put 1 b1, none), (.put 7 bT, none), (.gc, some 1), (.epoch 4, none), (.gc, none), (.resync [1], none)]

theorem orphan_after_crash_resurrected :
    RemovedReport (runHist {} (wOrphan.take 2)) 1 ∧ (runHist {} (wOrphan.take 5)).blob 1 = some b1
      ∧ (get (runHist {} (wOrphan.take 5)) 1).1 = .notFound ∧ (get (runHist {} wOrphan) 1).1 = .ok := by decide

/-- the same orphan produced by a SCHEDULE instead of a crash: the flusher raced the deletion -/
def wRace : List (Op × Option Nat) :=
  [(.put 1 b1, none), (.put 7 bT, none), (.flushRace 1, none), (.epoch 4, none), (.gc, none), (.resync [1], none)]

theorem flush_race_orphan_resurrected :
    RemovedReport (runHist { hasWC := true } (wRace.take 2)) 1
      ∧ (get (runHist { hasWC := true } (wRace.take 5)) 1).1 = .notFound
      ∧ (get (runHist { hasWC := true } wRace) 1).1 = .ok := by decide

/-- the tombstone still sits in the write-cache when the metabase is rebuilt from the main storage -/
def wCachedTS : List (Op × Option Nat) :=
  [(.put 1 b1, none), (.flush 1, none), (.put 7 bT, none), (.resync [1], none)]

theorem cached_tombstone_lost_by_resync :
    RemovedReport (runHist { hasWC := true } (wCachedTS.take 3)) 1
      ∧ (get (runHist { hasWC := true } wCachedTS) 1).1 = .ok := by decide

/-! ### non-vacuity of the proved part -/

example :
    let h1 : List (Op × Option Nat) := [(.put 1 b1, none), (.put 7 bT, none)]
    let h2 : List (Op × Option Nat) := [(.gc, some 1), (.epoch 4, none), (.gc, none), (.flushAll [1, 7], none), (.reopen, none)]
    RemovedReport (runHist { hasWC := true } h1) 1 ∧ (∀ p ∈ h2, Quiet 1 p.1)
      ∧ (runHist (runHist { hasWC := true } h1) h2).blob 1 = some b1
      ∧ (get (runHist (runHist { hasWC := true } h1) h2) 1).1 = .notFound := by
  refine ⟨by decide, ?_, by decide, by decide⟩
  intro p hp
  simp at hp
  rcases hp with rfl | rfl | rfl | rfl | rfl <;> simp [Quiet]

end NeoFS.ShardSteps
