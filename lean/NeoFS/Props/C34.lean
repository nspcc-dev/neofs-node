import NeoFS.Lemmas.Notary
/-!
# C34 — the inner ring co-signs only notary transactions whose calls it fully validated

All theorems are over ALL requests (any number of calls, any contracts / methods / argument
shapes, any signer / witness / attribute layout), all environments, all registries of parsers and
all handler validation predicates `hv`.
-/
namespace NeoFS.Notary

/-- When the followers matched and were validated, every one of them
is the expected call of some follower spec and was accepted by the validation of its own method. -/
theorem matchRest_validate (hv : Nat → Call → Bool) :
    ∀ (ss : List CallSpec) (cs : List Call), matchRest ss cs = true → validateRest hv ss cs = true →
      ∀ c ∈ cs, (∃ s ∈ ss, s.same c = true) ∧ hv c.method c = true := by
  intro ss
  induction ss with
  | nil =>
    intro cs hm _ c hc
    cases cs with
    | nil => cases hc
    | cons x xs => cases hm
  | cons s ss ih =>
    intro cs hm hval c hc
    cases cs with
    | nil => cases hc
    | cons x xs =>
      obtain ⟨hm1, hm2⟩ := Bool.and_eq_true_iff.mp (hm : (s.matches x && matchRest ss xs) = true)
      obtain ⟨hv1, hv2⟩ := Bool.and_eq_true_iff.mp (hval : (hv s.method x && validateRest hv ss xs) = true)
      rcases List.mem_cons.mp hc with rfl | hin
      · have hs : s.same c = true := (Bool.and_eq_true_iff.mp hm1).1
        exact ⟨⟨s, List.mem_cons_self, hs⟩, (CallSpec.same_eq_true_iff.mp hs).2 ▸ hv1⟩
      · obtain ⟨⟨s', hs', hsame⟩, hv'⟩ := ih xs hm2 hv2 c hin
        exact ⟨⟨s', List.mem_cons_of_mem _ hs', hsame⟩, hv'⟩

/-- The followers a parser matches are at most as many as it lists. -/
theorem matchRest_length : ∀ (ss : List CallSpec) (cs : List Call), matchRest ss cs = true → cs.length ≤ ss.length := by
  intro ss
  induction ss with
  | nil =>
    intro cs h
    cases cs with
    | nil => exact Nat.le_refl 0
    | cons x xs => cases h
  | cons s ss ih =>
    intro cs h
    cases cs with
    | nil => exact Nat.zero_le _
    | cons x xs =>
      exact Nat.succ_le_succ (ih xs (Bool.and_eq_true_iff.mp (h : (s.matches x && matchRest ss xs) = true)).2)

/-- **C34, calls.** If the node co-signs a request then EVERY call of the main script is a
(contract, method) pair the inner ring registered a notary parser for, and the arguments of EVERY
call were accepted by the handler validation of that call's own method.  No call rides along
unchecked.  (`followersRegistered`: the optional further calls a parser accepts are themselves
registered request types — true of the inner ring's registry, `irRegistry_followers`.) -/
theorem cosign_implies_all_calls_expected (reg : Registry) (env : Env) (hv : Nat → Call → Bool) (r : Req)
    (hreg : reg.followersRegistered = true) (h : cosign reg env hv r = true) :
    ∀ c ∈ r.calls, reg.allowed c = true ∧ hv c.method c = true := by
  obtain ⟨c, cs, p, hsc, _, ha, hpm, hps, _, hmr, _, hv0, hvr⟩ := cosign_unfold h
  intro x hx
  simp only [Req.calls, hsc, Option.getD_some] at hx
  rcases List.mem_cons.mp hx with rfl | hin
  · exact ⟨ha, (CallSpec.same_eq_true_iff.mp hps).2 ▸ hv0⟩
  · obtain ⟨⟨s, hs, hsame⟩, hvx⟩ := matchRest_validate hv p.rest cs hmr hvr x hin
    exact ⟨allowed_of_follower hreg hpm hs hsame, hvx⟩

theorem irRegistry_followers : irRegistry.followersRegistered = true := by decide

/-- C34 for the registry the inner ring installs. -/
theorem cosign_ir_all_calls_expected (env : Env) (hv : Nat → Call → Bool) (r : Req)
    (h : cosign irRegistry env hv r = true) :
    ∀ c ∈ r.calls, irRegistry.allowed c = true ∧ hv c.method c = true :=
  cosign_implies_all_calls_expected irRegistry env hv r irRegistry_followers h

/-- **C34, structure.** A co-signed request was not handled before, is not the node's own request,
has 3 or 4 witnesses and as many signers with the alphabet multi-signature account second, exactly
one NotaryAssisted attribute with the expected key count, an empty proxy witness, the current
alphabet verification script, a non-empty invoker witness when there are four, a notary
placeholder last, a fallback with three attributes of which exactly one NotValidBefore above the
current height; and the node is an alphabet member. -/
theorem cosign_structure (reg : Registry) (env : Env) (hv : Nat → Call → Bool) (r : Req)
    (h : cosign reg env hv r = true) :
    env.isAlphabet = true ∧ r.seen = false ∧ r.fbFromLocal = false ∧
    (r.witnesses.length = 3 ∨ r.witnesses.length = 4) ∧
    r.signers.length = r.witnesses.length ∧ r.signers[1]? = some Signer.alpha ∧
    r.attrs = [Attr.notaryAssisted ((env.alphaN % 256 + invN (r.witnesses.length == 4)) % 256)] ∧
    r.witnesses[0]?.any emptyW = true ∧ r.witnesses[1]?.any (fun x => x.ver == Ver.alpha) = true ∧
    (r.witnesses.length = 4 → r.witnesses[2]?.any emptyW = false) ∧
    (∃ l, r.witnesses.getLast? = some l ∧ (l.inv = Inv.empty ∨ l.inv = Inv.dummy) ∧ l.ver = Ver.empty) ∧
    r.fbAttrs.length = 3 ∧ r.fbAttrs.count FbAttr.nvb = 1 ∧ env.height < r.nvb := by
  obtain ⟨c, cs, p, _, hs, _, _, _, _, _, hal, _, _⟩ := cosign_unfold h
  obtain ⟨hseen, hln, hloc, hc, ha, hw, he⟩ := structureErr_eq_none.mp hs
  obtain ⟨hc1, hc2⟩ := cosignersErr_eq_none.mp hc
  obtain ⟨hw0, hw1, hw2, hlast⟩ := witnessesErr_eq_none.mp hw
  obtain ⟨he1, he2, he3⟩ := expirationErr_eq_none.mp he
  exact ⟨hal, hseen, hloc, hln, hc1, hc2, attrsErr_eq_none.mp ha, hw0, hw1, fun h4 => hw2 (beq_iff_eq.mpr h4), hlast, he1, he2, he3⟩

/-- A node outside the alphabet never co-signs (any registry, any request). -/
theorem non_alphabet_never_cosigns (reg : Registry) (env : Env) (hv : Nat → Call → Bool) (r : Req)
    (h : env.isAlphabet = false) : cosign reg env hv r = false := by
  cases hc : cosign reg env hv r with
  | false => rfl
  | true =>
    obtain ⟨_, _, _, _, _, _, _, _, _, _, hal, _, _⟩ := cosign_unfold hc
    rw [h] at hal
    cases hal

/-! ### the defect the repair closed -/

/-- the statement of C34 for a given co-signing function -/
def AllCallsExpected (cs : Registry → Env → (Nat → Call → Bool) → Req → Bool) : Prop :=
  ∀ (env : Env) (hv : Nat → Call → Bool) (r : Req), cs irRegistry env hv r = true →
    ∀ c ∈ r.calls, irRegistry.allowed c = true ∧ hv c.method c = true

theorem C34_holds_for_repaired_code : AllCallsExpected cosign :=
  fun env hv r h => cosign_ir_all_calls_expected env hv r h

def canonReq (calls : List Call) : Req :=
  { seen := false, witnesses := [⟨.empty, .empty⟩, ⟨.empty, .alpha⟩, ⟨.empty, .empty⟩],
    signers := [.proxy, .alpha, .notary], attrs := [.notaryAssisted 4], fbAttrs := [.notaryAssisted, .nvb, .conflicts],
    nvb := 100, fbFromLocal := false, script := some calls }

def canonEnv : Env := { alphaN := 4, height := 50, isAlphabet := true }

/-- createV2 on the container contract followed by `foo` on a foreign contract (4) with eACL-shaped
arguments: this is the request replayed against the real code before the repair. -/
def foreignSecondCall : Req :=
  canonReq [⟨0, 3, [.cnr, .bytes, .bytes, .bytes], 1⟩, ⟨4, 14, [.bytes, .bytes, .bytes, .bytes], 1⟩]

/-- the validation predicate of the replay: valid for the method the handler applies it as, not for `foo` -/
def hvReplay (m : Nat) (c : Call) : Bool := c.tag == 1 && m != 14

/-- Before the repair the second call was only checked for its argument shape: the foreign call
was co-signed (this is what the engine replayed on the unrepaired code). -/
theorem unfixed_counterexample : ¬ AllCallsExpected cosignUnfixed := by
  intro h
  have := h canonEnv hvReplay foreignSecondCall (by decide) ⟨4, 14, [.bytes, .bytes, .bytes, .bytes], 1⟩ (by decide)
  revert this
  decide

/-- The repaired parser refuses the request of `unfixed_counterexample`. -/
example : handle irRegistry canonEnv hvReplay foreignSecondCall = .parseErr 2 := by decide

/-! ### non-vacuity -/

/-- a two-call request (createV2 + putEACL on the container contract) IS co-signed -/
example : cosign irRegistry canonEnv (fun _ c => c.tag == 1)
    (canonReq [⟨0, 3, [.cnr, .bytes, .bytes, .bytes], 1⟩, ⟨0, 7, [.bytes, .bytes, .bytes, .bytes], 1⟩]) = true := by decide

/-- the same request is not co-signed when the second call's arguments fail the eACL validation -/
example : cosign irRegistry canonEnv (fun _ c => c.tag == 1)
    (canonReq [⟨0, 3, [.cnr, .bytes, .bytes, .bytes], 1⟩, ⟨0, 7, [.bytes, .bytes, .bytes, .bytes], 0⟩]) = false := by decide

/-- a third call is refused by the parser -/
example : handle irRegistry canonEnv (fun _ c => c.tag == 1)
    (canonReq [⟨0, 3, [.cnr, .bytes, .bytes, .bytes], 1⟩, ⟨0, 7, [.bytes, .bytes, .bytes, .bytes], 1⟩,
               ⟨0, 7, [.bytes, .bytes, .bytes, .bytes], 1⟩]) = .parseErr 3 := by decide

/-- an expired fallback is refused -/
example : handle irRegistry { canonEnv with height := 100 } (fun _ c => c.tag == 1)
    (canonReq [⟨0, 5, [.bytes, .bytes, .bytes, .bytes], 1⟩]) = .prepErr .expired := by decide

end NeoFS.Notary
