import NeoFS.Lemmas.PolicerProgress
import NeoFS.Props.C26
/-!
# C27 — repeated policer cycles restore the required replicas

The cluster model (`Model/Policer.lean`, section "a cluster"): the state is the set of nodes holding one object;
in a cycle (`round`) the nodes of an arbitrary `order` take turns, each holder running the pass of C26 with itself
as the local node against the shared state (truthful HEAD answers; nodes that are `down` answer with an error and
refuse replicas; nodes of `mt` are in the MAINTENANCE state of the network map: not asked, refusing replicas, taking no
turn).  Proved here for ALL clusters, orders, down and maintenance sets and numbers of cycles:

* the replicator's report is sound for every task of every pass (`replicator_sound`, `pass_tasks_sound`);
* SAFETY (with C26): no turn, cycle or sequence of cycles takes a rule that has its required number of holders
  below that number (`pass_keeps_covered`, `round_keeps_covered`, `rounds_keep_covered`);
* PROGRESS for containers with one REP rule (`single_rule_pass_restores`, `single_rule_converges`): in a stable
  network the turn of ANY holder gives the rule its required number of holders, i.e. after ONE cycle in which some
  holder takes a turn the rule is covered, and by safety it stays covered for ever after.

Convergence for several rules (`C27_full`) is NOT proved: it is exercised by the correspondence run with the
bound of 2 stable cycles (`level_note` of C27 in MANIFEST.json).
-/
namespace NeoFS.Policer

/-- `Replicator.HandleTask` never reports more successes than asked for, only nodes of the task, never the local
node, and only nodes whose endpoint accepted the object. -/
theorem replicator_sound (e : Env) (q : Nat) (nodes : List Nat) : TaskSound e ⟨q, nodes, handleTask e q nodes⟩ :=
  handleTask_sound e q nodes

/-- … and this holds for every task any pass issues (REP rules and EC parts, old and repaired chain). -/
theorem pass_tasks_sound (e : Env) (legacy : Bool) (o : Obj) (p : Placement) :
    ∀ t ∈ (processObject e legacy o p).tasks, TaskSound e t := by
  intro t ht
  have hd : t.done = handleTask e t.quantity t.nodes :=
    (processObject_tasks e legacy o p t ht).elim And.left fun ⟨_, _, h⟩ => h.1
  unfold TaskSound
  rw [hd]
  exact handleTask_sound e _ _

/-- a rule (list, copies) has its required number of holders: that many DISTINCT nodes of the list hold the object
(for LOCK/LINK: every node of the list) -/
def Covered (typ : OType) (hold : List Nat) (v : List Nat × Nat) : Prop :=
  ∃ D : List Nat, D.Nodup ∧ D.length = startShortage typ v.1 v.2 ∧ ∀ n ∈ D, n ∈ v.1 ∧ n ∈ hold

theorem covered_iff {typ : OType} {hold : List Nat} {v : List Nat × Nat} :
    Covered typ hold v ↔ CoveredBy (· ∈ hold) typ v :=
  Iff.rfl

/-- clusters of the property: the container exists and has REP rules only -/
def Cluster.Plain (cl : Cluster) : Prop := cl.plc.net = .ok ∧ cl.plc.ecRules = []

/-- SAFETY of one turn: whatever the pass of `me` replicates and whether or not it drops its own copy, every rule
that was covered stays covered (nodes may be down, answers may be errors). -/
theorem pass_keeps_covered (cl : Cluster) (hp : cl.Plain) (down mt : List Nat) (me : Nat)
    (v : List Nat × Nat) (hv : v ∈ effVectors { typ := cl.typ } cl.plc) (hc : Covered cl.typ cl.hold v) :
    Covered cl.typ (holdersAfter cl.hold me (passOf cl down mt me)) v := by
  rw [passOf, processObject_rep _ _ _ _ hp.1 rfl hp.2]
  have stay : ∀ out, ∀ n ∈ cl.hold, n ≠ me → n ∈ holdersAfter cl.hold me out := fun _ n h hne =>
    (mem_holdersAfter _ _ _ _).mpr ⟨Or.inr h, Or.inr hne⟩
  by_cases hm : me ∈ v.1
  · rcases repPart_dels (clusterEnv down mt cl.hold me) false { typ := cl.typ } cl.plc with hd | hd
    · -- nothing deleted: the holders only grow
      exact CoveredBy.mono hc fun n _ h => (mem_holdersAfter _ _ _ _).mpr ⟨Or.inr h, Or.inl (by rw [hd]; rfl)⟩
    · -- the local copy was dropped as redundant: by C26 the rule is covered by nodes that answered `holds`
      exact CoveredBy.mono ((repPart_drop_safe _ _ _ [] nofun (hd ▸ List.mem_singleton_self _)).1 v hv hm)
        fun n _ h => stay _ n (clusterEnv_holds h.2.2.1) h.1
  · exact CoveredBy.mono hc fun n hn h => stay _ n h fun heq => hm (heq ▸ hn)

theorem turn_keeps_covered (down mt : List Nat) (acc : Cluster × Nat × List Nat) (hp : acc.1.Plain) (me : Nat)
    (v : List Nat × Nat) (hv : v ∈ effVectors { typ := acc.1.typ } acc.1.plc) (hc : Covered acc.1.typ acc.1.hold v) :
    Covered acc.1.typ (turn down mt acc me).1.hold v := by
  rw [turn_fst]
  split_ifs
  · exact hc
  · exact pass_keeps_covered acc.1 hp down mt me v hv hc

/-- `plc` and `typ` are parameters: the cluster keeps them while its holders change -/
theorem turns_covered (down mt order : List Nat) {typ : OType} {plc : Placement} {v : List Nat × Nat}
    (hp : plc.net = .ok ∧ plc.ecRules = []) (hv : v ∈ effVectors { typ := typ } plc)
    (acc : Cluster × Nat × List Nat) (ht : acc.1.typ = typ) (hpl : acc.1.plc = plc) (hc : Covered typ acc.1.hold v) :
    Covered typ (order.foldl (turn down mt) acc).1.hold v := by
  induction order generalizing acc with
  | nil => exact hc
  | cons a rest ih =>
    have t := turn_plc_typ down mt acc a
    subst ht hpl
    exact ih _ t.2 t.1 (turn_keeps_covered down mt acc hp a v hv hc)

theorem turns_keep_covered (down mt : List Nat) (order : List Nat) (cl : Cluster) (hp : cl.Plain) (z : Nat × List Nat)
    (v : List Nat × Nat) (hv : v ∈ effVectors { typ := cl.typ } cl.plc) (hc : Covered cl.typ cl.hold v) :
    (order.foldl (turn down mt) (cl, z)).1.Plain ∧ (order.foldl (turn down mt) (cl, z)).1.plc = cl.plc ∧
      (order.foldl (turn down mt) (cl, z)).1.typ = cl.typ ∧ Covered cl.typ (order.foldl (turn down mt) (cl, z)).1.hold v := by
  obtain ⟨hplc, htyp⟩ := turns_plc_typ down mt order (cl, z)
  exact ⟨by unfold Cluster.Plain; rw [hplc]; exact hp, hplc, htyp, turns_covered down mt order hp hv (cl, z) rfl rfl hc⟩

/-- SAFETY of a cycle, for every order of turns and every set of nodes that are down. -/
theorem round_keeps_covered (cl : Cluster) (hp : cl.Plain) (order down mt : List Nat)
    (v : List Nat × Nat) (hv : v ∈ effVectors { typ := cl.typ } cl.plc) (hc : Covered cl.typ cl.hold v) :
    (round cl order down mt).1.Plain ∧ (round cl order down mt).1.plc = cl.plc ∧ (round cl order down mt).1.typ = cl.typ ∧
      Covered cl.typ (round cl order down mt).1.hold v :=
  turns_keep_covered down mt order cl hp _ v hv hc

/-- a history of cycles: each with its own order of turns and its own set of down nodes -/
def rounds (cl : Cluster) : List (List Nat × List Nat × List Nat) → Cluster
  | [] => cl
  | r :: rs => rounds (round cl r.1 r.2.1 r.2.2).1 rs

theorem rounds_covered (hist : List (List Nat × List Nat × List Nat)) {typ : OType} {plc : Placement} {v : List Nat × Nat}
    (hp : plc.net = .ok ∧ plc.ecRules = []) (hv : v ∈ effVectors { typ := typ } plc)
    (cl : Cluster) (ht : cl.typ = typ) (hpl : cl.plc = plc) (hc : Covered typ cl.hold v) :
    Covered typ (rounds cl hist).hold v := by
  induction hist generalizing cl with
  | nil => exact hc
  | cons r rs ih =>
    obtain ⟨q1, q2⟩ := turns_plc_typ r.2.1 r.2.2 r.1 (cl, 0, [])
    exact ih _ (q2.trans ht) (q1.trans hpl) (turns_covered r.2.1 r.2.2 r.1 hp hv (cl, 0, []) ht hpl hc)

/-- SAFETY for ever: through any number of cycles of any shape a covered rule stays covered — the number of
holders never falls below the requirement through policer actions. -/
theorem rounds_keep_covered (cl : Cluster) (hp : cl.Plain) (hist : List (List Nat × List Nat × List Nat))
    (v : List Nat × Nat) (hv : v ∈ effVectors { typ := cl.typ } cl.plc) (hc : Covered cl.typ cl.hold v) :
    Covered cl.typ (rounds cl hist).hold v :=
  rounds_covered hist hp hv cl rfl rfl hc

/-! ## progress (containers with one REP rule) -/

theorem single_rule_plain {cl : Cluster} {nodes : List Nat} {r : Nat} (hplc : cl.plc = { lists := [nodes], rep := [r] }) :
    cl.Plain ∧ (nodes, r) ∈ effVectors { typ := cl.typ } cl.plc := by
  rw [Cluster.Plain, hplc]
  exact ⟨⟨rfl, rfl⟩, by simp [effVectors]⟩

/-- PROGRESS: in a stable network (nobody down) the turn of ANY holder gives the rule of a one-rule container its
required number of holders (list of distinct nodes, long enough for the rule). -/
theorem single_rule_pass_restores (cl : Cluster) (nodes : List Nat) (r : Nat)
    (hplc : cl.plc = { lists := [nodes], rep := [r] }) (nd : nodes.Nodup)
    (hs : startShortage cl.typ nodes r ≤ nodes.length) (me : Nat) (hme : me ∈ cl.hold) :
    Covered cl.typ (holdersAfter cl.hold me (passOf cl [] [] me)) (nodes, r) := by
  have hp := (single_rule_plain hplc).1
  -- the pass is the verdict over the one list
  have hpass : passOf cl [] [] me = verdict (clusterEnv [] [] cl.hold me) false { typ := cl.typ }
      (processNodes (clusterEnv [] [] cl.hold me) false cl.typ {} nodes r) [] := by
    rw [show passOf cl [] [] me = _ from processObject_rep _ _ _ _ hp.1 rfl hp.2, hplc]; rfl
  refine CoveredBy.mono (processNodes_progress (clusterEnv [] [] cl.hold me) (clusterEnv_healthy _ _) cl.typ nodes nd r hs)
    fun n _ h => ?_
  rw [mem_holdersAfter, hpass, verdict_tasks]
  rcases h with ⟨hn, hneed⟩ | ⟨hne, hh | ⟨t, ht, hd⟩⟩
  · exact ⟨Or.inr (hn ▸ hme), Or.inl (by simp [verdict, hneed])⟩
  · exact ⟨Or.inr (clusterEnv_holds hh), Or.inr hne⟩
  · exact ⟨Or.inl (List.mem_flatMap.mpr ⟨t, ht, hd⟩), Or.inr hne⟩

/-- CONVERGENCE for one-rule containers, bound = ONE cycle: after a cycle of a stable network in which at least one
holder takes a turn the rule has its required number of holders … -/
theorem single_rule_round_converges (nodes : List Nat) (r : Nat) (nd : nodes.Nodup) (order : List Nat) (cl : Cluster)
    (hplc : cl.plc = { lists := [nodes], rep := [r] })
    (hs : startShortage cl.typ nodes r ≤ nodes.length) (hm : ∃ m ∈ order, m ∈ cl.hold) :
    Covered cl.typ (round cl order [] []).1.hold (nodes, r) := by
  obtain ⟨hp, hv⟩ := single_rule_plain hplc
  unfold round
  generalize (0, ([] : List Nat)) = z
  induction order generalizing z with
  | nil => obtain ⟨m, hm1, _⟩ := hm; cases hm1
  | cons a rest ih =>
    rw [List.foldl_cons]
    by_cases ha : a ∈ cl.hold
    · -- the first holder of the order runs its pass on the initial state; the later turns keep what it restored
      have t := turn_plc_typ [] [] (cl, z) a
      refine turns_covered [] [] rest hp hv _ t.2 t.1 ?_
      rw [turn_fst, if_neg (by simp [ha])]
      exact single_rule_pass_restores cl nodes r hplc nd hs a ha
    · -- a node without the object does nothing
      have h1 : turn [] [] (cl, z) a = (cl, z) := by simp [turn, ha]
      rw [h1]
      obtain ⟨m, hm1, hm2⟩ := hm
      exact ih ⟨m, (List.mem_cons.mp hm1).resolve_left (fun h => ha (h ▸ hm2)), hm2⟩ z

/-- … and keeps them through every later cycle, whatever orders are used and whatever nodes go down then. -/
theorem single_rule_converges (nodes : List Nat) (r : Nat) (nd : nodes.Nodup) (order : List Nat) (cl : Cluster)
    (hplc : cl.plc = { lists := [nodes], rep := [r] })
    (hs : startShortage cl.typ nodes r ≤ nodes.length) (hm : ∃ m ∈ order, m ∈ cl.hold)
    (later : List (List Nat × List Nat × List Nat)) :
    Covered cl.typ (rounds cl ((order, [], []) :: later)).hold (nodes, r) := by
  obtain ⟨hp, hv⟩ := single_rule_plain hplc
  obtain ⟨q1, q2⟩ := turns_plc_typ [] [] order (cl, 0, [])
  exact rounds_covered later hp hv _ q2 q1 (single_rule_round_converges nodes r nd order cl hplc hs hm)

/-- the full convergence statement (several rules, copies on the PRIMARY nodes, then no further tasks with
candidates): exercised by the correspondence run with the bound of 2 stable cycles, not proved -/
def C27_full : Prop :=
  ∀ (cl : Cluster), cl.Plain → cl.hold ≠ [] →
    (∀ v ∈ effVectors { typ := cl.typ } cl.plc, v.1.Nodup ∧ startShortage cl.typ v.1 v.2 ≤ v.1.length) →
    ∀ o1 o2 : List Nat, (∀ n ∈ cl.hold, n ∈ o1 ∧ n ∈ o2) → (∀ v ∈ effVectors { typ := cl.typ } cl.plc, ∀ n ∈ v.1, n ∈ o1 ∧ n ∈ o2) →
      ∀ v ∈ effVectors { typ := cl.typ } cl.plc,
        ∀ n ∈ v.1.take (startShortage cl.typ v.1 v.2), n ∈ (rounds cl [(o1, [], []), (o2, [], [])]).hold

/-- non-vacuity: REP 2 over `[1,2,3,4]` held by the backup nodes 3 and 4: the first cycle copies the object to the
primary nodes 1 and 2 (one task) and node 4 drops its copy, the second cycle only removes the copy of node 3, the
third does nothing -/
example :
    let c0 : Cluster := { plc := { lists := [[1, 2, 3, 4]], rep := [2] }, hold := [3, 4] }
    let r1 := round c0 [1, 2, 3, 4] [] []
    let r2 := round r1.1 [1, 2, 3, 4] [] []
    let r3 := round r2.1 [1, 2, 3, 4] [] []
    (r1.1.hold, r1.2) = ([1, 2, 3], 1, [4]) ∧ (r2.1.hold, r2.2) = ([1, 2], 0, [3]) ∧ (r3.1.hold, r3.2) = ([1, 2], 0, []) := by
  decide

end NeoFS.Policer
