import NeoFS.Model.Token
import NeoFS.Props.C28
import NeoFS.Lemmas.Token
/-!
# C30 — session and bearer tokens are honoured only when valid for the request

For each token kind the acceptance predicate of the code (a chain of early returns, `Model/Token.lean`) is proved equal to
the conjunction of the property's validity conditions, for ALL tokens, epochs/times and requests; an unaccepted session
token always REJECTS the request (it is never ignored), an unaccepted bearer token rejects it too, and a valid bearer
token whose rules the basic ACL does not allow for the operation is IGNORED (decision as without the token).
-/
namespace NeoFS.ACL

/-- V1 session token: accepted iff correctly signed by its issuer, within nbf/iat/exp at the current epoch, bound to the
request's container, to its object (unless a delete token or no object) and admitting its verb. -/
theorem v1_ok_iff (t : SessV1) (cur rv rc : Nat) (ro : Option Nat) :
    v1Check t cur rv rc ro = .ok ↔
      (t.sigOK = true ∧ t.signer = some t.issuer) ∧ (t.nbf ≤ cur ∧ t.iat ≤ cur ∧ cur ≤ t.exp) ∧
      t.cnr = rc ∧ objectRelated t ro = true ∧ verbAdmits rv t.verb = true := by
  rw [← authOK_iff, ← v1Lifetime_eq_ok_iff]
  unfold v1Check v1Auth
  rw [ite_not_eq_iff_of_ne (by decide)]
  cases v1Lifetime t cur
  case ok =>
    rw [ite_eq_iff_of_ne (by decide), ite_not_eq_iff_of_ne (by decide), ite_not_eq_iff_of_ne (by decide)]
    simp
  all_goals simp

/-- V2 session token (no delegation chain): accepted iff structurally valid, correctly signed by its issuer, within
iat/nbf/exp at the chain time and with a context for the request's container (or any) listing its verb. -/
theorem v2_ok_iff (t : SessV2) (now rv rc : Nat) :
    v2Check t now rv rc = .ok ↔
      v2FieldsOK t = true ∧ (t.sigOK = true ∧ t.signer = some t.issuer) ∧ (t.iat ≤ now ∧ t.nbf ≤ now ∧ now ≤ t.exp) ∧
      v2Admits t rv rc = true := by
  unfold v2Check
  rw [ite_not_eq_iff_of_ne (by decide), ite_not_eq_iff_of_ne (by decide), lifetime_guards_iff,
    ite_not_eq_iff_of_ne (by decide), and_iff_left rfl, authOK_iff]

/-- bearer token: `VerifyBearerTokenMessage` accepts iff correctly signed by its issuer and within its lifetime -/
theorem bearer_ok_iff (b : Bearer) (cur : Nat) :
    bearerCheck b cur = .ok ↔ (b.sigOK = true ∧ b.signer = some b.issuer) ∧ (b.nbf ≤ cur ∧ b.iat ≤ cur ∧ cur ≤ b.exp) := by
  unfold bearerCheck
  rw [ite_not_eq_iff_of_ne (by decide), ite_not_eq_iff_of_ne (by decide), authOK_iff, lifetimeOK_iff]
  simp only [and_true]

theorem bearerCheck_ok_iff_tokenOK (b : Bearer) (cur : Nat) : (bearerCheck b cur = .ok) ↔ bearerTokenOK b cur = true := by
  rw [bearer_ok_iff, bearerTokenOK, Bool.and_eq_true, authOK_iff, lifetimeOK_iff, and_comm]

/-- the bearer token's table takes effect (is the table consulted by `CheckEACL`) only if the token is correctly signed,
within its lifetime, issued by the container owner, for this container and this requester, and the basic ACL allows
bearer rules for the operation -/
theorem bearer_effective_only_if_valid (r : Req) (b : Bearer) (hb : r.bearer = some b) (hns : skipCond r = false)
    (hserved : (decide r).served = true) (heff : consulted r = .table b.table) (hdiff : r.stored ≠ .table b.table) :
    bearerCheck b r.cur = .ok ∧ bearerForRequest b r.cnrOwner r.cnr r.author = true ∧
      bearerAllowed r.basic (effOp r) = true := by
  have hv := ((decide_eq_spec r hns).mp hserved).2 b hb
  rw [bearerValid, Bool.and_eq_true] at hv
  refine ⟨(bearerCheck_ok_iff_tokenOK b r.cur).mpr hv.1, hv.2, Decidable.byContradiction fun hba => hdiff ?_⟩
  rwa [consulted_bearer_iff r b hb, if_neg hba] at heff

/-- an attached bearer token that is not valid for the request is never ignored: the request is rejected
(`deny-token` / `deny-bearer`), it is not served under the stored table -/
theorem bearer_invalid_rejects (r : Req) (b : Bearer) (hb : r.bearer = some b) (hns : skipCond r = false)
    (hinv : bearerCheck b r.cur ≠ .ok ∨ bearerForRequest b r.cnrOwner r.cnr r.author = false) :
    decide r = .denyToken ∨ decide r = .denyBearer := by
  have ht : tokenBad r = !bearerTokenOK b r.cur := by simp [tokenBad, hb]
  have hm : bearerMismatch r = !bearerForRequest b r.cnrOwner r.cnr r.author := by simp [bearerMismatch, hb]
  unfold decide
  cases h1 : bearerTokenOK b r.cur
  · exact .inl (by simp [ht, h1])
  · have h2 := hinv.resolve_left (not_not_intro ((bearerCheck_ok_iff_tokenOK b r.cur).mpr h1))
    exact .inr (by simp [ht, hm, h1, h2, hns])

/-- a valid bearer token whose rules the basic ACL does not allow for the operation is ignored: same decision as without it -/
theorem bearer_ignored_when_not_allowed (r : Req) (b : Bearer) (hb : r.bearer = some b)
    (hv : bearerTokenOK b r.cur = true) (hf : bearerForRequest b r.cnrOwner r.cnr r.author = true)
    (hna : bearerAllowed r.basic (effOp r) = false) :
    decide r = decide { r with bearer := none } := by
  symm
  apply decide_bearer_irrelevant r none hna
  · simp [tokenBad, hb, hv]
  · simp [bearerMismatch, hb, hf]

/-! ## a session token that is not accepted rejects the request (it is never ignored) -/

theorem session_rejected_unless_ok (signer issuer : Nat) (res : TokRes) (h : res ≠ .ok) :
    credentials signer (some (issuer, res)) = none := by
  cases res <;> simp_all [credentials]

theorem session_effect_iff (signer issuer : Nat) (res : TokRes) :
    credentials signer (some (issuer, res)) = some issuer ↔ res = .ok := by
  cases res <;> simp [credentials]

/-- the request is judged under the token issuer's identity only if every validity condition holds for THIS request -/
theorem v1_effective_only_if_valid (signer : Nat) (t : SessV1) (cur rv rc : Nat) (ro : Option Nat)
    (h : credentials signer (some (t.issuer, v1Check t cur rv rc ro)) = some t.issuer) :
    (t.sigOK = true ∧ t.signer = some t.issuer) ∧ (t.nbf ≤ cur ∧ t.iat ≤ cur ∧ cur ≤ t.exp) ∧
      t.cnr = rc ∧ objectRelated t ro = true ∧ verbAdmits rv t.verb = true :=
  (v1_ok_iff t cur rv rc ro).mp ((session_effect_iff signer t.issuer _).mp h)

theorem v2_effective_only_if_valid (signer : Nat) (t : SessV2) (now rv rc : Nat)
    (h : credentials signer (some (t.issuer, v2Check t now rv rc)) = some t.issuer) :
    v2FieldsOK t = true ∧ (t.sigOK = true ∧ t.signer = some t.issuer) ∧ (t.iat ≤ now ∧ t.nbf ≤ now ∧ now ≤ t.exp) ∧
      v2Admits t rv rc = true :=
  (v2_ok_iff t now rv rc).mp ((session_effect_iff signer t.issuer _).mp h)

/-! ## V2 delegation chains: every token of the chain, down to the root, must be valid and signed by its own issuer -/

def Signed (t : LinkV2) : Prop := t.t.sigOK = true ∧ t.t.signer = some t.t.issuer

/-- the authentication walk (origin first, then the token, no depth bound) succeeds iff EVERY token of the chain is
signed by its issuer's key. -/
theorem v2ChainAuth_iff : ∀ (os : List LinkV2) (x : LinkV2),
    v2ChainAuth x os = true ↔ ∀ t ∈ x :: os, Signed t := by
  intro os
  induction os with
  | nil => intro x; simp [v2ChainAuth, authOK_iff, Signed]
  | cons o os ih =>
    intro x
    rw [v2ChainAuth, Bool.and_eq_true, ih o, authOK_iff, List.forall_mem_cons (a := x), and_comm]
    rfl

def chainLinked : LinkV2 → List LinkV2 → Bool
  | _, [] => true
  | x, o :: os => linkOK x o && chainLinked o os

theorem chainLinked_iff : ∀ (os : List LinkV2) (x : LinkV2),
    chainLinked x os = true ↔ ∀ i (h : i < os.length), linkOK ((x :: os)[i]'(by simp; omega)) os[i] = true := by
  intro os
  induction os with
  | nil => intro x; simp [chainLinked]
  | cons o os ih =>
    intro x
    simp only [chainLinked, Bool.and_eq_true, ih o]
    constructor
    · rintro ⟨h0, hs⟩ i hi
      cases i with
      | zero => exact h0
      | succ k => exact hs k (by simpa using hi)
    · intro h
      exact ⟨h 0 (by simp), fun i hi => h (i + 1) (by simp; omega)⟩

/-- `Token.validate(depth)`: depth bound, fields of every token, no `final` origin, every adjacent pair linked. -/
theorem v2ChainValid_iff : ∀ (os : List LinkV2) (x : LinkV2) (d : Nat),
    v2ChainValid x os d = true ↔
      d + os.length ≤ maxDelegationDepth ∧ (∀ t ∈ x :: os, v2FieldsOK t.t = true) ∧ (0 < d → x.final = false) ∧
      (∀ o ∈ os, o.final = false) ∧ chainLinked x os = true := by
  -- what `validate` tests on the token at hand, before it looks at the origin
  have hhead : ∀ (x : LinkV2) (d : Nat),
      (!Decidable.decide (d > maxDelegationDepth) && v2FieldsOK x.t && !(x.final && Decidable.decide (d > 0))) = true ↔
        d ≤ maxDelegationDepth ∧ v2FieldsOK x.t = true ∧ (0 < d → x.final = false) := by
    intro x d; cases x.final <;> simp [and_assoc]
  intro os
  induction os with
  | nil =>
    intro x d
    simp only [v2ChainValid, hhead, List.length_nil, Nat.add_zero, List.mem_singleton, forall_eq, List.not_mem_nil,
      chainLinked, false_imp_iff, implies_true, and_true]
  | cons o os ih =>
    intro x d
    simp only [v2ChainValid, chainLinked, Bool.and_eq_true, hhead, ih o (d + 1), List.forall_mem_cons, List.length_cons,
      Nat.succ_pos, forall_const]
    constructor
    · rintro ⟨⟨⟨hd, hx, hfin⟩, hl⟩, hlen, hf, hfo, hfos, hc⟩
      exact ⟨by omega, ⟨hx, hf⟩, hfin, ⟨hfo, hfos⟩, hl, hc⟩
    · rintro ⟨hlen, ⟨hx, hf⟩, hfin, ⟨hfo, hfos⟩, hl, hc⟩
      exact ⟨⟨⟨by omega, hx, hfin⟩, hl⟩, by omega, hf, hfo, hfos, hc⟩

/-- **C30, delegated V2 tokens.** `VerifySessionTokenMessage` accepts a token with a delegation chain IF AND ONLY IF the
chain has at most `MaxDelegationDepth` origins, EVERY token of it - the root included - is structurally valid and signed
by its own issuer's key, no origin is final, every token is linked to its origin (issuer named by the origin, lifetime
and contexts only narrowed), and the outermost token is within its lifetime and admits the request's verb. -/
theorem v2chain_ok_iff (x : LinkV2) (os : List LinkV2) (now rv rc : Nat) :
    v2ChainCheck x os now rv rc = .ok ↔
      os.length ≤ maxDelegationDepth ∧
      (∀ t ∈ x :: os, v2FieldsOK t.t = true ∧ Signed t) ∧
      (∀ o ∈ os, o.final = false) ∧
      (∀ i (h : i < os.length), linkOK ((x :: os)[i]'(by simp; omega)) os[i] = true) ∧
      (x.t.iat ≤ now ∧ x.t.nbf ≤ now ∧ now ≤ x.t.exp) ∧ v2Admits x.t rv rc = true := by
  unfold v2ChainCheck
  rw [ite_not_eq_iff_of_ne (by decide), ite_not_eq_iff_of_ne (by decide), lifetime_guards_iff,
    ite_not_eq_iff_of_ne (by decide), and_iff_left rfl, v2ChainValid_iff, v2ChainAuth_iff, chainLinked_iff, Nat.zero_add]
  constructor
  · rintro ⟨⟨hd, hf, _, hfin, hl⟩, hs, htail⟩
    exact ⟨hd, fun t ht => ⟨hf t ht, hs t ht⟩, hfin, hl, htail⟩
  · rintro ⟨hd, hfs, hfin, hl, htail⟩
    exact ⟨⟨hd, fun t ht => (hfs t ht).1, fun h => absurd h (Nat.lt_irrefl 0), hfin, hl⟩, fun t ht => (hfs t ht).2, htail⟩

/-- a token anywhere in the chain - the ROOT included - that is not signed by its declared issuer makes the whole token
rejected, whatever the depth -/
theorem v2chain_unsigned_level_rejects (x : LinkV2) (os : List LinkV2) (now rv rc : Nat)
    (t : LinkV2) (ht : t ∈ x :: os) (hbad : ¬ Signed t) : v2ChainCheck x os now rv rc ≠ .ok :=
  fun h => hbad (((v2chain_ok_iff x os now rv rc).mp h).2.1 t ht).2

/-- the root of the chain: the token whose issuer `OriginalIssuer` returns -/
def rootOf : LinkV2 → List LinkV2 → LinkV2
  | x, [] => x
  | _, o :: os => rootOf o os

theorem rootOf_mem : ∀ (os : List LinkV2) (x : LinkV2), rootOf x os ∈ x :: os := by
  intro os
  induction os with
  | nil => intro x; simp [rootOf]
  | cons o os ih => intro x; exact List.mem_cons_of_mem _ (ih o)

theorem originalIssuer_eq : ∀ (os : List LinkV2) (x : LinkV2), originalIssuer x os = (rootOf x os).t.issuer := by
  intro os
  induction os with
  | nil => intro x; rfl
  | cons o os ih => intro x; exact ih o

/-- **whose request is it.** The request is judged as the chain's ORIGINAL issuer only if the root token itself is
structurally valid and signed by that very account's key (and everything else of `v2chain_ok_iff` holds). -/
theorem v2chain_effective_only_if_root_signed (signer : Nat) (x : LinkV2) (os : List LinkV2) (now rv rc : Nat)
    (h : credentials signer (some (originalIssuer x os, v2ChainCheck x os now rv rc)) = some (originalIssuer x os)) :
    (rootOf x os).t.sigOK = true ∧ (rootOf x os).t.signer = some (originalIssuer x os) ∧
      v2FieldsOK (rootOf x os).t = true ∧ ∀ t ∈ x :: os, Signed t := by
  have hok := (session_effect_iff signer _ _).mp h
  have hall := ((v2chain_ok_iff x os now rv rc).mp hok).2.1
  have hr := hall _ (rootOf_mem os x)
  rw [originalIssuer_eq]
  exact ⟨hr.2.1, hr.2.2, hr.1, fun t ht => (hall t ht).2⟩

/-- a chain with more than `MaxDelegationDepth` origins is refused as invalid whatever its tokens are -/
theorem v2chain_too_deep_rejected (x : LinkV2) (os : List LinkV2) (now rv rc : Nat) (h : maxDelegationDepth < os.length) :
    v2ChainCheck x os now rv rc = .invalid := by
  have : v2ChainValid x os 0 = false :=
    Bool.eq_false_iff.mpr fun hv => by have := ((v2ChainValid_iff os x 0).mp hv).1; omega
  simp [v2ChainCheck, this]

/-- a token without origins is judged exactly as `v2Check` says (the theorems on plain V2 tokens carry over) -/
theorem v2chain_no_origin (x : LinkV2) (now rv rc : Nat) : v2ChainCheck x [] now rv rc = v2Check x.t now rv rc := by
  unfold v2ChainCheck v2Check
  simp [v2ChainValid, v2ChainAuth]

/-- along an accepted chain lifetimes only narrow: the outermost token lives inside the root's lifetime -/
theorem chainLinked_lifetime : ∀ (os : List LinkV2) (x : LinkV2), chainLinked x os = true →
    (rootOf x os).t.nbf ≤ x.t.nbf ∧ x.t.exp ≤ (rootOf x os).t.exp := by
  intro os
  induction os with
  | nil => intro x _; simp [rootOf]
  | cons o os ih =>
    intro x h
    simp only [chainLinked, Bool.and_eq_true] at h
    have := ih o h.2
    have hl := h.1
    simp only [linkOK, Bool.and_eq_true, Bool.not_eq_true', Bool.or_eq_false_iff, decide_eq_false_iff_not] at hl
    simp only [rootOf]
    omega

theorem v2chain_lifetime_within_root (x : LinkV2) (os : List LinkV2) (now rv rc : Nat)
    (h : v2ChainCheck x os now rv rc = .ok) :
    (rootOf x os).t.nbf ≤ now ∧ now ≤ (rootOf x os).t.exp := by
  have hk := (v2chain_ok_iff x os now rv rc).mp h
  have := chainLinked_lifetime os x ((chainLinked_iff os x).mpr hk.2.2.2.1)
  omega

theorem v1_lifetime_boundaries (t : SessV1) (cur : Nat) :
    (t.exp = cur → v1Lifetime t cur ≠ .expired) ∧ (t.exp + 1 = cur → v1Lifetime t cur = .expired) ∧
    (t.exp ≥ cur → t.nbf = cur → t.iat ≤ cur → v1Lifetime t cur = .ok) ∧
    (t.exp ≥ cur → t.nbf = cur + 1 → v1Lifetime t cur = .notYetValid) ∧
    (t.exp ≥ cur → t.iat = cur + 1 → v1Lifetime t cur = .notYetValid) :=
  ⟨fun h => mt (v1Lifetime_eq_expired_iff t cur).mp (h ▸ Nat.lt_irrefl _),
   fun h => (v1Lifetime_eq_expired_iff t cur).mpr (h ▸ Nat.lt_succ_self _),
   fun h1 h2 h3 => (v1Lifetime_eq_ok_iff t cur).mpr ⟨Nat.le_of_eq h2, h3, h1⟩,
   fun h1 h2 => (v1Lifetime_eq_notYetValid_iff t cur).mpr ⟨h1, .inl (h2 ▸ Nat.lt_succ_self _)⟩,
   fun h1 h2 => (v1Lifetime_eq_notYetValid_iff t cur).mpr ⟨h1, .inr (h2 ▸ Nat.lt_succ_self _)⟩⟩

theorem bearer_lifetime_boundaries (b : Bearer) (cur : Nat) (ha : authOK b.sigOK b.signer b.issuer = true)
    (hn : b.nbf ≤ cur) (hi : b.iat ≤ cur) :
    (b.exp = cur → bearerCheck b cur = .ok) ∧ (b.exp + 1 = cur → bearerCheck b cur = .expired) := by
  unfold bearerCheck lifetimeOK
  constructor
  · intro h; simp [hn, hi, h, ha]
  · intro h; have : ¬ cur ≤ b.exp := by omega
    simp [this, ha]

/-! ## changing a signed field -/

/-- an ideal signature scheme: a signature verifies for exactly the key and body it was made for -/
structure IdealSig (K B S : Type) where
  sign : K → B → S
  verify : K → B → S → Bool
  verify_iff : ∀ k b s, verify k b s = true ↔ s = sign k b
  sign_inj : ∀ k b k' b', sign k b = sign k' b' → k = k' ∧ b = b'

/-- the laws are satisfiable: the signature is the pair (key, body) -/
def pairSig (K B : Type) [DecidableEq K] [DecidableEq B] : IdealSig K B (K × B) where
  sign k b := (k, b)
  verify k b s := Decidable.decide (s = (k, b))
  verify_iff := by intro k b s; simp
  sign_inj := by intro k b k' b' h; simpa using h

/-- under an ideal scheme, a signature made for body `b` verifies for no other body, under any key -/
theorem signed_field_change_rejects {K B S : Type} (Sg : IdealSig K B S) (k k' : K) (b b' : B) (hne : b' ≠ b) :
    Sg.verify k' b' (Sg.sign k b) = false :=
  Bool.eq_false_iff.mpr fun h => hne (Sg.sign_inj k b k' b' ((Sg.verify_iff k' b' _).mp h)).2.symm

theorem bad_signature_rejects_v1 (t : SessV1) (h : t.sigOK = false) (cur rv rc : Nat) (ro : Option Nat) :
    v1Check t cur rv rc ro ≠ .ok :=
  fun hk => Bool.false_ne_true (h.symm.trans ((v1_ok_iff t cur rv rc ro).mp hk).1.1)

/-- the signed body of a V1 token: every field but the signature -/
def SessV1.body (t : SessV1) : Nat × Nat × Nat × Nat × Nat × List Nat × Nat :=
  (t.issuer, t.nbf, t.iat, t.exp, t.cnr, t.objs, t.verb)

/-- a V1 token whose signed fields were changed after signing (any field, any new value) is never accepted,
whatever the epoch and the request -/
theorem v1_tampered_rejected {K S : Type} (Sg : IdealSig K (Nat × Nat × Nat × Nat × Nat × List Nat × Nat) S)
    (k : K) (orig t : SessV1) (hchg : t.body ≠ orig.body) (hsig : t.sigOK = Sg.verify k t.body (Sg.sign k orig.body))
    (cur rv rc : Nat) (ro : Option Nat) : v1Check t cur rv rc ro ≠ .ok := by
  have hf : t.sigOK = false := by rw [hsig]; exact signed_field_change_rejects Sg k k _ _ hchg
  exact bad_signature_rejects_v1 t hf cur rv rc ro

theorem bad_signature_rejects_v2 (t : SessV2) (h : t.sigOK = false) (now rv rc : Nat) : v2Check t now rv rc ≠ .ok :=
  fun hk => Bool.false_ne_true (h.symm.trans ((v2_ok_iff t now rv rc).mp hk).2.1.1)

theorem bad_signature_rejects_bearer (b : Bearer) (h : b.sigOK = false) (cur : Nat) : bearerCheck b cur ≠ .ok :=
  fun hk => Bool.false_ne_true (h.symm.trans ((bearer_ok_iff b cur).mp hk).1.1)

/-! ## the verdict cache is transparent -/

theorem cachedAuth_consistent (c : Cache) (authOf : Nat → Bool) (id : Nat) (hc : c.consistent authOf) :
    (cachedAuth c id (authOf id)).2 = authOf id ∧ (cachedAuth c id (authOf id)).1.consistent authOf := by
  unfold cachedAuth
  cases hg : c.get? id with
  | some v => exact ⟨hc id v hg, hc⟩
  | none =>
    refine ⟨rfl, ?_⟩
    intro id' v' h'
    unfold Cache.get? at h'
    simp only [List.find?_cons] at h'
    by_cases he : id = id'
    · subst he; simp at h'; exact h'.symm
    · have : ((id, authOf id).1 == id') = false := by simpa using he
      simp only [this] at h'
      exact hc id' v' h'

/-- **Cache soundness.** With lifetimes tested outside the cache, a cached verdict never changes an answer: for every
consistent cache (whatever verifications, object validations and purges produced it), every epoch and every request the
cached path answers exactly what the uncached check answers, and leaves the cache consistent. In particular no purge is
needed for correctness when the epoch advances. -/
theorem cache_transparent (c : Cache) (authOf : Nat → Bool) (id : Nat) (t : SessV1) (hid : authOf id = v1Auth t)
    (hc : c.consistent authOf) (cur rv rc : Nat) (ro : Option Nat) :
    (v1CheckCached c id t cur rv rc ro).2 = v1Check t cur rv rc ro ∧
      (v1CheckCached c id t cur rv rc ro).1.consistent authOf := by
  have := cachedAuth_consistent c authOf id hc
  rw [hid] at this
  unfold v1CheckCached v1Check
  simp only [this.1]
  exact ⟨trivial, this.2⟩

/-- What the repair excluded: with the lifetime test inside the cached verdict, a token accepted at epoch 5 is still accepted
at epoch 9 although it expired at 7 (no purge in between: the purge is asynchronous to the epoch counter; an entry seeded by
the object validator was never lifetime-tested at all). -/
theorem old_cache_honours_expired_token :
    let t : SessV1 := { issuer := 1, signer := some 1, sigOK := true, nbf := 3, iat := 3, exp := 7, cnr := 1, objs := [], verb := 2 }
    let c1 := (v1CheckCachedOld [] 42 t 5 2 1 none).1
    (v1CheckCachedOld c1 42 t 9 2 1 none).2 = .ok ∧ v1Check t 9 2 1 none = .expired := by
  decide

theorem empty_cache_consistent (authOf : Nat → Bool) : Cache.consistent [] authOf := by
  intro id v h; simp [Cache.get?] at h

/-! ## verb table and object relation (as the code has them) -/

/-- HEAD is admitted by head, get, delete and range tokens; SEARCH by search and delete tokens; every other verb only by itself -/
theorem verb_table :
    (∀ tv, verbAdmits 3 tv = true ↔ tv = 3 ∨ tv = 2 ∨ tv = 5 ∨ tv = 6) ∧
    (∀ tv, verbAdmits 4 tv = true ↔ tv = 4 ∨ tv = 5) ∧
    (∀ rv tv, rv ≠ 3 → rv ≠ 4 → (verbAdmits rv tv = true ↔ tv = rv)) := by
  refine ⟨?_, ?_, ?_⟩
  · intro tv; simp [verbAdmits, or_assoc]
  · intro tv; simp [verbAdmits]
  · intro rv tv h3 h4; simp [verbAdmits, h3, h4]

/-- delete tokens are not bound to the request's object (the tombstone's id cannot be predicted) -/
theorem delete_token_skips_object (t : SessV1) (h : t.verb = 5) (ro : Option Nat) : objectRelated t ro = true := by
  simp [objectRelated, h]

/-! ## Non-vacuity -/

def exV1 : SessV1 := { issuer := 1, signer := some 1, sigOK := true, nbf := 3, iat := 3, exp := 7, cnr := 1, objs := [4], verb := 2 }
example : v1Check exV1 5 2 1 (some 4) = .ok := rfl
example : v1Check exV1 5 3 1 (some 4) = .ok := rfl          -- HEAD with a GET token
example : v1Check exV1 8 2 1 (some 4) = .expired := rfl
example : v1Check exV1 7 2 1 (some 4) = .ok := rfl           -- exp = cur
example : v1Check exV1 2 2 1 (some 4) = .notYetValid := rfl
example : v1Check exV1 5 2 2 (some 4) = .wrongContainer := rfl
example : v1Check exV1 5 2 1 (some 9) = .wrongObject := rfl
example : v1Check exV1 5 1 1 (some 4) = .wrongVerb := rfl
example : v1Check { exV1 with sigOK := false } 5 2 1 (some 4) = .authFail := rfl
example : v1Check { exV1 with signer := some 2 } 5 2 1 (some 4) = .authFail := rfl
def exV2 : SessV2 := { issuer := 1, signer := some 1, sigOK := true, iat := 100, nbf := 100, exp := 200, subjects := [2],
                       contexts := [{ cnr := 0, verbs := [3] }, { cnr := 1, verbs := [2, 3] }] }
example : v2Check exV2 150 2 1 = .ok := rfl
example : v2Check exV2 150 2 2 = .wrongVerb := rfl
example : v2Check exV2 150 3 2 = .ok := rfl                 -- wildcard context
example : v2Check exV2 201 2 1 = .expired := rfl
example : v2Check exV2 200 2 1 = .ok := rfl
example : v2Check { exV2 with contexts := [{ cnr := 1, verbs := [3, 2] }] } 150 2 1 = .invalid := rfl
/-- delegation: owner 1 → 2 → 2 → 2 → 2 (four origins = `MaxDelegationDepth`), every token signed by its issuer -/
def exRoot : LinkV2 := { t := { exV2 with subjects := [2] } }
def exDel : LinkV2 := { t := { exV2 with issuer := 2, signer := some 2, subjects := [2] } }
example : v2ChainCheck exDel [exDel, exDel, exDel, exRoot] 150 2 1 = .ok := rfl
example : originalIssuer exDel [exDel, exDel, exDel, exRoot] = 1 := rfl
example : v2ChainCheck exDel [exDel, exDel, exDel, exDel, exRoot] 150 2 1 = .invalid := rfl          -- five origins
-- the root says "issued by 1" but is signed by 2's key: refused at EVERY depth, the deepest admitted one included
example : v2ChainCheck exDel [exDel, exDel, exDel, { t := { exRoot.t with signer := some 2 } }] 150 2 1 = .authFail := rfl
example : v2ChainCheck exDel [{ t := { exRoot.t with signer := some 2 } }] 150 2 1 = .authFail := rfl
example : v2ChainCheck exDel [exDel, exDel, exDel, { t := { exRoot.t with sigOK := false } }] 150 2 1 = .authFail := rfl
example : v2ChainCheck exDel [{ t := { exRoot.t with subjects := [3] } }] 150 2 1 = .invalid := rfl    -- issuer 2 not named by the origin
example : v2ChainCheck exDel [{ t := { exRoot.t with exp := 199 } }] 150 2 1 = .invalid := rfl         -- lifetime widened
example : v2ChainCheck exDel [{ t := { exRoot.t with contexts := [{ cnr := 1, verbs := [2] }] } }] 150 2 1 = .invalid := rfl  -- verbs widened
example : v2ChainCheck exDel [{ exRoot with final := true }] 150 2 1 = .invalid := rfl
/-- the ideal scheme at work: a signature over body 7 does not verify for body 8 -/
example : (pairSig Nat Nat).verify 1 8 ((pairSig Nat Nat).sign 1 7) = false := rfl
example : (pairSig Nat Nat).verify 1 7 ((pairSig Nat Nat).sign 1 7) = true := rfl
example : ({ exV1 with exp := 99 } : SessV1).body ≠ exV1.body := by simp [SessV1.body, exV1]

end NeoFS.ACL
