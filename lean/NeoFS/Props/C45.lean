import NeoFS.Props.C29
import NeoFS.Gen.Wiring
/-!
# C45 — only client object operations are refused while the node is in maintenance

Same regenerated handler terms and the same once-proved checker soundness as C29; the required check here is
`FSChain.LocalNodeUnderMaintenance` (`Tag.maint`, outcome `deny` = the node is in maintenance). The policy
`maintPolicyV` stands in `Props/C29.lean`.

How maintenance is enforced in this tree (read): each client handler of `pkg/services/object/server.go` calls
`s.fsChain.LocalNodeUnderMaintenance()` right after the signature verification and answers
`apistatus.ErrNodeUnderMaintenance`; `Replicate` and the control services do not look at it; in
`cmd/neofs-node` (package main, not linkable) the method returns the `cfg.isMaintenance` flag that
`startMaintenance` / `stopMaintenance` store (see `Gen/Wiring.lean`, regenerated by source analysis).
-/
namespace NeoFS.C45
open NeoFS.Handlers NeoFS.C29

def maintPolicy : Policy := Policy.ofView maintPolicyV

/-- The node is in maintenance: every maintenance check answers `deny`, everything else is arbitrary. -/
def inMaintenance : Tag → List Out
  | .maint => [.deny]
  | _ => [.pass, .soft, .deny]

/-- While in maintenance a client handler may only answer (or hand an unchecked stream end to the Streamer). -/
def onlyAnswers : Policy := fun e _ =>
  match e with
  | .respond | .putCont => true
  | _ => false

theorem client_handlers_guarded :
    ∀ h ∈ Gen.objectHandlers, h.1 ∉ nonClient → checker maintPolicy h.2 = true :=
  fun h hh hn => checker_mono (fun _ _ hp => (objectPolicyV_spec hp).2.2 hn) (handlers_meet_objectPolicyV h hh)

/-- **C45, static part (1).** On every run of every client-facing object handler, each storage / forwarding /
data effect is preceded by a history whose latest maintenance check answered "not in maintenance"
(`lastOutcomes pre .maint = some .pass`). -/
theorem effects_follow_maintenance_check :
    ∀ h ∈ Gen.objectHandlers, h.1 ∉ nonClient → ∀ (evs : List Event) (x : Option Nat),
      Run allOuts h.2 St.init evs x → ∀ (pre post : List Event) (e : Eff), evs = pre ++ Event.effect e :: post →
        maintPolicyV e (lastOutcomes pre) = true :=
  fun h hh hn _ _ hr _ _ _ hs => checker_sound_view (client_handlers_guarded h hh hn) hr hs

theorem in_maintenance_checked :
    ∀ h ∈ Gen.objectHandlers, h.1 ∉ nonClient → (post inMaintenance onlyAnswers h.2 St.init).isSome = true := by
  decide +kernel

/-- **C45, static part (2).** If every maintenance check answers "in maintenance", no run of a client handler
contains a storage, forwarding or data effect — whatever the other checks answer. -/
theorem in_maintenance_no_effect :
    ∀ h ∈ Gen.objectHandlers, h.1 ∉ nonClient → ∀ (evs : List Event) (x : Option Nat),
      Run inMaintenance h.2 St.init evs x → ∀ e, Event.effect e ∈ evs → e = .respond ∨ e = .putCont := by
  intro h hh hn evs x hr e he
  obtain ⟨pre, post', hs⟩ := List.append_of_mem he
  have := post_sound_effect (in_maintenance_checked h hh hn) hr hs
  cases e with
  | respond => exact Or.inl rfl
  | putCont => exact Or.inr rfl
  | _ => simp [onlyAnswers] at this

/-- **"Only" part.** The non-client operation (`Replicate`) and every handler of both control services never
call the maintenance check: their terms do not mention it, hence no run of them emits such a check event. -/
theorem non_client_do_not_consult :
    (∀ h ∈ Gen.objectHandlers, h.1 ∈ nonClient → mentions .maint h.2 = false) ∧
    (∀ h ∈ Gen.controlHandlers, mentions .maint h.2 = false) ∧
    (∀ h ∈ Gen.irControlHandlers, mentions .maint h.2 = false) := by
  decide +kernel

theorem replicate_never_checks_maintenance :
    ∀ h ∈ Gen.objectHandlers, h.1 ∈ nonClient → ∀ (ω : Tag → List Out) (s : St) (evs : List Event) (x : Option Nat),
      Run ω h.2 s evs x → ∀ o, Event.check .maint o ∉ evs :=
  fun h hh hn _ _ _ _ hr => not_mentions_no_check hr (non_client_do_not_consult.1 h hh hn)

/-- …and with every maintenance answer `deny` the checker still finds the store effect of Replicate (`post … = none`;
that `none` means a run with the effect exists is not proved). -/
theorem replicate_served_in_maintenance :
    ∀ h ∈ Gen.objectHandlers, h.1 ∈ nonClient → reachesEffect [(.maint, .deny)] h.2 = true := by
  decide +kernel

/-- Non-vacuity: the client handlers do consult the check, and the checker finds real effects in them when it passes. -/
example : (Gen.objectHandlers.filter fun h => mentions .maint h.2 && reachesEffect [] h.2).map (·.1) =
    ["Delete", "Get", "GetRange", "HeadBuffered", "Put", "SearchV2Buffered"] := by decide +kernel
/-- Non-vacuity: a handler that skips the check is rejected. -/
example : checker maintPolicy (.seq (.chk .sig) (.eff .storage)) = false := by decide

/-- **What "the node is in maintenance" means in the running node** (regenerated from `cmd/neofs-node` on every run,
`Gen/Wiring.lean`): the flag the handlers' guard reads (`FSChain.LocalNodeUnderMaintenance` = `isMaintenance.Load()`) is
the one `initObjectService` hands over, it is written in exactly two places — `startMaintenance` sets it,
`stopMaintenance` clears it — and those are called only by `setMaintenanceStatus` / `SetNetmapStatus` (the operator's
control request). In particular no network-map or epoch handler touches it: the node stays in maintenance until the
operator ends it, whatever the network map says.

Trusted: `genMaintenanceFlag` (harness/extract/wiring.go) finds these syntactically in the non-test files of
`cmd/neofs-node`; a write through the address taken in `initObjectService` or a function value is outside what it sees. -/
theorem maintenance_flag_wiring :
    Gen.Wiring.maintenance_writes = ["startMaintenance:Store(true)", "stopMaintenance:Store(false)"] ∧
    Gen.Wiring.maintenance_reads = ["LocalNodeUnderMaintenance"] ∧
    Gen.Wiring.maintenance_aliases = ["initObjectService"] ∧
    Gen.Wiring.startMaintenance_callers = ["setMaintenanceStatus"] ∧
    Gen.Wiring.stopMaintenance_callers = ["SetNetmapStatus"] := ⟨rfl, rfl, rfl, rfl, rfl⟩

end NeoFS.C45
