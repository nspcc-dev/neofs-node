import NeoFS.Props.C14
/-!
# C43 — shard behaviour always matches its reported mode

`Consistent s`: the mode the shard reports is the mode every component is actually in.  In such a state every request
of the mode table is accepted or rejected as the REPORTED mode says (`behaviour_matches_mode`).  Only a switch changes
any mode (`step_cfg`), and a switch that SUCCEEDS re-establishes consistency from any state with a coherent metabase,
however many switches failed before (`setMode_recovers`: "mode changing operations are idempotent" of
docs/shard-modes.md).  Between a
failed switch and the next successful one the full statement is false (no roll-back: `C43_counterexample`, known
finding C43-partial-switch); `settled_inv` is the invariant outside that window.
-/
namespace NeoFS.ShardMode
open NeoFS.Gen.ShardMode

/-- refusals for a mode reason (by the shard's own guard or by a component) -/
def rejected (e : Err) : Bool := e == .readOnly || e == .degraded || e == .compRefused

/-- **The mode table**: does a shard reporting mode `m` reject the request?  `none`: not a request of the table
(background jobs, switches; `FlushWriteCache` without a write-cache answers "disabled" in every mode). -/
def table (m : Nat) (hasWC : Bool) : Op → Option Bool
  | .put .. | .restore .. => some (isReadOnly m)
  | .delete .. | .mark .. | .inhumeCnr _ | .deleteCnr _ | .revive .. => some (isReadOnly m || noMetabase m)
  | .flush => if hasWC then some (isReadOnly m || noMetabase m) else none
  | .list | .select | .listCnr | .cnrInfo _ | .isLocked _ => some (noMetabase m)
  | .get _ | .head _ | .exists_ _ => some false
  | _ => none

theorem not_rejected {e : Err} (h : e ≠ .readOnly ∧ e ≠ .degraded ∧ e ≠ .compRefused) : rejected e = false := by
  obtain ⟨h1, h2, h3⟩ := h
  cases e <;> first | rfl | contradiction

theorem rejected_ok_or_metaErr {α : Type} (c : Prop) [Decidable c] (a b : α) (e : Meta.Err) :
    rejected (if c then (a, Err.ok) else (b, metaErr e)).2 = false := by
  split
  · rfl
  · exact not_rejected (metaErr_not_mode e)

/-- the row of a request that is refused exactly in the read-only modes -/
theorem ro_row (s : St) (o : Op) (ho : o.modifying = true)
    (h : isReadOnly s.mode = false → rejected (step s o).2 = false) : rejected (step s o).2 = isReadOnly s.mode := by
  cases h1 : isReadOnly s.mode
  · exact h h1
  · rw [ro_rejects s h1 o ho]
    rfl

/-- `Put` in a mode that is not read-only: the blobstor takes what the write-cache does not, the metabase accepts
the write if the mode has one -/
theorem put_accepts (s : St) (hc : Consistent s) (h1 : isReadOnly s.mode = false) (cn : Nat) (h : Meta.Hdr) :
    rejected (put s cn h).2 = false := by
  obtain ⟨b, rb, hb, _, hb2, he⟩ := put_cases s cn h
  rw [he]
  unfold isRO noMeta
  rw [h1, Bool.and_false, if_neg Bool.false_ne_true, hb2 (hc.blob.trans h1), metaWrite_of_cfg hb, hc.metaWrite_eq, h1]
  cases noMetabase s.mode
  · simp only [Bool.not_true, Bool.false_eq_true, if_false]
    exact rejected_ok_or_metaErr _ _ _ _
  · rfl

theorem restore_accepts (s : St) (hc : Consistent s) (h1 : isReadOnly s.mode = false) (cn : Nat) (hs : List Meta.Hdr) :
    rejected (restore s cn hs).2 = false := by
  unfold restore isRO
  rw [h1, Bool.and_false, if_neg Bool.false_ne_true]
  refine (List.foldlRecOn (motive := fun st => Consistent st.1 ∧ isReadOnly st.1.mode = false ∧ rejected st.2 = false)
    hs _ (b := (s, Err.ok)) ⟨hc, h1, rfl⟩ fun st h x _ => ?_).2.2
  split
  · exact h
  · have hcfg := put_cfg st.1 cn x
    refine ⟨consistent_of_cfg hcfg h.1, by rw [mode_of_cfg hcfg]; exact h.2.1, ?_⟩
    dsimp only
    split
    · rfl
    · exact put_accepts st.1 h.1 h.2.1 cn x

theorem flush_table (s : St) (hc : Consistent s) (hw : s.hasWC = true) :
    rejected (flushWriteCache s).2 = (isReadOnly s.mode || noMetabase s.mode) := by
  unfold flushWriteCache isRO noMeta
  rw [hw]
  cases h1 : isReadOnly s.mode
  · cases noMetabase s.mode
    · dsimp only
      rw [wcFlushAll_ok s (by rw [hc.blob, h1])]
      rfl
    · rfl
  · rfl

/-- the row of the requests that write only to the metabase: the shard's two guards, then the metabase's own, which
in a consistent state repeats what the reported mode says; `g₁` is a regenerated fact -/
theorem metaGuarded_row (s : St) (hc : Consistent s) {g₁ : Bool} (hg : g₁ = true) (g₂ : Bool) (x : St × Err)
    (hx : rejected x.2 = false) :
    rejected (metaGuarded g₁ g₂ s x).2 = (isReadOnly s.mode || noMetabase s.mode) := by
  unfold metaGuarded isRO noMeta
  rw [hg, hc.metaWrite_eq]
  cases isReadOnly s.mode
  · cases noMetabase s.mode
    · cases g₂ <;> exact hx
    · cases g₂ <;> rfl
  · rfl

theorem deleteObjs_table (s : St) (hc : Consistent s) (cn : Nat) (ids : List Nat) :
    rejected (deleteObjs s cn ids).2 = (isReadOnly s.mode || noMetabase s.mode) := by
  have h1 := deleteObjs_cache_cfg s cn ids
  unfold deleteObjs isRO noMeta
  dsimp only
  rw [metaWrite_of_cfg h1, hc.metaWrite_eq]
  cases isReadOnly s.mode
  · cases noMetabase s.mode
    · simp only [Bool.and_false, Bool.false_eq_true, if_false]
      split <;> rfl
    · rfl
  · rfl

theorem reviveObject_table (s : St) (hc : Consistent s) (cn id : Nat) :
    rejected (reviveObject s cn id).2 = (isReadOnly s.mode || noMetabase s.mode) := by
  refine metaGuarded_row s hc f_rev _ _ ?_
  dsimp only
  split <;> rfl

theorem rejected_degraded_or_ok (b : Bool) : rejected (if b = true then Err.degraded else Err.ok) = b := by cases b <;> rfl

/-- **Behaviour matches the reported mode.**  In a state where reported and actual modes agree, every request of
the mode table is rejected for a mode reason exactly when the REPORTED mode says so. -/
theorem behaviour_matches_mode (s : St) (hc : Consistent s) (o : Op) (b : Bool)
    (ht : table s.mode s.hasWC o = some b) : rejected (step s o).2 = b := by
  have hrm := ro_reads_meta s hc
  have metaRow : ∀ e, e = (if noMetabase s.mode then Err.degraded else .ok) → rejected e = noMetabase s.mode :=
    fun e he => he ▸ rejected_degraded_or_ok _
  have obj : ∀ a, ∀ e ∈ [(step s (.get a)).2, (step s (.head a)).2, (step s (.exists_ a)).2], rejected e = false :=
    fun a e he => not_rejected (ro_reads_object s hc a e he)
  cases o with
  | put cn h => cases ht; exact ro_row s _ rfl (put_accepts s hc · cn h)
  | restore cn hs => cases ht; exact ro_row s _ rfl (restore_accepts s hc · cn hs)
  | delete cn ids => cases ht; exact deleteObjs_table s hc cn ids
  | mark cn ids r => cases ht; exact metaGuarded_row s hc f_mark _ _ rfl
  | inhumeCnr cn => cases ht; exact metaGuarded_row s hc f_inh _ _ rfl
  | deleteCnr cn => cases ht; exact metaGuarded_row s hc f_delc _ _ rfl
  | revive cn id => cases ht; exact reviveObject_table s hc cn id
  | flush =>
    cases hw : s.hasWC
    · rw [hw] at ht; cases ht
    · rw [hw] at ht; cases ht; exact flush_table s hc hw
  | list => cases ht; exact metaRow _ hrm.1
  | select => cases ht; exact metaRow _ hrm.2.1
  | listCnr => cases ht; exact metaRow _ hrm.2.2.1
  | cnrInfo cn => cases ht; exact metaRow _ (hrm.2.2.2.1 cn)
  | isLocked a => cases ht; exact metaRow _ (hrm.2.2.2.2 a)
  | get a => cases ht; exact obj a _ (by simp)
  | head a => cases ht; exact obj a _ (by simp)
  | exists_ a => cases ht; exact obj a _ (by simp)
  | flushTick | gc | epoch _ | setMode _ _ | restart _ | reopen | settle => cases ht

/-! ### consistency is an invariant of fault-free histories and is re-established by every successful switch -/

/-- the close/open cycle without `Init` (engine maintenance) opens every component for writing and does not re-apply
the mode: outside read-write it leaves reported and actual modes apart until the next successful switch, so the
statements below are about histories without it, except `reopen_consistent`. -/
def Op.isReopen : Op → Bool
  | .reopen => true
  | _ => false

/-- in read-write mode the close/open cycle keeps reported and actual modes in agreement -/
theorem reopen_consistent (s : St) (hc : Consistent s) (hm : s.mode = modeRW) : Consistent (step s .reopen).1 := by
  obtain ⟨c1, c2, c3, c4⟩ := hc
  refine ⟨c1, ?_, ?_, ?_⟩
  · show true = !noMetabase s.mode
    rw [hm]; decide
  · show false = isReadOnly s.mode
    rw [hm]; decide
  · intro hw
    have hw' : s.hasWC = true := hw
    show (if s.hasWC then modeRW else s.wcMode) = s.mode
    rw [hw', hm]; rfl

/-- **Consistency is kept** by every operation that is not a switch (requests, reads, GC pass, flush-worker pass,
new-epoch handler, Restore) and re-established by every switch or restart that SUCCEEDS — from any reachable state,
whatever failed before, and also when a failure was injected at a point the switch did not reach. -/
theorem consistent_step (s : St) (hw : MetaWF s) (o : Op) (hr : o.isReopen = false)
    (hc : o.isSwitch = false → Consistent s)
    (h : o.isSwitch = false ∨ (step s o).2 = .ok) : Consistent (step s o).1 := by
  cases hs : o.isSwitch
  · exact consistent_of_cfg (step_cfg s o hs) (hc hs)
  · have hok : (step s o).2 = .ok := h.resolve_left (by rw [hs]; exact Bool.noConfusion)
    cases o with
    | setMode m f => exact setMode_recovers s hw m f hok
    | restart m =>
      show Consistent (restart s m).1
      replace hok : (restart s m).2 = .ok := hok
      unfold restart at hok ⊢
      split
      · exact restartBase_consistent s
      · rename_i hm
        rw [if_neg hm] at hok
        exact setMode_recovers _ (restartBase_consistent s).metaWF m .none hok
    | reopen => cases hr
    | _ => cases hs

/-- the metabase component stays coherent along EVERY history, injected failures included -/
theorem metaWF_step (s : St) (hw : MetaWF s) (o : Op) (hr : o.isReopen = false) : MetaWF (step s o).1 := by
  cases hs : o.isSwitch
  · exact metaWF_of_cfg (step_cfg s o hs) hw
  · have hb := (restartBase_consistent s).metaWF
    cases o with
    | setMode m f => exact setMode_metaWF s hw m f
    | restart m =>
      show MetaWF (restart s m).1
      unfold restart
      split
      · exact hb
      · exact setMode_metaWF _ hb m .none
    | reopen => cases hr
    | _ => cases hs

/-- **A failed switch keeps the reported mode.** -/
theorem failed_switch (s : St) (hw : MetaWF s) (m : Nat) (f : Fault) (hne : (setMode s m f).2 ≠ .ok) :
    (setMode s m f).1.mode = s.mode := setMode_failed_mode s m f hne

/-- a history together with the flag "no switch has failed since the last successful one" -/
def settledRun : St × Bool → List Op → St × Bool
  | st, [] => st
  | st, o :: os =>
    let r := step st.1 o
    settledRun (r.1, if o.isSwitch then r.2 == .ok else st.2) os

theorem settled_inv (ops : List Op) : ∀ (st : St × Bool), (∀ o ∈ ops, o.isReopen = false) → MetaWF st.1 →
    (st.2 = true → Consistent st.1) →
    MetaWF (settledRun st ops).1 ∧ ((settledRun st ops).2 = true → Consistent (settledRun st ops).1) := by
  induction ops with
  | nil => intro st _ h1 h2; exact ⟨h1, h2⟩
  | cons o os ih =>
    intro st hnr h1 h2
    have hr : o.isReopen = false := hnr o (by simp)
    simp only [settledRun]
    apply ih
    · exact fun o' ho' => hnr o' (by simp [ho'])
    · exact metaWF_step st.1 h1 o hr
    · intro hflag
      cases hs : o.isSwitch
      · rw [hs] at hflag
        exact consistent_step st.1 h1 o hr (fun _ => h2 hflag) (Or.inl hs)
      · rw [hs] at hflag
        exact consistent_step st.1 h1 o hr (fun h => Bool.noConfusion (hs.symm.trans h)) (Or.inr (eq_of_beq hflag))

/-- **C43, proved part.**  Along EVERY history from a fresh shard (with or without write-cache) — any requests,
background jobs, switches among all modes, restarts with a configured mode, and component failures injected into
any switch — whenever no switch has failed since the last successful one, every request of the mode table is
accepted or rejected exactly as the reported mode says. -/
theorem behaviour_matches_mode_partial (wc : Bool) (ops : List Op) (o : Op) (b : Bool)
    (hnr : ∀ o ∈ ops, o.isReopen = false)
    (hsettled : (settledRun ({ hasWC := wc }, true) ops).2 = true)
    (ht : table (settledRun ({ hasWC := wc }, true) ops).1.mode (settledRun ({ hasWC := wc }, true) ops).1.hasWC o = some b) :
    rejected (step (settledRun ({ hasWC := wc }, true) ops).1 o).2 = b := by
  have hinit : Consistent ({ hasWC := wc } : St) := consistent_rw rfl rfl rfl rfl rfl
  have := settled_inv ops ({ hasWC := wc }, true) hnr hinit.metaWF (fun _ => hinit)
  exact behaviour_matches_mode _ (this.2 hsettled) o b ht

theorem settledRun_fst (ops : List Op) : ∀ st : St × Bool, (settledRun st ops).1 = run st.1 ops := by
  induction ops with
  | nil => intro st; rfl
  | cons o os ih => intro st; simp only [settledRun, run, List.foldl]; rw [ih]; rfl

/-- the full statement of the property: the same without the "settled" hypothesis -/
def C43_full : Prop :=
  ∀ (wc : Bool) (ops : List Op) (o : Op) (b : Bool),
    table (run { hasWC := wc } ops).mode (run { hasWC := wc } ops).hasWC o = some b →
    rejected (step (run { hasWC := wc } ops) o).2 = b

/-- **The full statement is false for the current code**: after a switch to read-only that failed at the metabase
(write-cache and blobstor are already read-only, nothing is rolled back) the shard reports read-write and refuses
`Put`.  Known finding C43-partial-switch; `docs/shard-modes.md` describes the window. -/
theorem C43_counterexample : ¬ C43_full := by
  intro h
  have := h true [.setMode readOnly .metaEntry] (.put 1 { id := 1, typ := .regular }) false (by decide)
  revert this
  decide

theorem table_rw (w : Bool) (o : Op) (b : Bool) (h : table modeRW w o = some b) : b = false := by
  cases o with
  | flush =>
    cases w
    · cases h
    · cases h; rfl
  | flushTick | gc | epoch _ | setMode _ _ | restart _ | reopen | settle => cases h
  | _ => cases h; rfl

/-- **Returning to read-write restores full service**: after a switch to read-write that succeeds — from any
reachable state — no request of the table is refused for a mode reason. -/
theorem rw_restores (s : St) (hw : MetaWF s) (f : Fault) (hok : (setMode s modeRW f).2 = .ok) (o : Op) (b : Bool)
    (ht : table modeRW (setMode s modeRW f).1.hasWC o = some b) :
    rejected (step (setMode s modeRW f).1 o).2 = false := by
  have hc := setMode_recovers s hw modeRW f hok
  rw [behaviour_matches_mode _ hc o b (by rw [setMode_ok_mode s modeRW f hok]; exact ht)]
  exact table_rw _ o b ht

/-- **No switch loses data**: whatever mode is requested, from whatever state, with whatever injected failure, the
metabase content is unchanged and every stored object is still stored (the write-cache may have handed it to the
blobstor) -/
theorem switch_keeps_objects (s : St) (m : Nat) (f : Fault) : Keeps s (setMode s m f).1 := by
  have k := runComps_keeps m f (order s.hasWC m) (s, .ok)
  unfold setMode
  dsimp only
  split
  · exact k
  · exact k


/-- the shape of `Shard.setMode` the model's `order` mirrors, regenerated from the source: components listed as
metabase, blobstor, write-cache and the list reversed exactly for targets other than read-write -/
theorem switch_order_facts : setMode_baseOrderMetaBlobWC = true ∧ setMode_reversedUnlessRW = true := ⟨rfl, rfl⟩

/-! ### non-vacuity -/

/-- a reachable settled state after failures: a switch to read-only fails at the metabase, the retry succeeds -/
def exampleRecovered : St × Bool :=
  settledRun ({}, true) [.put 1 { id := 1, typ := .regular }, .setMode readOnly .metaOpen, .get (1, 1),
    .setMode readOnly .none, .put 1 { id := 2, typ := .regular }]

example : exampleRecovered.2 = true ∧ exampleRecovered.1.mode = readOnly := by decide
/-- the first switch of that history really failed and left the components apart from the reported mode -/
example : (run {} [.put 1 { id := 1, typ := .regular }, .setMode readOnly .metaOpen]).mode = readWrite ∧
    (run {} [.put 1 { id := 1, typ := .regular }, .setMode readOnly .metaOpen]).blobRO = true ∧
    (run {} [.put 1 { id := 1, typ := .regular }, .setMode readOnly .metaOpen]).metaMode = degradedReadOnly := by decide
example : table readOnly true (.put 1 { id := 2, typ := .regular }) = some true := by decide
example : MetaWF (run {} [.setMode degraded .wc, .setMode readOnly .blob, .restart degradedReadOnly]) := by
  unfold MetaWF; decide
example : setMode_baseOrderMetaBlobWC = true ∧ setMode_reversedUnlessRW = true := ⟨rfl, rfl⟩

end NeoFS.ShardMode
