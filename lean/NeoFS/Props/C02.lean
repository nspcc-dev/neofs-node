import NeoFS.Lemmas.MetaCtr
import NeoFS.Spec.MetaRef
/-!
# C02 — counters and container sizes match what is stored

The typed counters (PHY, ROOT, TS, LOCK, LINK): for every history of valid objects, every bucket satisfies
`CtrOK` (`run_ctrOK`), hence `ObjectCounters` equals the number of indexed objects of each kind in live
containers (`typed_counters_exact`).  No counter of a live container wraps or double counts: there the floored
subtraction of `updateCounter` is never reached with a deficit (`apply_removal` shows every subtraction is covered).

The container size estimation (`GetContainerInfo`) is NOT exact in the current code — see
`container_info_counterexample` and the known finding C02-gc-counter.
-/
namespace NeoFS.Meta
open Ref

def DBCtrOK (db : DB) : Prop := ∀ b ∈ db, CtrOK b.2

/-- histories of valid objects (`ValidChain`) -/
def ValidOp : Op → Prop
  | .put _ chain => ValidChain 0 chain
  | _ => True

theorem getC_gc_payload (k : Nat) (c : Counters) (g p : Nat) : getC k { c with gc := g, payload := p } = getC k c := by
  unfold getC
  split <;> rfl

theorem getC_gc (k : Nat) (hk : k < 5) (c : Counters) (g : Nat) : getC k { c with gc := g } = getC k c :=
  getC_gc_payload k c g c.payload

theorem getC_payload (k : Nat) (hk : k < 5) (c : Counters) (p : Nat) : getC k { c with payload := p } = getC k c :=
  getC_gc_payload k c c.gc p

theorem deleteLoop_count (c : Cnr) (hwf : c.WF) (hroot : ∀ r ∈ c.recs, r.root = true → r.typ = .regular)
    (ids : List Nat) (k : Nat) (hk : k < 5) :
    (((deleteLoop c ids).1.recs.countP (flag k) : Nat) : Int) =
      (c.recs.countP (flag k) : Nat) + getD k (deleteLoop c ids).2 := by
  refine (List.foldlRecOn (motive := fun acc : Cnr × Diff => Pruned acc.1 c ∧
    ((acc.1.recs.countP (flag k) : Nat) : Int) = (c.recs.countP (flag k) : Nat) + getD k acc.2) ids _
    ⟨Pruned.refl c, (getD_gc k 0 ▸ Int.add_zero _).symm⟩ ?_).2
  intro acc ⟨hp, hcnt⟩ id _
  have h1 := deleteMetadata_count 4 acc.1 id false (hp.wf hwf) (fun r hr => hroot r (hp.recs.subset hr)) k hk
  refine ⟨(deleteMetadata_pruned 4 acc.1 id false).trans hp, ?_⟩
  dsimp only
  rw [getD_add]
  omega

theorem reviveCtr_typed (c1 : Cnr) (id k : Nat) : getC k (c1.reviveCtr id) = getC k c1.ctr := by
  unfold Cnr.reviveCtr
  simp only
  split
  · exact getC_gc_payload k _ _ _
  · split
    · exact getC_gc_payload k _ _ _
    · exact getC_gc_payload k _ _ _

/-- the forced recount (`SyncCounters`) establishes the invariant from the index alone -/
theorem syncCounters_ok (c : Cnr) (hr : ∀ r ∈ c.recs, r.root = true → r.typ = .regular) : CtrOK c.syncCounters := by
  unfold Cnr.syncCounters
  by_cases hg : c.gcMark
  · simp only [hg, if_true]
    exact ⟨forall_lt_five rfl rfl rfl rfl rfl, hr⟩
  · simp only [hg, Bool.false_eq_true, if_false]
    refine ⟨?_, hr⟩
    simp only [List.countP_eq_length_filter]
    exact forall_lt_five rfl rfl rfl rfl rfl

/-- **The recount agrees with the incrementally kept typed counters**: on a bucket satisfying the invariant a
forced `SyncCounters` changes none of PHY, ROOT, TS, LOCK, LINK. -/
theorem recount_agrees (c : Cnr) (h : CtrOK c) (k : Nat) (hk : k < 5) : getC k c.syncCounters.ctr = getC k c.ctr := by
  have h1 := (syncCounters_ok c h.rootReg).typed k hk
  rw [syncCounters_eq] at h1
  exact h1.trans (h.typed k hk).symm

theorem bucketStep_ctrOK {epoch : Nat} {o : Op} {c c' : Cnr} (h : BucketStep epoch o c c') (hv : ValidOp o)
    (hwf : c.WF) (hok : CtrOK c) : CtrOK c' := by
  cases h with
  | put cn chain => exact putChain_ctrOK epoch chain c hwf hok hv
  | mark cn ids r _ objs g p =>
    have m := markGarbageIn_marksOnly c epoch objs r
    exact ctrOK_of_typed_eq c _ m.recs m.gcMark (fun k _ => (getC_gc_payload k _ g p).trans (by rw [m.ctr])) hok
  | inhume cn => exact ⟨forall_lt_five rfl rfl rfl rfl rfl, hok.rootReg⟩
  | delete cn ids all =>
    have hp := deleteLoop_pruned c all
    exact apply_removal c _ _ hok hp.ctr hp.gcMark hp.recs (deleteLoop_count c hwf hok.rootReg all)
  | revive cn id _ _ res h =>
    refine (revive_preserves (P := fun c => c.WF ∧ CtrOK c) id (fun c tomb hc => ?_) (fun p hp => ?_) h ⟨hwf, hok⟩).2
    · have hp := deleteMetadata_pruned 4 c tomb false
      have hw := hp.wf hc.1
      exact ⟨⟨hw.recs, hw.garb⟩, apply_removal c _ _ hc.2 hp.ctr hp.gcMark hp.recs
        (deleteMetadata_count 4 c tomb false hc.1 hc.2.rootReg)⟩
    · exact ⟨⟨hp.1.recs, filter_garb_sorted _ _ hp.1.garb⟩,
        ctrOK_of_typed_eq p _ rfl rfl (fun k _ => reviveCtr_typed p id k) hp.2⟩
  | sync => exact syncCounters_ok c hok.rootReg

/-- **Every reachable state of a history of valid objects satisfies the counter invariant.** -/
theorem run_ctrOK (ops : List Op) (hv : ∀ o ∈ ops, ValidOp o) : DBCtrOK (run ops).db := fun b hb =>
  (run_buckets (P := fun c => c.WF ∧ CtrOK c) ⟨wf_empty, ctrOK_empty⟩
    (fun _ _ _ _ hv h hc => ⟨bucketStep_wf h hc.1, bucketStep_ctrOK h hv hc.1 hc.2⟩) ops hv b hb).2

/-- the typed counters as the statement defines them: number of indexed objects of each kind in live
containers -/
def refCount (db : DB) (k : Nat) : Nat :=
  (db.map fun b => if b.2.gcMark then 0 else b.2.recs.countP (flag k)).sum

def viewCount (db : DB) (k : Nat) : Nat := (db.map fun b => getC k b.2.ctr).sum

/-- **The per-type counters equal the number of such objects the metadata indexes** — after any history of
valid objects; `viewCount` is what `ObjectCounters` sums up. -/
theorem typed_counters_exact (ops : List Op) (hv : ∀ o ∈ ops, ValidOp o) (k : Nat) (hk : k < 5) :
    viewCount (run ops).db k = refCount (run ops).db k := by
  have h := run_ctrOK ops hv
  unfold viewCount refCount
  congr 1
  apply List.map_congr_left
  intro b hb
  exact (h b hb).typed k hk

theorem getC_foldl_add (k : Nat) (f : Counters → Nat × Cnr → Counters)
    (hf : ∀ a b, getC k (f a b) = getC k a + getC k b.2.ctr) :
    ∀ (l : DB) (a : Counters), getC k (l.foldl f a) = getC k a + (l.map fun b => getC k b.2.ctr).sum
  | [], a => rfl
  | b :: l, a => by rw [List.foldl_cons, getC_foldl_add k f hf l, hf, List.map_cons, List.sum_cons, Nat.add_assoc]

/-- `dbCounters` (the model of `ObjectCounters`) is `viewCount`. -/
theorem dbCounters_eq_viewCount (db : DB) (k : Nat) (hk : k < 5) : getC k (dbCounters db) = viewCount db k := by
  unfold dbCounters viewCount
  rw [getC_foldl_add k _ (fun a b => forall_lt_five
    (P := fun k => getC k _ = getC k a + getC k b.2.ctr) rfl rfl rfl rfl rfl k hk)]
  rw [forall_lt_five (P := fun k => getC k {} = 0) rfl rfl rfl rfl rfl k hk, Nat.zero_add]

/-- The size estimation is not exact: a removal mark for an id that is not stored makes the reported number
of objects too small (known finding C02-gc-counter). -/
theorem container_info_counterexample :
    let s := run [.put 1 [{ id := 2, typ := .regular, size := 23 }], .mark 1 [4] false]
    dbContainerInfo s.db 1 = (23, 0) ∧ Ref.containerInfo s.db 1 = (23, 1) := by decide

end NeoFS.Meta
