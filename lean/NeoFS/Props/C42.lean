import NeoFS.Lemmas.Migrate
/-!
# C42 — upgrading an older metadata database preserves every object's status

`Model/Migrate.lean` models the upgrade this tree implements (9 → 10 → 11) as the sequence of its committed
transactions (`step`), `crashAfter k` is the file left by a crash right after the k-th of them, `migrate` the
state a (re)opening leaves.  A database is read through a `View` (which keys each live container's bucket holds,
which garbage marks are of the redundant kind): `absOld` reads every key as the current-format key it stands for
(`canon`: Base58 associate value → raw id, homomorphic-hash index → nothing), `absNew` reads the keys as they are.
Statuses (available / removed / garbage-marked / locked / expired at any epoch), listings and search results of the
metabase are functions of the key set of the container's bucket, so equal views give equal answers.

Proved for ALL databases satisfying the old format's invariant (`Inv` / `Inv2`, decidable; `inv_example`,
`inv2_example`, preserved: `inv_after_upgrade_tx`), ALL container sources `ex`, ALL batch sizes `B ≥ 1`:

* `upgrade_tx_preserves` — after ANY number of committed transactions (= at every crash point, and at the end) the
  old reading of the file equals the old reading of the original, and the invariant still holds;
* `migrate_complete` — a finished upgrade from 9 or 10 leaves no old-format key in any live container's bucket:
  the bucket cursor and the in-bucket cursor of `updateContainersInterruptable` never skip an entry;
* `migrate_preserves_view` — the upgraded database read by the current code = the original read as old format;
* `migrate_resumable` — crash after any k transactions, reopen: same view as the uninterrupted upgrade;
  (the last two for runs that end within the fuel of `migrate`: the hypothesis `(migrateRun …).ph = .done` is
  decidable and evaluated by the model driver on every case; termination itself is not proved)
* `version_gate_refused`, `version_gate_current`, `version_only_when_done` — unsupported versions are refused
  without any change, the current version is opened without any change, the version key reads 11 only once the
  last transaction is committed (so a reopening never skips a step);
* `migrate_counters` — after an upgrade from 9 or 10 every bucket's counters are the recount of its content.
-/
namespace NeoFS.Migrate
open NeoFS.Search (aHomo aAssoc)

/-- Every committed transaction of the upgrade keeps the old reading of the file and the format invariant:
the statement holds at every crash point `n` and for the final state. -/
theorem upgrade_tx_preserves (ex : Nat → Bool) (B : Nat) (old : DB) (h : Inv old = true) (n : Nat) :
    absOld ex (steps ex B n (start old)).db = absOld ex old ∧ Inv (steps ex B n (start old)).db = true := by
  have hg : Good (start old).db.bkts := by rw [start_bkts]; exact (inv_iff_good old).1 h
  have tx := steps_tx ex B n (start old)
  refine ⟨?_, (inv_iff_good _).2 (tx_good tx hg)⟩
  rw [absOld_congr ex tx hg]
  unfold absOld
  rw [start_bkts]

theorem inv_after_upgrade_tx (ex : Nat → Bool) (B : Nat) (old : DB) (h : Inv old = true) (k : Nat) :
    Inv (crashAfter ex B k old) = true := (upgrade_tx_preserves ex B old h k).2

/-- Upgrade preserves the view: the upgraded database, read by the current code, is the original database read as
the old format.  Hypothesis beyond the format invariant: nothing of the old format is left in the live containers'
buckets (decidable, evaluated by the model driver on every case; `migrate_complete` derives it from `Inv2` for a run
that ends). -/
theorem migrate_preserves_view_partial (ex : Nat → Bool) (B : Nat) (old : DB) (h : Inv old = true)
    (hc : completeDB ex (migrate ex B old) = true) :
    absNew ex (migrate ex B old) = absOld ex old := by
  rw [absNew_eq_absOld ex _ hc]
  exact (upgrade_tx_preserves ex B old h (fuelOf old)).1

def migrate_preserves_view_full : Prop :=
  ∀ (ex : Nat → Bool) (B : Nat) (old : DB), B ≥ 1 → Inv old = true → (old.version = some 9 ∨ old.version = some 10) →
    absNew ex (migrate ex B old) = absOld ex old

/-- An interrupted upgrade can be resumed: crash right after ANY number `k` of committed transactions, reopen —
the resulting view is the one of the uninterrupted upgrade. -/
theorem migrate_resumable_partial (ex : Nat → Bool) (B : Nat) (old : DB) (h : Inv old = true) (k : Nat)
    (hc1 : completeDB ex (migrate ex B old) = true)
    (hc2 : completeDB ex (migrate ex B (crashAfter ex B k old)) = true) :
    absNew ex (migrate ex B (crashAfter ex B k old)) = absNew ex (migrate ex B old) := by
  rw [migrate_preserves_view_partial ex B old h hc1,
    migrate_preserves_view_partial ex B _ (inv_after_upgrade_tx ex B old h k) hc2]
  exact (upgrade_tx_preserves ex B old h k).1

/-! ### the version gate -/

/-- a database of an unsupported version (older than 9, or newer than 11) is refused and nothing is written -/
theorem version_gate_refused (ex : Nat → Bool) (B : Nat) (db : DB) (v : Nat) (hv : db.version = some v)
    (h : v ≠ 9 ∧ v ≠ 10 ∧ v ≠ 11) (n : Nat) : steps ex B n (start db) = ⟨db, .refused⟩ := by
  rw [start_refused hv h]
  exact steps_of_done_or_refused ex B _ (Or.inr rfl) n

/-- a database of the current version is opened and nothing is written -/
theorem version_gate_current (ex : Nat → Bool) (B : Nat) (db : DB) (hv : db.version = some 11) (n : Nat) :
    steps ex B n (start db) = ⟨db, .done⟩ := by
  rw [start_current hv]
  exact steps_of_done_or_refused ex B _ (Or.inl rfl) n

theorem migrate_refused (ex : Nat → Bool) (B : Nat) (db : DB) (v : Nat) (hv : db.version = some v)
    (h : v ≠ 9 ∧ v ≠ 10 ∧ v ≠ 11) : migrate ex B db = db := by
  unfold migrate migrateRun
  rw [version_gate_refused ex B db v hv h]

theorem migrate_current (ex : Nat → Bool) (B : Nat) (db : DB) (hv : db.version = some 11) : migrate ex B db = db := by
  unfold migrate migrateRun
  rw [version_gate_current ex B db hv]

/-- the version key each phase runs under -/
def phaseVersion : Phase → Option Nat
  | .v9 => some 9
  | .homo _ => some 10
  | .assoc _ => some 10
  | .final => some 10
  | .done => some 11
  | .refused => none

/-- the version key is the one the phase runs under -/
def VInv (r : Run) : Prop := ∀ v, phaseVersion r.ph = some v → r.db.version = some v

theorem vinv_start (db : DB) : VInv (start db) := by
  intro w
  cases hv : db.version with
  | none =>
    rw [start_none hv]; intro h; cases h; rfl
  | some v =>
    by_cases h9 : v = 9
    · rw [h9] at hv; rw [start_v9 hv]; intro h; cases h; exact hv
    · by_cases h10 : v = 10
      · rw [h10] at hv; rw [start_v10 hv]; intro h; cases h; exact hv
      · by_cases h11 : v = 11
        · rw [h11] at hv; rw [start_current hv]; intro h; cases h; exact hv
        · rw [start_refused hv ⟨h9, h10, h11⟩]; nofun

theorem vinv_step (ex : Nat → Bool) (B : Nat) (r : Run) (h : VInv r) : VInv (step ex B r) := by
  obtain ⟨db, ph⟩ := r
  cases ph with
  | v9 => intro v e; cases e; rfl
  | final => intro v e; cases e; rfl
  | done => exact h
  | refused => exact h
  | homo c => intro v e; simp only [step] at e ⊢; split at e <;> (cases e; exact h 10 rfl)
  | assoc c => intro v e; simp only [step] at e ⊢; split at e <;> (cases e; exact h 10 rfl)

theorem vinv_steps (ex : Nat → Bool) (B : Nat) : ∀ n r, VInv r → VInv (steps ex B n r)
  | 0, _, h => h
  | n + 1, r, h => vinv_steps ex B n _ (vinv_step ex B r h)

/-- The version key reads 11 only once the whole upgrade is committed: at every crash point before that it still
names a version the upgrade restarts from, so reopening never skips a step. -/
theorem version_only_when_done (ex : Nat → Bool) (B : Nat) (old : DB) (k : Nat)
    (h : (crashAfter ex B k old).version = some 11) :
    (steps ex B k (start old)).ph = .done ∨ (steps ex B k (start old)).ph = .refused := by
  have hv := vinv_steps ex B k _ (vinv_start old)
  unfold crashAfter at h
  generalize steps ex B k (start old) = r at h hv
  obtain ⟨db, ph⟩ := r
  cases ph with
  | done => exact Or.inl rfl
  | refused => exact Or.inr rfl
  | v9 => have := hv 9 rfl; simp only at h this; rw [h] at this; cases this
  | homo c => have := hv 10 rfl; simp only at h this; rw [h] at this; cases this
  | assoc c => have := hv 10 rfl; simp only at h this; rw [h] at this; cases this
  | final => have := hv 10 rfl; simp only at h this; rw [h] at this; cases this

/-! ### counters -/

/-- every bucket carries the recount of its keys -/
def CtrOK (db : DB) : Prop := ∀ cb ∈ db.bkts, cb.2.ctr = some (recount cb.2)

theorem syncAll_ctr (l : List (Nat × Bkt)) : ∀ cb ∈ syncAll l, cb.2.ctr = some (recount cb.2) := by
  intro cb h
  unfold syncAll at h
  obtain ⟨x, _, rfl⟩ := List.mem_map.1 h
  rfl

/-- only the last transaction ends the upgrade, and it recounts -/
theorem ctr_step (ex : Nat → Bool) (B : Nat) (r : Run) (h : r.ph = .done → CtrOK r.db) :
    (step ex B r).ph = .done → CtrOK (step ex B r).db := by
  obtain ⟨db, ph⟩ := r
  cases ph with
  | final => exact fun _ => syncAll_ctr _
  | done => exact h
  | refused => exact h
  | v9 => intro e; cases e
  | homo c => intro e; simp only [step] at e; split at e <;> cases e
  | assoc c => intro e; simp only [step] at e; split at e <;> cases e

theorem ctr_steps (ex : Nat → Bool) (B : Nat) : ∀ n r, (r.ph = .done → CtrOK r.db) →
    (steps ex B n r).ph = .done → CtrOK (steps ex B n r).db
  | 0, _, h => h
  | n + 1, r, h => ctr_steps ex B n _ (ctr_step ex B r h)

/-- After an upgrade from format 9 or 10 the counters of every bucket (live container or not) are the recount of
the bucket's upgraded content. -/
theorem migrate_counters (ex : Nat → Bool) (B : Nat) (old : DB) (hv : old.version = some 9 ∨ old.version = some 10)
    (hd : (migrateRun ex B old).ph = .done) : CtrOK (migrate ex B old) := by
  refine ctr_steps ex B _ _ ?_ hd
  rcases hv with hv | hv
  · rw [start_v9 hv]; nofun
  · rw [start_v10 hv]; nofun

/-! ### nothing is left behind -/

/-- A finished upgrade leaves nothing of the old format in the buckets of live containers: neither the bucket
cursor nor the in-bucket cursor of the batch loop skips an entry, whatever the batch size and wherever the batch
boundaries fall. -/
theorem migrate_complete (ex : Nat → Bool) (B : Nat) (hB : 1 ≤ B) (old : DB) (h : Inv2 old = true)
    (hv : old.version = some 9 ∨ old.version = some 10) (n : Nat)
    (hd : (steps ex B n (start old)).ph = .done) : completeDB ex (steps ex B n (start old)).db = true := by
  have hpi := steps_PI ex B hB n _ (PI_start ex old h hv)
  generalize steps ex B n (start old) = r at hd hpi
  obtain ⟨db, ph⟩ := r
  simp only at hd
  subst hd
  exact completeDB_of_clean ex db hpi.2.1.good hpi.2.2.1 hpi.2.2.2

/-- **Upgrade preserves the view.**  The upgraded database, read by the current code, is the original database read
as the old format it was written in: per live container the same keys (hence the same statuses at every epoch, the
same attribute table, the same search results) and the same redundant marks. -/
theorem migrate_preserves_view (ex : Nat → Bool) (B : Nat) (hB : 1 ≤ B) (old : DB) (h : Inv2 old = true)
    (hv : old.version = some 9 ∨ old.version = some 10) (hd : (migrateRun ex B old).ph = .done) :
    absNew ex (migrate ex B old) = absOld ex old :=
  migrate_preserves_view_partial ex B old (inv_of_inv2 h) (migrate_complete ex B hB old h hv _ hd)

/-- **An interrupted upgrade can be resumed.**  Crash right after ANY number `k` of committed transactions (the
in-memory cursor is lost), reopen: the view is the one of the uninterrupted upgrade. -/
theorem migrate_resumable (ex : Nat → Bool) (B : Nat) (hB : 1 ≤ B) (old : DB) (h : Inv2 old = true)
    (hv : old.version = some 9 ∨ old.version = some 10) (k : Nat)
    (hd1 : (migrateRun ex B old).ph = .done)
    (hd2 : (migrateRun ex B (crashAfter ex B k old)).ph = .done) :
    absNew ex (migrate ex B (crashAfter ex B k old)) = absNew ex (migrate ex B old) := by
  rw [migrate_preserves_view ex B hB old h hv hd1]
  have hpi := steps_PI ex B hB k _ (PI_start ex old h hv)
  have hvi := vinv_steps ex B k _ (vinv_start old)
  have hold := (upgrade_tx_preserves ex B old (inv_of_inv2 h) k).1
  have hinv2 := PI_inv2 ex _ hpi
  unfold crashAfter at hd2 ⊢
  generalize steps ex B k (start old) = r at hd2 hpi hvi hold hinv2 ⊢
  obtain ⟨db, ph⟩ := r
  simp only at hd2 hold hinv2 ⊢
  rw [← hold]
  cases ph with
  | refused => exact hpi.2.2.elim
  | done =>
    have : db.version = some 11 := hvi 11 rfl
    rw [migrate_current ex B db this]
    exact absNew_eq_absOld ex db (completeDB_of_clean ex db hpi.2.1.good hpi.2.2.1 hpi.2.2.2)
  | v9 => exact migrate_preserves_view ex B hB db hinv2 (Or.inl (hvi 9 rfl)) hd2
  | homo c => exact migrate_preserves_view ex B hB db hinv2 (Or.inr (hvi 10 rfl)) hd2
  | assoc c => exact migrate_preserves_view ex B hB db hinv2 (Or.inr (hvi 10 rfl)) hd2
  | final => exact migrate_preserves_view ex B hB db hinv2 (Or.inr (hvi 10 rfl)) hd2

/-! ### the hypotheses are satisfiable -/

/-- a format-10 bucket: a lock (id 7) for object 5 with its Base58 associate value and a homomorphic-hash entry -/
def exampleOld : DB :=
  let v := NeoFS.Search.b58Encode (NeoFS.Search.oidBytes (2 ^ 255 + 5))
  { version := some 10,
    bkts := [(1, { keys := [.oid 7, .plain 7 aAssoc v, .idAttr 7 aAssoc v, .plain 7 aHomo [1, 2], .idAttr 7 aHomo [1, 2],
                            .plain 7 NeoFS.Search.aType tLock, .idAttr 7 NeoFS.Search.aType tLock] })] }

theorem inv2_example : Inv2 exampleOld = true := by decide +kernel

theorem inv_example : Inv exampleOld = true := inv_of_inv2 inv2_example

/-- the hypothesis "the run ends within the fuel" is satisfiable (kernel-evaluated on a database without buckets;
the model driver evaluates it on every generated case: a run that does not end prints `unfinished`) -/
example : Inv2 { version := some 9 } = true ∧ (migrateRun (fun _ => true) 1000 { version := some 9 }).ph = .done := by decide

end NeoFS.Migrate
