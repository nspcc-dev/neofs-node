import NeoFS.Model.Timers
/-!
# C40 — epoch timers fire each tick exactly once per epoch, at the right time

For *every* prior state, every reset `(lastTick, dur)` and every (possibly non-monotonic) sequence of
block times observed until the next reset.
-/
namespace NeoFS.Timers

/-- `firstOnly` has exactly one `true` if the list has one, none otherwise: "exactly once". -/
theorem firstOnly_count (l : List Bool) : (firstOnly l).count true = if true ∈ l then 1 else 0 := by
  induction l with
  | nil => rfl
  | cons b r ih =>
    cases b with
    | true => simp [firstOnly, List.count_eq_zero]
    | false => simp [firstOnly, ih]

theorem updates_cons (et : ET) (u : Nat) (us : List Nat) :
    updates et (u :: us) = ((update et u).2.1, (update et u).2.2) :: updates (update et u).1 us := rfl

theorem updates_length (et : ET) (us : List Nat) : (updates et us).length = us.length := by
  induction us generalizing et with
  | nil => rfl
  | cons u us ih => simp [updates, ih]

theorem update_of_done (et : ET) (u : Nat) (h : et.done = true) :
    update et u = (et, false, et.dhs.map fun _ => false) := by simp [update, h]

theorem update_of_not_done (et : ET) (u : Nat) (h : et.done = false) :
    (update et u).1.done = decide (et.nextTickAt ≤ u) ∧ (update et u).2.1 = decide (et.nextTickAt ≤ u)
      ∧ (update et u).1.nextTickAt = et.nextTickAt := by simp [update, h]

theorem update_dh (et : ET) (u i : Nat) (dh : DH) (hi : et.dhs[i]? = some dh) :
    (update et u).1.dhs[i]? = some (if et.done then dh else (dh.update u).1) ∧
      (update et u).2.2.getD i false = (!et.done && (dh.update u).2) := by
  cases h : et.done <;> simp [update, h, List.getD, List.getElem?_map, hi]

theorem DH.update_of_done {dh : DH} (u : Nat) (h : dh.done = true) : dh.update u = (dh, false) := by
  simp [DH.update, h]

theorem DH.update_of_armed {dh : DH} (u : Nat) (h : dh.done = false) :
    dh.update u = if dh.nextTickAt ≤ u then ({ dh with done := true }, true) else (dh, false) := by
  simp [DH.update, h]

theorem updates_of_done (et : ET) (h : et.done = true) (us : List Nat) :
    updates et us = us.map fun _ => (false, et.dhs.map fun _ => false) := by
  induction us with
  | nil => rfl
  | cons u us ih => rw [updates_cons, update_of_done et u h, ih, List.map_cons]

/-- After the new-epoch handlers have fired nothing fires again until the next reset. -/
theorem nothing_after_done (et : ET) (h : et.done = true) (us : List Nat) :
    ∀ x ∈ updates et us, x.1 = false ∧ ∀ b ∈ x.2, b = false := by
  intro x hx
  rw [updates_of_done et h, List.mem_map] at hx
  obtain ⟨_, _, rfl⟩ := hx
  refine ⟨rfl, fun b hb => ?_⟩
  obtain ⟨_, _, rfl⟩ := List.mem_map.mp hb
  rfl

/-- New-epoch handlers: between a reset and the next one they fire exactly at the first observed block
time that reaches `lastTick + dur`, and never again. -/
theorem epoch_fires_once (et : ET) (us : List Nat) (hd : et.done = false) :
    (updates et us).map (·.1) = firstOnly (us.map fun u => decide (et.nextTickAt ≤ u)) := by
  induction us generalizing et with
  | nil => rfl
  | cons u us ih =>
    obtain ⟨h1, h2, h3⟩ := update_of_not_done et u hd
    rw [updates_cons, List.map_cons, List.map_cons, h2]
    by_cases h : et.nextTickAt ≤ u
    · rw [decide_eq_true h] at h1 ⊢
      rw [updates_of_done _ h1, firstOnly, List.map_map, List.map_map]
      rfl
    · rw [decide_eq_false h] at h1 ⊢
      rw [ih _ h1, h3, firstOnly]

/-- per-update firing flags of delta handler `i`. -/
def deltaFlags (i : Nat) (l : List (Bool × List Bool)) : List Bool := l.map fun x => x.2.getD i false

theorem deltaFlags_cons (i : Nat) (x : Bool × List Bool) (l : List (Bool × List Bool)) :
    deltaFlags i (x :: l) = x.2.getD i false :: deltaFlags i l := rfl

theorem deltaFlags_of_done {et : ET} {i : Nat} {dh : DH} (hi : et.dhs[i]? = some dh) (hd : dh.done = true)
    (us : List Nat) : deltaFlags i (updates et us) = us.map fun _ => false := by
  induction us generalizing et with
  | nil => rfl
  | cons u us ih =>
    obtain ⟨hi', hflag⟩ := update_dh et u i dh hi
    rw [DH.update_of_done u hd, ite_self] at hi'
    rw [updates_cons, deltaFlags_cons, hflag, DH.update_of_done u hd, Bool.and_false, ih hi', List.map_cons]

/-- `hle`: the epoch must not close before the handler's time, a closed epoch returns early -/
theorem deltaFlags_of_armed {et : ET} {i : Nat} {dh : DH} (hi : et.dhs[i]? = some dh) (hd : dh.done = false)
    (he : et.done = false) (hle : dh.nextTickAt ≤ et.nextTickAt) (us : List Nat) :
    deltaFlags i (updates et us) = firstOnly (us.map fun u => decide (dh.nextTickAt ≤ u)) := by
  induction us generalizing et with
  | nil => rfl
  | cons u us ih =>
    obtain ⟨hi', hflag⟩ := update_dh et u i dh hi
    obtain ⟨hdone', -, hnext'⟩ := update_of_not_done et u he
    rw [he, DH.update_of_armed u hd] at hi' hflag
    rw [updates_cons, deltaFlags_cons, hflag, List.map_cons]
    by_cases hfire : dh.nextTickAt ≤ u
    · rw [if_pos hfire] at hi' ⊢
      rw [decide_eq_true hfire, firstOnly, deltaFlags_of_done hi' rfl, List.map_map]
      rfl
    · rw [if_neg hfire] at hi' ⊢
      rw [decide_eq_false hfire, firstOnly, ih hi' (hdone'.trans (decide_eq_false (by omega))) (hnext' ▸ hle)]
      rfl

theorem delta_fires_once_aux (et : ET) (i : Nat) (dh : DH) (hi : et.dhs[i]? = some dh)
    (hle : dh.nextTickAt ≤ et.nextTickAt) (hinv : et.done = true → dh.done = true) (us : List Nat) :
    deltaFlags i (updates et us) =
      if dh.done then us.map (fun _ => false)
      else firstOnly (us.map fun u => decide (dh.nextTickAt ≤ u)) := by
  cases hd : dh.done with
  | true => exact deltaFlags_of_done hi hd us
  | false =>
    have he : et.done = false := by
      cases h : et.done with
      | false => rfl
      | true => rw [hinv h] at hd; cases hd
    exact deltaFlags_of_armed hi hd he hle us

theorem reset_nextTickAt (et : ET) {lastTick dur : Nat} (ho : lastTick + dur < M64) :
    (reset et lastTick dur).nextTickAt = lastTick + dur := Nat.mod_eq_of_lt ho

theorem reset_dh {et : ET} {i : Nat} {dh : DH} (lastTick dur : Nat) (hi : et.dhs[i]? = some dh) :
    (reset et lastTick dur).dhs[i]? = some (dh.reset lastTick dur) := by
  simp [reset, List.getElem?_map, hi]

theorem DH.reset_nextTickAt (dh : DH) {lastTick dur : Nat} (hfrac : dh.mul ≤ dh.div) (ho1 : lastTick + dur < M64)
    (ho2 : dur * dh.mul < M64) :
    (dh.reset lastTick dur).nextTickAt = lastTick + dur * dh.mul / dh.div ∧
      lastTick + dur * dh.mul / dh.div ≤ lastTick + dur := by
  have hle : dur * dh.mul / dh.div ≤ dur :=
    Nat.div_le_of_le_mul (Nat.mul_comm dur dh.div ▸ Nat.mul_le_mul_left dur hfrac)
  refine ⟨?_, Nat.add_le_add_left hle _⟩
  show (lastTick + dur * dh.mul % M64 / dh.div) % M64 = _
  rw [Nat.mod_eq_of_lt ho2, Nat.mod_eq_of_lt (Nat.lt_of_le_of_lt (Nat.add_le_add_left hle _) ho1)]

/-- Sub-epoch handlers with `mul ≤ div`: after a reset (no uint64 overflow in `lastTick + dur` and
`dur*mul`) handler `i` fires exactly at the first observed block time reaching
`lastTick + dur*mul/div`, and never again before the next reset. -/
theorem delta_fires_once (et : ET) (i : Nat) (dh : DH) (hi : et.dhs[i]? = some dh)
    (lastTick dur : Nat) (hfrac : dh.mul ≤ dh.div) (hdiv : 0 < dh.div)
    (ho1 : lastTick + dur < M64) (ho2 : dur * dh.mul < M64) (us : List Nat) :
    deltaFlags i (updates (reset et lastTick dur) us) =
      firstOnly (us.map fun u => decide (lastTick + dur * dh.mul / dh.div ≤ u)) := by
  obtain ⟨hnt, hle⟩ := DH.reset_nextTickAt dh hfrac ho1 ho2
  rw [← hnt] at hle ⊢
  exact deltaFlags_of_armed (reset_dh lastTick dur hi) rfl rfl (reset_nextTickAt et ho1 ▸ hle) us

theorem epoch_fires_once_after_reset (et : ET) (lastTick dur : Nat) (ho : lastTick + dur < M64) (us : List Nat) :
    (updates (reset et lastTick dur) us).map (·.1) = firstOnly (us.map fun u => decide (lastTick + dur ≤ u)) := by
  rw [← reset_nextTickAt et ho]
  exact epoch_fires_once (reset et lastTick dur) us rfl

/-! ### Whole histories, and calls that overlap a running `UpdateTime`

The theorems above are for every prior state, so they hold inside any history; the statements below say
so explicitly for a history of atomic calls (`runAtoms`), and for a history in which `Reset`s and
`UpdateTime`s are issued while a handler of a running `UpdateTime` executes (`runEvs`): such a call is
linearised right after the `UpdateTime` it overlaps (`lin`), and between any reset of the linearised
history — overlapped ones included — and the next one, every handler fires exactly once, at the first
block time reaching its schedule. -/

theorem runAtoms_length (et : ET) (as : List Atom) : (runAtoms et as).length = as.length := by
  induction as generalizing et with
  | nil => rfl
  | cons a as ih => simp [runAtoms, ih]

theorem runAtoms_append (et : ET) (as bs : List Atom) :
    runAtoms et (as ++ bs) = runAtoms et as ++ runAtoms (afterAtoms et as) bs := by
  induction as generalizing et with
  | nil => rfl
  | cons a as ih => simp [runAtoms, afterAtoms, ih]

theorem afterAtoms_append (et : ET) (as bs : List Atom) :
    afterAtoms et (as ++ bs) = afterAtoms (afterAtoms et as) bs := by
  induction as generalizing et with
  | nil => rfl
  | cons a as ih => simp [afterAtoms, ih]

theorem runAtoms_upds (et : ET) (us : List Nat) : runAtoms et (us.map .upd) = updates et us := by
  induction us generalizing et with
  | nil => rfl
  | cons u us ih => simp [runAtoms, stepAtom, updates, ih]

/-- the outputs of the `n` calls that follow position `k` of a history -/
def segment (k n : Nat) (l : List (Bool × List Bool)) : List (Bool × List Bool) := (l.drop k).take n

theorem segment_after_reset (et : ET) (pre : List Atom) (lt dur : Nat) (us : List Nat) (rest : List Atom) :
    segment (pre.length + 1) us.length (runAtoms et (pre ++ .rst lt dur :: (us.map .upd ++ rest))) =
      updates (reset (afterAtoms et pre) lt dur) us := by
  unfold segment
  rw [runAtoms_append, ← runAtoms_length et pre, List.drop_length_add_append]
  simp only [runAtoms, stepAtom, List.drop_succ_cons, List.drop_zero]
  rw [runAtoms_append, runAtoms_upds]
  exact List.take_left' (updates_length _ us)

/-- Every history of atomic calls, every reset in it, every sequence of block times observed after that
reset before the next one: the new-epoch handlers fire exactly at the first block time reaching
`lastTick + dur`, never again. -/
theorem history_epoch_once (et : ET) (pre : List Atom) (lt dur : Nat) (us : List Nat) (rest : List Atom)
    (ho : lt + dur < M64) :
    (segment (pre.length + 1) us.length (runAtoms et (pre ++ .rst lt dur :: (us.map .upd ++ rest)))).map (·.1) =
      firstOnly (us.map fun u => decide (lt + dur ≤ u)) := by
  rw [segment_after_reset]
  exact epoch_fires_once_after_reset _ lt dur ho us

/-- … and each sub-epoch handler with `mul ≤ div` exactly at the first block time reaching its fraction. -/
theorem history_delta_once (et : ET) (pre : List Atom) (lt dur : Nat) (us : List Nat) (rest : List Atom)
    (i : Nat) (dh : DH) (hi : (afterAtoms et pre).dhs[i]? = some dh) (hfrac : dh.mul ≤ dh.div) (hdiv : 0 < dh.div)
    (ho1 : lt + dur < M64) (ho2 : dur * dh.mul < M64) :
    deltaFlags i (segment (pre.length + 1) us.length (runAtoms et (pre ++ .rst lt dur :: (us.map .upd ++ rest)))) =
      firstOnly (us.map fun u => decide (lt + dur * dh.mul / dh.div ≤ u)) := by
  rw [segment_after_reset]
  exact delta_fires_once _ i dh hi lt dur hfrac hdiv ho1 ho2 us

/-- A history with overlapped calls shows exactly what its linearisation shows. -/
theorem runEvs_eq_lin (et : ET) (evs : List Ev) : runEvs et evs = runAtoms et (lin et evs) := by
  induction evs generalizing et with
  | nil => rfl
  | cons e es ih => simp only [runEvs, lin, runAtoms_append, ih]

/-- Exactly once over histories with overlapped calls: wherever the linearised history has a reset (issued
on its own or from inside a running handler) followed by block times `us` (observed by `UpdateTime` calls
issued on their own or from inside a running handler), the new-epoch handlers fire exactly at the first of
them reaching `lastTick + dur`. -/
theorem overlap_epoch_once (et : ET) (evs : List Ev) (pre : List Atom) (lt dur : Nat) (us : List Nat) (rest : List Atom)
    (hlin : lin et evs = pre ++ .rst lt dur :: (us.map .upd ++ rest)) (ho : lt + dur < M64) :
    (segment (pre.length + 1) us.length (runEvs et evs)).map (·.1) = firstOnly (us.map fun u => decide (lt + dur ≤ u)) := by
  rw [runEvs_eq_lin, hlin]
  exact history_epoch_once et pre lt dur us rest ho

theorem overlap_delta_once (et : ET) (evs : List Ev) (pre : List Atom) (lt dur : Nat) (us : List Nat) (rest : List Atom)
    (hlin : lin et evs = pre ++ .rst lt dur :: (us.map .upd ++ rest))
    (i : Nat) (dh : DH) (hi : (afterAtoms et pre).dhs[i]? = some dh) (hfrac : dh.mul ≤ dh.div) (hdiv : 0 < dh.div)
    (ho1 : lt + dur < M64) (ho2 : dur * dh.mul < M64) :
    deltaFlags i (segment (pre.length + 1) us.length (runEvs et evs)) =
      firstOnly (us.map fun u => decide (lt + dur * dh.mul / dh.div ≤ u)) := by
  rw [runEvs_eq_lin, hlin]
  exact history_delta_once et pre lt dur us rest i dh hi hfrac hdiv ho1 ho2

/-- A `Reset` issued while a handler of `UpdateTime(t)` runs is not lost: whatever that `UpdateTime` marks
as done afterwards, the epoch armed by the reset fires exactly once, at the first block time reaching it. -/
theorem overlapped_reset_rearms (et : ET) (t : Nat) (site : Site) (lt dur : Nat)
    (hs : siteFired site (update et t).2.1 (update et t).2.2 = true) (ho : lt + dur < M64) (us : List Nat) :
    ((updates (afterAtoms et ((Ev.overlapped t site (.rst lt dur)).atoms et)) us).map (·.1)).count true =
      if ∃ u ∈ us, lt + dur ≤ u then 1 else 0 := by
  simp only [Ev.atoms, hs, if_true, afterAtoms, stepAtom]
  rw [epoch_fires_once_after_reset _ lt dur ho us, firstOnly_count]
  simp

/-- An `UpdateTime` issued while a handler of `UpdateTime(t)` runs never makes the new-epoch handlers fire a
second time: over the two calls together they fire at most once. -/
theorem overlapped_update_no_double_fire (et : ET) (t : Nat) (site : Site) (t2 : Nat) (hd : et.done = false) :
    ((runAtoms et ((Ev.overlapped t site (.upd t2)).atoms et)).map (·.1)).count true ≤ 1 := by
  have key : ∀ us : List Nat, ((runAtoms et (us.map .upd)).map (·.1)).count true ≤ 1 := by
    intro us
    rw [runAtoms_upds, epoch_fires_once et us hd, firstOnly_count]
    split <;> omega
  simp only [Ev.atoms]
  split
  · exact key [t, t2]
  · exact key [t]

example : runEvs (reset (new [(1, 2), (1, 1)]) 0 6)
    [.overlapped 6 .epoch (.rst 6 4), .atom (.upd 8), .atom (.upd 10), .atom (.upd 12)] =
    [(true, [true, true]), (false, [false, false]), (false, [true, false]), (true, [false, true]), (false, [false, false])] := by decide
example : runEvs (reset (new [(1, 2)]) 0 6) [.overlapped 6 (.delta 0) (.upd 6), .atom (.upd 7)] =
    [(true, [true]), (false, [false]), (false, [false])] := by decide
example : lin (reset (new [(1, 2)]) 0 6) [.overlapped 2 .epoch (.rst 9 9), .atom (.upd 7)] = [.upd 2, .upd 7] := by decide

/-- Non-vacuity and the excluded case executed: a 3/2 fraction (`mul > div`) never fires because the
closed epoch returns early. -/
example : deltaFlags 0 (updates (reset (new [(1, 2), (3, 2)]) 10 10) [12, 15, 14, 20, 30]) = [false, true, false, false, false] := by decide
example : deltaFlags 1 (updates (reset (new [(1, 2), (3, 2)]) 10 10) [12, 15, 14, 20, 30]) = [false, false, false, false, false] := by decide

end NeoFS.Timers
