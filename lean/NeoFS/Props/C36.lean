import NeoFS.Lemmas.Governance
/-!
# C36 — alphabet rotation keeps size, uniqueness and the one-third bound

General theorems over arbitrary duplicate-free key lists (no bound on sizes).
-/
namespace NeoFS.Gov

/-- The proposed alphabet: same size as the current one, no duplicates, only current members and
main-network keys, at most ⌊(n-1)/3⌋ new keys, and proposed only when at least one key is new.
(On an empty current list `newAlphabetList` fails, so the statement speaks of non-empty ones.) -/
theorem rotation (fs mn l : List Nat) (hfs : fs.Nodup) (hmn : mn.Nodup)
    (h : newAlphabetList fs mn = .ok (some l)) :
    l.length = fs.length ∧ l.Nodup ∧ (∀ x ∈ l, x ∈ fs ∨ x ∈ mn) ∧
      l.countP (isNew fs) ≤ (fs.length - 1) / 3 ∧ (∃ x ∈ l, x ∉ fs) := by
  have pc := sortKeys_perm fs
  have pm := sortKeys_perm mn
  unfold newAlphabetList at h
  generalize sortKeys fs = cur at h pc
  generalize sortKeys mn = cand at h pm
  simp only at h
  by_cases h0 : cur.length = 0
  · rw [if_pos h0] at h; cases h
  by_cases h1 : cand.length < cur.length
  · rw [if_neg h0, if_pos h1] at h; cases h
  rw [if_neg h0, if_neg h1] at h
  generalize hsc : scan cur.length ((cur.length - 1) / 3) cur cand [] [] 0 = r at h
  obtain ⟨res, seen, k⟩ := r
  by_cases hk : k = 0
  · rw [if_pos hk] at h; cases h
  rw [if_neg hk, Except.ok.injEq, Option.some.injEq] at h
  generalize hF : topUp cur.length seen cur res = F at h
  obtain ⟨f_len, f_nodup, f_sub, f_cnt, hle⟩ :=
    proposal_spec _ cur cand (pc.nodup_iff.mpr hfs) (pm.nodup_iff.mpr hmn) hsc hF.symm
  have pl : l.Perm F := h ▸ sortKeys_perm F
  have hnew : isNew cur = isNew fs := funext fun y => by simp [isNew, pc.mem_iff]
  rw [hnew] at f_cnt
  rw [pc.length_eq] at f_len hle
  refine ⟨pl.length_eq.trans f_len, pl.nodup_iff.mpr f_nodup, ?_, ?_, ?_⟩
  · intro x hx
    exact (f_sub x (pl.mem_iff.mp hx)).imp pc.mem_iff.mp pm.mem_iff.mp
  · rw [pl.countP_eq, f_cnt]; exact hle
  · obtain ⟨x, hx, hp⟩ := List.countP_pos_iff.mp (f_cnt ▸ Nat.pos_of_ne_zero hk)
    exact ⟨x, pl.mem_iff.mpr hx, by simpa using hp⟩

/-- A proposed list always differs from the current one (last conjunct of `rotation`): when the scan
admitted no new key the code returns `nil, nil` instead. -/
theorem rotation_differs (fs mn l : List Nat) (hfs : fs.Nodup) (hmn : mn.Nodup)
    (h : newAlphabetList fs mn = .ok (some l)) : ¬ (∀ x, x ∈ l ↔ x ∈ fs) := by
  obtain ⟨_, _, _, _, x, hx, hn⟩ := rotation fs mn l hfs hmn h
  intro hall; exact hn ((hall x).mp hx)

/-- The derived inner ring list has no duplicates and differs from the old one exactly by the replaced
keys: it is (ring ∖ before) ∪ after. -/
theorem innerRing_update (ring before after l : List Nat) (hr : ring.Nodup) (hb : before.Nodup)
    (ha : after.Nodup) (hsub : ∀ b ∈ before, b ∈ ring)
    (h : updateInnerRing ring before after = .ok l) :
    l.Nodup ∧ ∀ x, x ∈ l ↔ ((x ∈ ring ∧ x ∉ before) ∨ x ∈ after) := by
  unfold updateInnerRing at h
  split at h
  · cases h
  rename_i hlen
  obtain rfl := Except.ok.inj h
  refine ⟨hr.filterMap fun a a' b h1 h2 => ringStep_some_inj ha h1 h2, fun x => ?_⟩
  simp only [List.mem_filterMap, ringStep_eq_some_iff]
  constructor
  · rintro ⟨r, hrr, ⟨j, _, hx⟩ | ⟨hnb, _, rfl⟩⟩
    · exact Or.inr (List.mem_of_getElem? hx)
    · exact Or.inl ⟨hrr, hnb⟩
  · intro hx
    by_cases hxa : x ∈ after
    · obtain ⟨j, hj, rfl⟩ := List.getElem_of_mem hxa
      have hjb : j < before.length := by omega
      exact ⟨before[j], hsub _ (List.getElem_mem _),
        Or.inl ⟨j, indexOf?_of_getElem hb (List.getElem?_eq_getElem hjb), List.getElem?_eq_getElem hj⟩⟩
    · obtain ⟨hxr, hxb⟩ := hx.resolve_right hxa
      exact ⟨x, hxr, Or.inr ⟨hxb, hxa, rfl⟩⟩

/-- Non-vacuity: the situation that used to list a key twice (ring member 0 becomes an alphabet key). -/
example : newAlphabetList [1, 2, 3, 4] [0, 1, 2, 3, 4] = .ok (some [0, 1, 2, 3]) := by decide
example : updateInnerRing [1, 2, 3, 4, 0] [1, 2, 3, 4] [0, 1, 2, 3] = .ok [0, 1, 2, 3] := by decide

end NeoFS.Gov
