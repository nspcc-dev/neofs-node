import NeoFS.Model.Grace
/-!
# C47 — container data is discarded only when the container is gone or long unpaid

`Gen.unpaidGraceExpired` is regenerated from the `if` in `Shard.setEpochEventHandler` that mentions
`maxUnpaidEpochDelay` on every run. Quantifiers: every epoch in uint64, every unpaid-since in int64.
-/
namespace NeoFS.Grace

def isU64 (x : Int) : Prop := 0 ≤ x ∧ x < 18446744073709551616
def isI64 (x : Int) : Prop := -9223372036854775808 ≤ x ∧ x < 9223372036854775808

theorem grace_iff (epoch unpaidSince : Int) (he : isU64 epoch) (hu : isI64 unpaidSince) (h0 : 0 ≤ unpaidSince) :
    Gen.unpaidGraceExpired epoch unpaidSince = true ↔ (unpaidSince ≤ epoch ∧ epoch - unpaidSince ≥ 3) := by
  -- must not depend on how the regenerated condition is written: the wrapped terms are rewritten where they occur,
  -- `omega` closes whatever `simp only` leaves open
  have hmod : unpaidSince % 18446744073709551616 = unpaidSince :=
    Int.emod_eq_of_lt h0 (Int.lt_trans hu.2 (by decide))
  have hsub : unpaidSince ≤ epoch → (epoch - unpaidSince) % 18446744073709551616 = epoch - unpaidSince := fun hle =>
    Int.emod_eq_of_lt (Int.sub_nonneg_of_le hle) (Int.lt_of_le_of_lt (Int.sub_le_self _ h0) he.2)
  by_cases hle : unpaidSince ≤ epoch
  · simp only [Gen.unpaidGraceExpired, hmod, hsub hle, Bool.and_eq_true, decide_eq_true_eq] <;> omega
  · simp only [Gen.unpaidGraceExpired, hmod, Bool.and_eq_true, decide_eq_true_eq] <;> omega

theorem epochHandlerDiscards_eq_true_iff (pd le ce : Bool) (unpaidSince epoch : Int) :
    epochHandlerDiscards pd le ce unpaidSince epoch = true ↔
      pd = false ∧ le = false ∧ ce = false ∧ 0 ≤ unpaidSince ∧ Gen.unpaidGraceExpired epoch unpaidSince = true := by
  simp only [epochHandlerDiscards, Bool.if_false_left, Bool.and_eq_true, Bool.not_eq_true', decide_eq_false_iff_not,
    Bool.not_eq_true, Int.not_lt]

/-- The new-epoch handler discards ⇔ payments are enabled, nothing failed, and the container has been
unpaid for at least the grace period counted from the handled epoch. -/
theorem discard_iff (pd le ce : Bool) (unpaidSince epoch : Int) (he : isU64 epoch) (hu : isI64 unpaidSince) :
    epochHandlerDiscards pd le ce unpaidSince epoch = true ↔
      (pd = false ∧ le = false ∧ ce = false ∧ 0 ≤ unpaidSince ∧ unpaidSince ≤ epoch ∧ epoch - unpaidSince ≥ 3) := by
  rw [epochHandlerDiscards_eq_true_iff]
  exact and_congr_right fun _ => and_congr_right fun _ => and_congr_right fun _ => and_congr_right fun h0 =>
    grace_iff epoch unpaidSince he hu h0

/-- Transient failures, disabled payments and paid containers never discard. -/
theorem transient_never_discards (pd le ce : Bool) (unpaidSince epoch : Int)
    (h : pd = true ∨ le = true ∨ ce = true ∨ unpaidSince < 0) :
    epochHandlerDiscards pd le ce unpaidSince epoch = false := by
  rw [← Bool.not_eq_true, epochHandlerDiscards_eq_true_iff]
  rintro ⟨rfl, rfl, rfl, h4, -⟩
  exact Int.not_lt.mpr h4 (by simpa using h)

/-- An unpaid mark newer than the handled epoch never discards. -/
theorem future_mark_never_discards (pd le ce : Bool) (unpaidSince epoch : Int)
    (he : isU64 epoch) (hu : isI64 unpaidSince) (hf : epoch < unpaidSince) :
    epochHandlerDiscards pd le ce unpaidSince epoch = false := by
  rw [← Bool.not_eq_true, discard_iff pd le ce unpaidSince epoch he hu]
  exact fun h => Int.not_le.mpr hf h.2.2.2.2.1

/-- Start-up cleanup discards exactly on a definitive "not found". -/
theorem startup_iff (s : Src) : startupDiscards s = true ↔ s = .notFound := by
  cases s <;> simp [startupDiscards]

example : epochHandlerDiscards false false false 2 5 = true ∧ epochHandlerDiscards false false false 7 5 = false := by
  decide

end NeoFS.Grace
