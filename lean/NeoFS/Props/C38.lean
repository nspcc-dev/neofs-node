import NeoFS.Lemmas.IRNetmap
/-
C38 — network map admission and epoch ticks follow the rules.
All statements are for EVERY validator list (any order, any subset, repetitions), every
candidate description, every flag combination and every finite history of events.
-/
namespace NeoFS.IRNetmap

/-! ### admission -/

/-- The node is approved iff the processor runs on an alphabet node, the notary main
    transaction's script halts, the node structure converts, and EVERY configured validator
    accepts the node -/
theorem approve_iff_all_validators (alphabet halts conv : Bool) (vs : List V) (n : Node) :
    processAddNode alphabet halts conv vs n = .approved ↔
      alphabet = true ∧ halts = true ∧ conv = true ∧ ∀ v ∈ vs, v.ok n = true := by
  rw [← firstError_none_iff n vs 0, processAddNode]
  cases alphabet
  · simp
  cases halts
  · simp
  cases conv
  · simp
  cases firstError n vs 0 <;> simp

/-- the reported validator is the FIRST failing one: it fails and every earlier one accepts -/
theorem firstError_is_first_failing (n : Node) (vs : List V) (base i : Nat)
    (h : firstError n vs base = some i) :
    base ≤ i ∧ ∃ v, vs[i - base]? = some v ∧ v.ok n = false ∧
      ∀ j, j < i - base → ∀ w, vs[j]? = some w → w.ok n = true := by
  rw [firstError_eq_findIdx?, Option.map_eq_some_iff] at h
  obtain ⟨k, hk, rfl⟩ := h
  obtain ⟨hlt, hfail, hbefore⟩ := List.findIdx?_eq_some_iff_getElem.mp hk
  rw [Nat.add_sub_cancel]
  refine ⟨Nat.le_add_left _ _, vs[k], List.getElem?_eq_getElem hlt, by simpa using hfail, fun j hj w hw => ?_⟩
  obtain ⟨hj', rfl⟩ := List.getElem?_eq_some_iff.mp hw
  simpa using hbefore j hj

/-- the composite validator stops at the first error: validators after it are not called -/
theorem calledCount_eq (n : Node) (vs : List V) (base : Nat) :
    calledCount n vs = match firstError n vs base with
      | some i => i - base + 1
      | none => vs.length := by
  rw [calledCount_eq_findIdx?, firstError_eq_findIdx?]
  cases vs.findIdx? (fun v => !v.ok n) with
  | none => rfl
  | some j => exact congrArg (· + 1) (Nat.add_sub_cancel (n := j) (m := base)).symm

/-- approval does not depend on the order in which the validators are composed -/
theorem admission_order_independent (alphabet halts conv : Bool) (vs vs' : List V) (n : Node)
    (hp : vs.Perm vs') :
    processAddNode alphabet halts conv vs n = .approved ↔
    processAddNode alphabet halts conv vs' n = .approved := by
  rw [approve_iff_all_validators, approve_iff_all_validators]
  constructor
  · rintro ⟨a, b, c, h⟩; exact ⟨a, b, c, fun v hv => h v (hp.mem_iff.2 hv)⟩
  · rintro ⟨a, b, c, h⟩; exact ⟨a, b, c, fun v hv => h v (hp.mem_iff.1 hv)⟩

/-- with the validators the inner ring configures, an approved node is ONLINE or in
    MAINTENANCE, announces only well-formed endpoints and no attribute twice, answered the
    availability probe, is entitled to its verified domain, and its LOCODE attributes equal the
    database record -/
theorem approved_node_facts (halts conv : Bool) (n : Node) (withExt : Bool)
    (h : processAddNode true halts conv
      ([.state, .structure, .availability, .privateDomains, .locode] ++ (if withExt then [.external] else [])) n = .approved) :
    (n.state = .online ∨ n.state = .maintenance) ∧ n.addrsOk.all id = true ∧ nodup n.attrKeys = true ∧
    n.reachable = true ∧ (n.hasDomain = true → n.keyPresent = true ∧ n.nnsAnswer = 0) ∧
    (n.hasLocode = true → n.locodeKnown = true ∧ n.locodeFields.all id = true) ∧
    (withExt = true → n.externalOk = true) := by
  have hall := ((approve_iff_all_validators true halts conv _ n).1 h).2.2.2
  rw [List.forall_mem_append] at hall
  obtain ⟨hbase, hext⟩ := hall
  simp only [List.forall_mem_cons, V.ok, Bool.or_eq_true, Bool.and_eq_true, beq_iff_eq, Bool.not_eq_true',
    ← Bool.not_eq_true] at hbase
  obtain ⟨hs, ⟨ha, hk⟩, hr, hd, hl, -⟩ := hbase
  refine ⟨hs, ha, hk, hr, hd.neg_resolve_left, hl.neg_resolve_left, fun hw => ?_⟩
  subst hw
  exact hext .external List.mem_cons_self

/-- peer state updates are approved exactly by alphabet nodes (nothing else is checked by this
    processor) -/
theorem updatePeer_iff_alphabet (alphabet : Bool) :
    processUpdatePeer alphabet = .approved ↔ alphabet = true := by
  cases alphabet <;> simp [processUpdatePeer]

/-! ### epochs -/

/-- the epoch the node believes current: the last notified one (or the initial counter) -/
def lastNotified (c : Nat) : List Ev → Nat
  | [] => c
  | .newEpoch e :: r => lastNotified e r
  | _ :: r => lastNotified c r

/-- whether the node is in the alphabet after a history -/
def alphabetAfter (a : Bool) : List Ev → Bool
  | [] => a
  | .setAlphabet b :: r => alphabetAfter b r
  | _ :: r => alphabetAfter a r

theorem lastNotified_cons (s : St) (e : Ev) (r : List Ev) :
    lastNotified s.counter (e :: r) = lastNotified (step s e).1.counter r := by
  cases e <;> rfl

theorem alphabetAfter_cons (s : St) (e : Ev) (r : List Ev) :
    alphabetAfter s.alphabet (e :: r) = alphabetAfter (step s e).1.alphabet r := by
  cases e <;> rfl

theorem state_after (s : St) (evs : List Ev) :
    (run s evs).1.counter = lastNotified s.counter evs ∧
    (run s evs).1.alphabet = alphabetAfter s.alphabet evs := by
  induction evs generalizing s with
  | nil => exact ⟨rfl, rfl⟩
  | cons e r ih => rw [run_cons, lastNotified_cons, alphabetAfter_cons]; exact ih _

/-- Whatever happened before and whatever happens after, a timer tick makes an
    alphabet node ask the contract for EXACTLY the epoch after the last notified one, exactly
    once, and makes a non-alphabet node ask for nothing -/
theorem tick_requests_next_epoch (s : St) (pre post : List Ev) :
    (run s (pre ++ .tick :: post)).2 =
      (run s pre).2 ++
      (if alphabetAfter s.alphabet pre then [lastNotified s.counter pre + 1] else []) ++
      (run (run s pre).1 post).2 := by
  rw [run_append, run_cons, ← (state_after s pre).1, ← (state_after s pre).2, List.append_assoc]
  rfl

/-- a node that is not (and does not become) an alphabet node never asks for a new epoch -/
theorem non_alphabet_never_requests (s : St) (evs : List Ev) (h : s.alphabet = false)
    (hno : ∀ b, Ev.setAlphabet b ∈ evs → b = false) : (run s evs).2 = [] := by
  induction evs generalizing s with
  | nil => rfl
  | cons e r ih =>
    have hstep : (step s e).2 = [] := List.eq_nil_iff_forall_not_mem.mpr fun x hx =>
      Bool.false_ne_true (h.symm.trans (mem_step_requests hx).2.1)
    have halpha : (step s e).1.alphabet = false := by
      cases e with
      | tick => exact h
      | newEpoch k => exact h
      | setAlphabet b => exact hno b List.mem_cons_self
    rw [run_cons, hstep, List.nil_append]
    exact ih _ halpha fun b hb => hno b (List.mem_cons_of_mem _ hb)

/-- requests are never for the current or an older epoch, and never skip one -/
theorem every_request_is_next (s : St) (evs : List Ev) :
    ∀ e ∈ (run s evs).2, ∃ pre post, evs = pre ++ .tick :: post ∧ e = lastNotified s.counter pre + 1 := by
  induction evs generalizing s with
  | nil => intro e he; cases he
  | cons ev r ih =>
    intro e he
    rw [run_cons] at he
    rcases List.mem_append.mp he with he | he
    · obtain ⟨rfl, -, rfl⟩ := mem_step_requests he
      exact ⟨[], r, rfl, rfl⟩
    · obtain ⟨pre, post, rfl, rfl⟩ := ih _ e he
      exact ⟨ev :: pre, post, rfl, (lastNotified_cons s ev pre).symm ▸ rfl⟩

/-- when every request is executed and notified back at once, n ticks of an alphabet node move
    the epoch forward by exactly n (one per tick) and reset the timer n times -/
theorem applied_ticks_advance_by_one_each (s : St) (n : Nat) (h : s.alphabet = true) :
    (runApplied s (List.replicate n .tick)).counter = s.counter + n ∧
    (runApplied s (List.replicate n .tick)).timerResets = s.timerResets + n := by
  induction n generalizing s with
  | zero => exact ⟨rfl, rfl⟩
  | succ k ih =>
    obtain ⟨hc, ht⟩ := ih { s with counter := s.counter + 1, timerResets := s.timerResets + 1 } h
    have hstep : runApplied s (List.replicate (k + 1) .tick) =
        runApplied { s with counter := s.counter + 1, timerResets := s.timerResets + 1 } (List.replicate k .tick) :=
      if_pos h
    rw [hstep, hc, ht]
    exact ⟨by rw [Nat.add_assoc, Nat.add_comm 1 k], by rw [Nat.add_assoc, Nat.add_comm 1 k]⟩

/-! ### histories against ONE processor and ONE validator instance

`hrun` runs admissions, peer updates, ticks, notifications, alphabet changes and changes of the
world the validators consult, all against the same processor state.  The statements below are
for EVERY initial state, EVERY validator list and EVERY finite history. -/

/-- a request (admission, peer update, tick) leaves NO trace in the processor: whatever was
    announced and whatever the verdict was, the state after it is the state before it -/
theorem request_leaves_no_trace (s : HSt) (e : HEv) (h : e.isRequest = true) : (hstep s e).1 = s := by
  cases e with
  | addNode _ _ => rfl
  | updPeer => rfl
  | tick => rfl
  | _ => cases h

/-- the state after a history is the state after its non-request events alone -/
theorem state_ignores_requests (s : HSt) (evs : List HEv) :
    (hrun s evs).1 = (hrun s (evs.filter (fun e => !e.isRequest))).1 := by
  induction evs generalizing s with
  | nil => rfl
  | cons e r ih =>
    cases hreq : e.isRequest with
    | true =>
      rw [List.filter_cons_of_neg (by simp [hreq]), hrun_cons, request_leaves_no_trace s e hreq]
      exact ih s
    | false =>
      rw [List.filter_cons_of_pos (by simp [hreq]), hrun_cons, hrun_cons]
      exact ih _

/-- The verdict on a candidate depends only on the candidate and on what the
    world, the alphabet flag and the validator list are NOW.  Two histories that differ only in
    the requests made before (other candidates of the same or other keys, approved or rejected,
    in any number and order; peer updates; ticks) give the same outcome, the same first
    rejecting validator and the same number of validator calls -/
theorem verdict_independent_of_earlier_candidates (s : HSt) (pre pre' : List HEv) (halts : Bool) (c : Cand)
    (h : pre.filter (fun e => !e.isRequest) = pre'.filter (fun e => !e.isRequest)) :
    (hstep (hrun s pre).1 (.addNode halts c)).2 = (hstep (hrun s pre').1 (.addNode halts c)).2 := by
  rw [state_ignores_requests s pre, state_ignores_requests s pre', h]

/-- the validator list of the process never changes -/
theorem vs_constant (s : HSt) (evs : List HEv) : (hrun s evs).1.vs = s.vs := by
  induction evs generalizing s with
  | nil => rfl
  | cons e r ih => rw [hrun_cons]; exact (ih _).trans (hstep_vs s e)

/-- After ANY history the candidate is approved iff the node is an alphabet
    node now, the script halts, the structure converts and EVERY configured validator accepts
    what the candidate announces in the world as it is now -/
theorem history_approve_iff (s : HSt) (pre : List HEv) (halts : Bool) (c : Cand) :
    (∃ n, (hstep (hrun s pre).1 (.addNode halts c)).2 = .admission .approved n) ↔
      (hrun s pre).1.ep.alphabet = true ∧ halts = true ∧ c.convertible = true ∧
      ∀ v ∈ s.vs, v.ok (view (hrun s pre).1.w c) = true := by
  rw [← vs_constant s pre, ← approve_iff_all_validators]
  simp only [hstep, HOut.admission.injEq, exists_and_left, exists_eq', and_true]

/-- the same candidate announced twice in a row gets the same verdict (approval is not sticky,
    rejection is not sticky) -/
theorem repeated_candidate_same_verdict (s : HSt) (halts : Bool) (c c' : Cand) (halts' : Bool) :
    (hrun s [.addNode halts' c', .addNode halts c]).2.getLast? = some (hstep s (.addNode halts c)).2 := rfl

/-- the epoch part of a history runs exactly as the epoch model on the epoch events of the
    history: admissions, peer updates and world changes in between change neither the counter,
    nor the alphabet flag, nor the requests made -/
theorem history_epoch_refines (s : HSt) (evs : List HEv) :
    (hrun s evs).1.ep = (run s.ep (evs.filterMap HEv.toEv)).1 ∧
    (hrun s evs).2.flatMap HOut.reqs = (run s.ep (evs.filterMap HEv.toEv)).2 := by
  induction evs generalizing s with
  | nil => exact ⟨rfl, rfl⟩
  | cons e r ih =>
    obtain ⟨ih1, ih2⟩ := ih (hstep s e).1
    obtain ⟨h1, h2⟩ := hstep_epoch s e
    rw [hrun_cons, List.flatMap_cons, ih1, ih2, h1, h2]
    cases hev : e.toEv with
    | none => rw [List.filterMap_cons_none hev]; exact ⟨rfl, rfl⟩
    | some ev => rw [List.filterMap_cons_some hev]; exact ⟨rfl, rfl⟩

/-- Inside ANY history (admissions and world changes included) a tick of an alphabet node
    requests exactly the epoch after the last notified one, once -/
theorem history_tick_requests_next_epoch (s : HSt) (pre : List HEv) :
    (hstep (hrun s pre).1 .tick).2 =
      .requests (if alphabetAfter s.ep.alphabet (pre.filterMap HEv.toEv)
                 then [lastNotified s.ep.counter (pre.filterMap HEv.toEv) + 1] else []) := by
  have h2 := state_after s.ep (pre.filterMap HEv.toEv)
  rw [← h2.1, ← h2.2, ← (history_epoch_refines s pre).1]
  rfl

/-- the network map snapshot after a processed notification is the contract's map of that moment
    (when it could be read; otherwise the snapshot is kept), and placements are updated exactly
    when the snapshot changed on an alphabet node -/
theorem snapshot_after_newEpoch (s : HSt) (e : Nat) :
    (hstep s (.newEpoch e)).1.curMap = (if s.chainDown then s.curMap else s.chain) ∧
    (hstep s (.newEpoch e)).2 =
      (if s.chainDown then .epoch false false else .epoch (s.curMap != s.chain && s.ep.alphabet) true) := by
  rw [hstep]
  split <;> exact ⟨rfl, rfl⟩

/-- The network map snapshot plays no role in admission: a node that is in the snapshot is validated
    like any other -/
theorem admission_ignores_snapshot (s : HSt) (m ch : List Nat) (d : Bool) (halts : Bool) (c : Cand) :
    (hstep { s with curMap := m, chain := ch, chainDown := d } (.addNode halts c)).2 = (hstep s (.addNode halts c)).2 := rfl

/-! ### non-vacuity -/

def goodNode : Node :=
  { state := .online, addrsOk := [true, true], attrKeys := ["Price", "UN-LOCODE"], reachable := true, hasDomain := true,
    keyPresent := true, nnsAnswer := 0, hasLocode := true, locodeKnown := true,
    locodeFields := [true, true, true, true, true, true], externalOk := true }

example : processAddNode true true true [.state, .structure, .availability, .privateDomains, .locode, .external] goodNode = .approved := by decide
example : processAddNode true true true [.state, .structure, .availability, .privateDomains, .locode] { goodNode with nnsAnswer := 1 } = .rejected 3 := by decide
example : processAddNode true true true [.locode, .state] { goodNode with state := .offline, locodeFields := [true, false] } = .rejected 0 := by decide
example : processAddNode true false true [.state] goodNode = .badScript := by decide
example : processAddNode false true true [.state] goodNode = .ignored := by decide
example : (run ⟨7, true, 0⟩ [.tick, .newEpoch 8, .tick, .setAlphabet false, .tick, .newEpoch 12, .setAlphabet true, .tick]).2 = [8, 9, 13] := by decide
example : (run ⟨7, false, 0⟩ [.tick, .newEpoch 8, .tick]).2 = [] := by decide

/-! non-vacuity of the history statements: one key approved, then claiming a domain it has no record for (rejected by
    validator 3), then the record appears; a node that stopped answering is rejected with the very descriptor approved before -/
def histCand : Cand :=
  { key := 2, state := .online, addrsOk := [true], attrKeys := ["Price"], attrVal := 0, domain := 0,
    hasLocode := false, locodeKnown := true, locodeFields := [true, true, true, true, true, true] }
def histInit : HSt := { ep := ⟨4, true, 0⟩, vs := [.state, .structure, .availability, .privateDomains, .locode, .external] }

example : (hrun histInit [.serve 2 (some histCand), .addNode true histCand,
      .addNode true { histCand with domain := 1 },
      .serve 2 (some { histCand with domain := 1 }), .addNode true { histCand with domain := 1 },
      .setNns [(1, 2)] false, .addNode true { histCand with domain := 1 },
      .serve 2 none, .addNode true { histCand with domain := 1 },
      .tick, .setChain [2] false, .newEpoch 5, .tick, .newEpoch 6]).2 =
    [.env, .admission .approved 6, .admission (.rejected 2) 3, .env, .admission (.rejected 3) 4, .env,
     .admission .approved 6, .env, .admission (.rejected 2) 3, .requests [5], .env, .epoch true true, .requests [6],
     .epoch false true] := by decide

end NeoFS.IRNetmap
