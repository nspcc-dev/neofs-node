import NeoFS.Model.ACL
import NeoFS.Lemmas.GuardChain
/-!
# C28 — object access decisions follow basic ACL, sticky bit, eACL and bearer rules

`Model/ACL.lean` transcribes the decision procedure of the code (`decide`). This file states the rules of the
property as a declarative reference (`Spec`, `TableDenies`: existential "first applicable record decides") and proves that
the procedure and the reference agree for ALL requests, containers, tables, header sets and tokens.
-/
namespace NeoFS.ACL

/-! ## Reference: when does a table deny -/

/-- a record takes no part: other operation / no target hit, or one of its filters misses -/
def RecordSilent (s : Subject) (h : HdrSrc) (r : Record) : Prop :=
  applies s r = false ∨ filtersRes h r.filters = .miss

/-- a record forbids: it applies, and its filters all hit with an action other than ALLOW, or cannot be evaluated -/
def RecordDenies (s : Subject) (h : HdrSrc) (r : Record) : Prop :=
  applies s r = true ∧ (filtersRes h r.filters = .err ∨ (filtersRes h r.filters = .hit ∧ r.action ≠ 1))

/-- The table denies the request: the FIRST record that is not silent forbids. -/
def TableDenies (s : Subject) (h : HdrSrc) (t : Table) : Prop :=
  ∃ pre r post, t = pre ++ r :: post ∧ (∀ x ∈ pre, RecordSilent s h x) ∧ RecordDenies s h r

theorem calc_of_silent {s h r rs} (hs : RecordSilent s h r) : calcAction s h (r :: rs) = calcAction s h rs := by
  rcases hs with hs | hs <;> simp [calcAction, hs]

theorem calc_cons_denies_iff (s : Subject) (h : HdrSrc) (r : Record) (rs : Table) :
    (calcAction s h (r :: rs) = .deny ∨ calcAction s h (r :: rs) = .err) ↔
      RecordDenies s h r ∨ (RecordSilent s h r ∧ (calcAction s h rs = .deny ∨ calcAction s h rs = .err)) := by
  unfold RecordDenies RecordSilent
  rw [calcAction]
  cases applies s r with
  | false => simp
  | true =>
    cases filtersRes h r.filters with
    | hit => by_cases ha : r.action = 1 <;> simp [ha]
    | miss => simp
    | unknown => simp
    | err => simp

theorem calc_of_denies {s h r rs} (hd : RecordDenies s h r) :
    calcAction s h (r :: rs) = .deny ∨ calcAction s h (r :: rs) = .err :=
  (calc_cons_denies_iff s h r rs).mpr (.inl hd)

theorem tableDenies_cons (s : Subject) (h : HdrSrc) (r : Record) (rs : Table) :
    TableDenies s h (r :: rs) ↔ RecordDenies s h r ∨ (RecordSilent s h r ∧ TableDenies s h rs) := by
  constructor
  · rintro ⟨pre, x, post, he, hpre, hx⟩
    cases pre with
    | nil => cases he; exact .inl hx
    | cons p ps =>
      cases he
      exact .inr ⟨hpre _ List.mem_cons_self, ps, x, post, rfl, fun y hy => hpre y (List.mem_cons_of_mem _ hy), hx⟩
  · rintro (hd | ⟨hs, pre, x, post, rfl, hpre, hx⟩)
    · exact ⟨[], r, rs, rfl, nofun, hd⟩
    · exact ⟨r :: pre, x, post, rfl, List.forall_mem_cons.mpr ⟨hs, hpre⟩, hx⟩

/-- **First-match theorem.** For every subject, header source and table (induction over the record list):
`CalculateAction` ends in DENY or an error exactly when the first non-silent record of the table forbids. -/
theorem calc_denies_iff (s : Subject) (h : HdrSrc) (t : Table) :
    (calcAction s h t = .deny ∨ calcAction s h t = .err) ↔ TableDenies s h t := by
  induction t with
  | nil =>
    constructor
    · intro hc; simp [calcAction] at hc
    · rintro ⟨pre, r, post, he, _, _⟩; simp at he
  | cons r rs ih => rw [calc_cons_denies_iff, tableDenies_cons, ih]

/-- no record of the table applies (or all miss) ⇒ the default: follow the basic ACL -/
theorem calc_default_allow (s : Subject) (h : HdrSrc) (t : Table) (hall : ∀ x ∈ t, RecordSilent s h x) :
    calcAction s h t = .allow := by
  induction t with
  | nil => rfl
  | cons r rs ih =>
    rw [calc_of_silent (hall r List.mem_cons_self)]
    exact ih (fun x hx => hall x (List.mem_cons_of_mem _ hx))

/-! ## Reference: the property's rules -/

/-- the bearer token is correctly issued for THIS request: signed by its issuer, within its lifetime, issued by the
container owner, for this container (or none) and for this requester (or anybody) -/
def bearerValid (r : Req) (b : Bearer) : Bool :=
  bearerTokenOK b r.cur && bearerForRequest b r.cnrOwner r.cnr r.author

/-- The table the property names: the bearer token's table when the token is valid for the request and bearer rules are
allowed for the operation, the container's stored table otherwise. -/
def applicable (r : Req) : Stored :=
  match r.bearer with
  | some b => if bearerValid r b && bearerAllowed r.basic (effOp r) then .table b.table else r.stored
  | none => r.stored

def StoredDenies (r : Req) : Stored → Prop
  | .table t => TableDenies (subject r) r.hdrs t
  | .notFound => False
  | .error => True      -- the table cannot be read: nothing shows that it does not deny

/-- The property's necessary conditions for serving a request. -/
structure Spec (r : Req) : Prop where
  /-- the basic ACL allows the operation for the requester's role -/
  basic : isOpAllowed r.basic (effOp r) (classify r) = true
  /-- puts to sticky containers: the object owner is the requester (container nodes are exempt) -/
  stickyRule : r.isPut = true → sticky r.basic = true → classify r ≠ .container → r.keyUser = some r.objOwner
  /-- extendable ACL: the applicable table does not deny (system roles are governed by the basic ACL only) -/
  eacl : extendable r.basic = true → isSystem (classify r) = false → ¬ StoredDenies r (applicable r)

/-- what the code demands in addition: a bearer token that is attached must be valid for the request
(an invalid one is not ignored — the request is rejected) -/
def TokenAcceptable (r : Req) : Prop := ∀ b, r.bearer = some b → bearerValid r b = true

theorem tokenAcceptable_iff (r : Req) : TokenAcceptable r ↔ (tokenBad r = false ∧ bearerMismatch r = false) := by
  unfold TokenAcceptable tokenBad bearerMismatch bearerValid
  cases r.bearer with
  | none => simp
  | some b => simp

theorem evalStored_denies_iff (r : Req) (s : Stored) :
    (evalStored r s = .denied ∨ evalStored r s = .err) ↔ StoredDenies r s := by
  cases s with
  | table t =>
    simp only [evalStored, StoredDenies]
    rw [← calc_denies_iff]
    cases calcAction (subject r) r.hdrs t <;> simp [Calc.toEACL]
  | notFound => simp [evalStored, StoredDenies]
  | error => simp [evalStored, StoredDenies]

theorem consulted_eq_applicable_of_acceptable (r : Req) (hv : TokenAcceptable r) : consulted r = applicable r := by
  unfold consulted applicable bearerUsed
  cases hb : r.bearer with
  | none => simp
  | some b =>
    have := hv b hb
    by_cases hba : bearerAllowed r.basic (effOp r) = true <;> simp [hba, this]

theorem checkEACL_denies_iff (r : Req) (hv : TokenAcceptable r) :
    (checkEACL r = .denied ∨ checkEACL r = .err) ↔
      (extendable r.basic = true ∧ isSystem (classify r) = false ∧ StoredDenies r (applicable r)) := by
  unfold checkEACL
  by_cases hx : extendable r.basic = true
  · by_cases hsys : isSystem (classify r) = true
    · simp [hx, hsys]
    · have hsys' : isSystem (classify r) = false := by simpa using hsys
      simp only [hx, hsys', Bool.not_true, Bool.false_eq_true, if_false, true_and]
      rw [consulted_eq_applicable_of_acceptable r hv]
      exact evalStored_denies_iff r _
  · have hx' : extendable r.basic = false := by simpa using hx
    simp [hx']

theorem stickyRule_iff (r : Req) :
    (r.isPut && !stickyOK r) = false ↔
      (r.isPut = true → sticky r.basic = true → classify r ≠ .container → r.keyUser = some r.objOwner) := by
  -- with `stickyOK` unfolded the two sides differ in the order of the two premises
  cases r.isPut with
  | false => simp
  | true => simpa [stickyOK] using imp.swap

theorem served_iff (r : Req) :
    (decide r).served = true ↔
      tokenBad r = false ∧ skipCond r = false ∧ bearerMismatch r = false ∧
      isOpAllowed r.basic (effOp r) (classify r) = true ∧
      (r.isPut = true → sticky r.basic = true → classify r ≠ .container → r.keyUser = some r.objOwner) ∧
      ¬ (checkEACL r = .denied ∨ checkEACL r = .err) := by
  unfold decide
  simp only [apply_ite Decision.served]
  rw [ite_eq_iff_of_ne (by decide), ite_eq_iff_of_ne (by decide), ite_eq_iff_of_ne (by decide), ite_eq_iff_of_ne (by decide),
    ite_eq_iff_of_ne (by decide)]
  simp only [Bool.not_eq_true, Bool.not_eq_true', Bool.not_eq_false, stickyRule_iff]
  refine and_congr_right fun _ => and_congr_right fun _ => and_congr_right fun _ => and_congr_right fun _ =>
    and_congr_right fun _ => ?_
  cases checkEACL r <;> simp [Decision.served]

/-- **decide = spec.** For every request that is not relayed: the handler serves it (at once, or pending the re-check
with the object header) exactly when the property's rules hold and the attached bearer token, if any, is valid for it. -/
theorem decide_eq_spec (r : Req) (hns : skipCond r = false) :
    (decide r).served = true ↔ (Spec r ∧ TokenAcceptable r) := by
  rw [served_iff]
  constructor
  · rintro ⟨ht, _, hm, hb, hst, he⟩
    have hv := (tokenAcceptable_iff r).mpr ⟨ht, hm⟩
    exact ⟨⟨hb, hst, fun hx hsys hd => he ((checkEACL_denies_iff r hv).mpr ⟨hx, hsys, hd⟩)⟩, hv⟩
  · rintro ⟨⟨hb, hst, he⟩, hv⟩
    obtain ⟨ht, hm⟩ := (tokenAcceptable_iff r).mp hv
    exact ⟨ht, hns, hm, hb, hst, fun h =>
      have ⟨hx, hsys, hd⟩ := (checkEACL_denies_iff r hv).mp h
      he hx hsys hd⟩

/-- **The property as stated ("served only if …").** Every request this node serves satisfies the three rules. -/
theorem served_only_if_rules (r : Req) (hns : skipCond r = false) (h : (decide r).served = true) : Spec r :=
  ((decide_eq_spec r hns).mp h).1

/-- basic bit unset ⇒ never served, whatever the eACL tables, headers and bearer token say -/
theorem basic_unset_denies (r : Req) (hns : skipCond r = false)
    (hb : isOpAllowed r.basic (effOp r) (classify r) = false) : (decide r).served = false :=
  Bool.eq_false_iff.mpr fun hs => Bool.false_ne_true (hb.symm.trans (served_only_if_rules r hns hs).basic)

theorem sticky_violation_denies (r : Req) (hns : skipCond r = false) (hp : r.isPut = true)
    (hs : sticky r.basic = true) (hc : classify r ≠ .container) (ho : r.keyUser ≠ some r.objOwner) :
    (decide r).served = false :=
  Bool.eq_false_iff.mpr fun hsv => ho ((served_only_if_rules r hns hsv).stickyRule hp hs hc)

/-- an attached bearer token that is not valid for the request is never ignored: the request is rejected -/
theorem invalid_bearer_rejects (r : Req) (b : Bearer) (hb : r.bearer = some b) (hns : skipCond r = false)
    (hinv : bearerValid r b = false) : (decide r).served = false :=
  Bool.eq_false_iff.mpr fun hsv => Bool.false_ne_true (hinv.symm.trans (((decide_eq_spec r hns).mp hsv).2 b hb))

/-- the bearer table replaces the container's table only when the token is valid for the request and bearer rules are
allowed for the operation; in every served request the consulted table is the one the property names -/
theorem consulted_eq_applicable (r : Req) (hns : skipCond r = false) (h : (decide r).served = true) :
    consulted r = applicable r :=
  consulted_eq_applicable_of_acceptable r ((decide_eq_spec r hns).mp h).2

theorem consulted_bearer_iff (r : Req) (b : Bearer) (hb : r.bearer = some b) :
    consulted r = (if bearerAllowed r.basic (effOp r) then .table b.table else r.stored) := by
  unfold consulted bearerUsed
  by_cases hba : bearerAllowed r.basic (effOp r) = true <;> simp [hba, hb]

theorem consulted_of_not_allowed (r : Req) (hna : bearerAllowed r.basic (effOp r) = false) : consulted r = r.stored := by
  simp [consulted, bearerUsed, hna]

/-- with bearer rules off for the operation the decision reads the token only through the two token checks -/
theorem decide_bearer_irrelevant (r : Req) (b' : Option Bearer) (hna : bearerAllowed r.basic (effOp r) = false)
    (ht : tokenBad { r with bearer := b' } = tokenBad r) (hm : bearerMismatch { r with bearer := b' } = bearerMismatch r) :
    decide { r with bearer := b' } = decide r := by
  have hchk : checkEACL { r with bearer := b' } = checkEACL r := by
    unfold checkEACL
    rw [consulted_of_not_allowed r hna, consulted_of_not_allowed { r with bearer := b' } hna]
    rfl
  unfold decide
  rw [ht, hm, hchk]
  rfl

/-- bearer rules not allowed for the operation ⇒ the token's table has no influence on the decision -/
theorem bearer_table_ignored_when_not_allowed (r : Req) (b : Bearer) (t' : Table) (hb : r.bearer = some b)
    (hna : bearerAllowed r.basic (effOp r) = false) :
    decide { r with bearer := some { b with table := t' } } = decide r := by
  apply decide_bearer_irrelevant r _ hna
  · simp [tokenBad, hb, bearerTokenOK]
  · simp [bearerMismatch, hb, bearerForRequest]

/-- system roles (inner ring, container nodes) and FINAL containers: the eACL machinery is not consulted at all -/
theorem system_role_ignores_eacl (r : Req) (hsys : isSystem (classify r) = true) : checkEACL r = .ok := by
  unfold checkEACL; simp [hsys]

theorem final_ignores_eacl (r : Req) (hf : extendable r.basic = false) : checkEACL r = .ok := by
  unfold checkEACL; simp [hf]

theorem system_role_rule (r : Req) (hsys : isSystem (classify r) = true) (hns : skipCond r = false)
    (hnb : r.bearer = none) :
    (decide r).served = (isOpAllowed r.basic (effOp r) (classify r) && !(r.isPut && !stickyOK r)) := by
  rw [Bool.eq_iff_iff, served_iff, ← stickyRule_iff, system_role_ignores_eacl r hsys]
  cases r.isPut <;> simp [tokenBad, bearerMismatch, hnb, hns]

/-- inner ring: exactly GET, HEAD, SEARCH and HASH, independent of every bit of the basic ACL and of every table -/
theorem inner_ring_rule (r : Req) (hr : classify r = .innerRing) (hns : skipCond r = false) (hnb : r.bearer = none)
    (hnp : r.isPut = false) : (decide r).served = irOp r.op := by
  have heff : effOp r = r.op := by simp [effOp, hnp]
  rw [system_role_rule r (by rw [hr]; rfl) hns hnb, heff, hr, hnp]
  simp [isOpAllowed]

/-- container nodes: the replication operations regardless of the bits, other operations by the container bit; never the
sticky rule; a tombstone replicated with TTL 1 is checked as PUT -/
theorem container_node_rule (r : Req) (hr : classify r = .container) (hns : skipCond r = false) (hnb : r.bearer = none) :
    (decide r).served = (isReplicationOp (effOp r) || opBit r.basic (effOp r) 2) := by
  rw [system_role_rule r (by rw [hr]; rfl) hns hnb, hr]
  simp [stickyOK, hr, isOpAllowed]

theorem tombstone_replication_is_put (r : Req) (hr : classify r = .container) (hp : r.isPut = true)
    (hd : r.op = .delete) (ht : r.ttl = 1) : effOp r = .put := by
  unfold effOp; simp [hp, hd, hr, ht]

/-! ## Non-vacuity: concrete requests meeting the hypotheses -/

def exTable : Table :=
  [ { action := 2, op := 1, targets := [{ role := 3, keys := [], accounts := [] }],
      filters := [{ src := 2, matcher := 1, key := "a0", val := "x" }] },
    { action := 1, op := 1, targets := [{ role := 3, keys := [], accounts := [] }], filters := [] } ]

def exReq : Req :=
  { op := .get, basic := 0x0FBFBFFF, cnr := 1, cnrOwner := 1, author := 2, key := 2, keyUser := some 2,
    inIR := false, inCnr := some false, stored := .table exTable,
    hdrs := { req := [], obj := [{ key := "a0", val := "x" }] } }

/-- others + GET on eacl-public-read-write with a DENY record whose filter hits: denied by eACL -/
example : decide exReq = .denyEACL := rfl
/-- same request, the attribute differs: the second (ALLOW) record decides -/
example : decide { exReq with hdrs := { req := [], obj := [{ key := "a0", val := "y" }] } } = .allow := rfl
/-- object header not at hand yet: served pending the re-check -/
example : decide { exReq with hdrs := { req := [], obj := [], objComplete := false } } = .allowRecheck := rfl
example : TableDenies (subject exReq) exReq.hdrs exTable :=
  ⟨[], _, _, rfl, by simp, by unfold RecordDenies; decide⟩
/-- a valid bearer token from the owner with an empty table overrides the stored DENY -/
def exBearer : Bearer :=
  { issuer := 1, signer := some 1, sigOK := true, nbf := 0, iat := 0, exp := 10, cnr := some 1, target := some 2, table := [] }
example : decide { exReq with bearer := some exBearer, cur := 5 } = .allow := rfl
/-- … but not when it is expired, issued by somebody else, or bearer rules are switched off for GET -/
example : decide { exReq with bearer := some exBearer, cur := 11 } = .denyToken := rfl
example : decide { exReq with bearer := some { exBearer with issuer := 3, signer := some 3 }, cur := 5 } = .denyBearer := rfl
example : decide { exReq with bearer := some exBearer, cur := 5, basic := 0x0FBFBFFE } = .denyEACL := rfl
/-- sticky container, others put an object owned by somebody else -/
example : decide { exReq with op := .put, isPut := true, basic := 0x2FBFBFFF, objOwner := 3 } = .denySticky := rfl
example : skipCond exReq = false := rfl

end NeoFS.ACL
