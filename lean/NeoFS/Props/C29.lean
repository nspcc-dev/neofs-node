import NeoFS.Gen.Handlers
import NeoFS.Lemmas.Handlers
/-!
# C29 — every object RPC checks authenticity and access before any effect

The handler terms `Gen.objectHandlers` are regenerated from `/repo`'s working tree on every check run by
`harness/extract` (every method of `protoobject.ObjectServiceServer` plus every exported method of the
server with the parameter list of one of them, so a new RPC appears here automatically). The theorems below
are about ALL runs of each term: any outcome of every check, any branch decision consistent with those
outcomes, any number of loop iterations (semantics `Handlers.Run`, soundness `Handlers.checker_sound`).
Policies are written over `lastOutcomes pre`: the latest outcome of every check in the history that precedes
the effect (`Lemmas/Handlers.lean` proves that the packed state the checker computes with is exactly that).
-/
open NeoFS.Handlers
namespace NeoFS.C29

/-- What must hold when a client-facing object handler performs an effect (`g t` = latest outcome of check
`t` so far, `none` = not called).

* building/sending a typed response is always allowed (refusals are answered with a status);
* continuing or closing a PUT stream (`putCont`) is allowed only if no check of this stream has been denied
  (the stream is opened by an init message that passed all checks; putsvc.Streamer itself refuses chunks
  before a successful Init — assumption, exercised by the `rpc` engine);
* anything that reaches storage, another node, or writes data into the response stream requires: the request
  signatures verified (latest outcome `pass`), no token of the request refused (absent = the request carried
  none), and either request classification passed + basic ACL passed + sticky bit not refused + extended ACL
  `pass`/`soft` (no matching rule: basic ACL decides), or request classification said "skip" (`soft`:
  ErrSkipRequest, which only the PUT path accepts; every other handler treats it as a failure);
* control-plane effects never happen in object handlers. -/
def clientPolicyV : Eff → (Tag → Option Out) → Bool := fun e g =>
  match e with
  | .respond => true
  | .ctl => false
  | .putCont =>
    [Tag.sig, .maint, .token, .reqInfo, .basic, .sticky, .eacl].all fun t => g t != some .deny
  | _ =>
    g .sig == some .pass && (g .token == none || g .token == some .pass) &&
      ((g .reqInfo == some .pass && g .basic == some .pass &&
          (g .sticky == none || g .sticky == some .pass) &&
          (g .eacl == some .pass || g .eacl == some .soft)) ||
        g .reqInfo == some .soft)

/-- `Replicate` is a node-to-node call with its own authentication: the object signature must verify and both
container-node lookups must have succeeded before the object is stored (who is a container node is C31). -/
def replicatePolicyV : Eff → (Tag → Option Out) → Bool := fun e g =>
  match e with
  | .respond => true
  | .storage => g .objSig == some .pass && g .cnrSrv == some .pass && g .cnrCli == some .pass
  | _ => false

/-- Handlers that are not client operations. Every other handler of the service — including any handler
added later — must satisfy the client policy. -/
def nonClient : List String := ["Replicate"]

def policyForV (name : String) : Eff → (Tag → Option Out) → Bool :=
  if name ∈ nonClient then replicatePolicyV else clientPolicyV

/-- PUT additionally applies the sticky-bit check whenever it applies the basic ACL. -/
def putStickyPolicyV : Eff → (Tag → Option Out) → Bool := fun e g =>
  match e with
  | .storage => g .reqInfo == some .soft || g .sticky == some .pass
  | _ => true

end NeoFS.C29

namespace NeoFS.C45

/-- Storage, forwarding and data effects of a client handler need a maintenance check whose latest answer is
"not in maintenance"; continuing/closing a PUT stream needs that no maintenance check of the stream answered
"in maintenance" (a stream closed before its first message is handed to the Streamer unchecked; the Streamer
refuses it as uninitialised — the assumption recorded under C29). The requirement of C45; it stands here because
the checker is run once per handler. -/
def maintPolicyV : Eff → (Tag → Option Out) → Bool := fun e g =>
  match e with
  | .respond => true
  | .putCont => g .maint != some .deny
  | _ => g .maint == some .pass

end NeoFS.C45

namespace NeoFS.C29

def objectPolicyV (name : String) : Eff → (Tag → Option Out) → Bool := fun e g =>
  policyForV name e g && (name != "Put" || putStickyPolicyV e g) && (name ∈ nonClient || C45.maintPolicyV e g)

theorem objectPolicyV_spec {name : String} {e : Eff} {g : Tag → Option Out} (h : objectPolicyV name e g = true) :
    policyForV name e g = true ∧ (name = "Put" → putStickyPolicyV e g = true) ∧
      (name ∉ nonClient → C45.maintPolicyV e g = true) := by
  simpa [objectPolicyV, and_assoc, Decidable.imp_iff_not_or] using h

/-- The checker accepts every generated object handler under its policy (kernel evaluation). A handler added
to the service is in `Gen.objectHandlers` and therefore under this obligation. -/
theorem handlers_meet_objectPolicyV :
    ∀ h ∈ Gen.objectHandlers, checker (Policy.ofView (objectPolicyV h.1)) h.2 = true := by
  decide +kernel

theorem all_handlers_checked :
    ∀ h ∈ Gen.objectHandlers, checker (Policy.ofView (policyForV h.1)) h.2 = true :=
  fun h hh => checker_mono (fun _ _ hp => (objectPolicyV_spec hp).1) (handlers_meet_objectPolicyV h hh)

/-- **C29, static part.** On every run of every object service handler of the current program, every effect
is preceded by a history in which the checks the handler's policy requires were evaluated with a passing
latest result: signatures, tokens, request classification, basic and extended ACL come before any storage
read/write, forwarding or data-carrying response. -/
theorem effects_follow_checks :
    ∀ h ∈ Gen.objectHandlers, ∀ (evs : List Event) (x : Option Nat), Run allOuts h.2 St.init evs x →
      ∀ (pre post : List Event) (e : Eff), evs = pre ++ Event.effect e :: post →
        policyForV h.1 e (lastOutcomes pre) = true :=
  fun h hh _ _ hr _ _ _ hs => checker_sound_view (all_handlers_checked h hh) hr hs

/-- A failed check is followed by nothing but the answer: after a denied signature check (and no later,
passing one) no storage, forwarding or data effect can occur in a client handler. -/
theorem denied_signature_blocks_effects :
    ∀ h ∈ Gen.objectHandlers, h.1 ∉ nonClient → ∀ (evs : List Event) (x : Option Nat),
      Run allOuts h.2 St.init evs x → ∀ (pre post : List Event) (e : Eff), evs = pre ++ Event.effect e :: post →
        lastOutcomes pre .sig = some .deny → e = .respond := by
  intro h hh hn evs x hr pre post e hs hd
  have hp := effects_follow_checks h hh evs x hr pre post e hs
  rw [policyForV, if_neg hn] at hp
  cases e with
  | respond => rfl
  | _ => simp [clientPolicyV, hd] at hp

theorem put_applies_sticky_bit :
    ∀ h ∈ Gen.objectHandlers, h.1 = "Put" → checker (Policy.ofView putStickyPolicyV) h.2 = true :=
  fun h hh hn => checker_mono (fun _ _ hp => (objectPolicyV_spec hp).2.1 hn) (handlers_meet_objectPolicyV h hh)

/-- Non-vacuity: the checker is not trivially true. A handler that reads storage right after the signature
check (no ACL) is rejected, so is one that performs the effect before the check; the accepted shape is. -/
example : checker (Policy.ofView clientPolicyV) (.seq (.chk .sig) (.seq (.alt (.seq (.asm .sig [.soft, .deny]) (.exit 0)) (.asm .sig [.pass]))
    (.eff .storage))) = false := by decide
example : checker (Policy.ofView clientPolicyV) (.seq (.eff .storage) (.chk .sig)) = false := by decide
example : checker (Policy.ofView clientPolicyV)
    (.scope (.seq (.chk .sig) (.seq (.alt (.seq (.asm .sig [.soft, .deny]) (.exit 0)) (.asm .sig [.pass]))
      (.seq (.chk .reqInfo) (.seq (.alt (.seq (.asm .reqInfo [.soft, .deny]) (.exit 0)) (.asm .reqInfo [.pass]))
        (.seq (.chk .basic) (.seq (.alt (.seq (.asm .basic [.deny]) (.exit 0)) (.asm .basic [.pass]))
          (.seq (.chk .eacl) (.seq (.alt (.seq (.asm .eacl [.deny]) (.exit 0)) (.asm .eacl [.pass, .soft]))
            (.eff .storage)))))))))) = true := by decide
/-- Non-vacuity of the semantics: the accepted shape has a run that reaches the effect. -/
example : Run allOuts (.seq (.chk .sig) (.seq (.asm .sig [.pass]) (.eff .storage))) St.init
    ([.check .sig .pass] ++ ([] ++ [.effect .storage])) none :=
  .seqN (.chk (by decide)) (.seqN (.asm (by intro o h; cases h; decide)) .eff)
/-- The handlers in which the checker finds a real effect (`post … = none`; not a proof that such a run exists). -/
example : (Gen.objectHandlers.filter fun h => reachesEffect [] h.2).map (·.1) =
    ["Delete", "Get", "GetRange", "HeadBuffered", "Put", "Replicate", "SearchV2Buffered"] := by decide +kernel

end NeoFS.C29
