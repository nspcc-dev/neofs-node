import NeoFS.Model.ReqAuth
import NeoFS.Lemmas.GetRelay
/-!
# C29, second part — who a request is authenticated as, and the header-time eACL re-check of GET

The handler skeletons (`Props/C29.lean`) say that the signature check and the access checks come before every
effect. These theorems are about what those two stages decide where the decision is made OUTSIDE the handler body:

* `internal/crypto.requestNeedsSignature` + `acl/v2.getRequestCredentials` (model `ReqAuth`): the identity the
  access-control stage is asked about is always an authenticated one, for EVERY request (any TLS state, any TTL,
  any verification header, any session token issuer);
* the GET relay `getProxyContext` and the storage header interceptor (model `GetRelay`): for EVERY sequence of
  answers of EVERY number of remote nodes, nothing of the object is written to the client before the eACL was
  evaluated against the header with a verdict other than "deny", when the request-time evaluation was inconclusive.

The tie of both models to the code is the correspondence run of engine `rpc` (ops `auth`, `relay`).
-/
namespace NeoFS.C29
open NeoFS

section auth
open ReqAuth
variable {κ : Type}

/-- The signatures may be skipped only for a request WITHOUT a verification header, with TTL 1, from a TLS peer. -/
theorem skip_only_without_header (r : Req κ) (h : needsSignature r = false) :
    r.vh = none ∧ r.ttl = some 1 ∧ r.tls.isSome = true := by
  cases hv : r.vh with
  | some p => simp [needsSignature, hv] at h
  | none => simpa [needsSignature, hv] using h

theorem authenticate_header (r : Req κ) {k : κ} {valid : Bool} (h : r.vh = some (k, valid)) :
    authenticate r = if valid then (match r.tok with | some kt => .identity kt .token | none => .identity k .header)
      else .badSignature := by
  cases valid <;> cases ht : r.tok <;> simp [authenticate, signatureStage, needsSignature, credentials, h, ht]

theorem authenticate_no_header (r : Req κ) (h : r.vh = none) :
    authenticate r = match r.ttl, r.tls with
      | some 1, some k => .identity k .peer
      | _, _ => .badSignature := by
  by_cases ht : r.ttl = some 1 <;> cases hl : r.tls <;>
    simp [authenticate, signatureStage, needsSignature, credentials, h, ht, hl]

/-- A verification header that does not verify is refused whatever the connection and the TTL are. -/
theorem wrong_header_is_refused (r : Req κ) (k : κ) (h : r.vh = some (k, false)) :
    authenticate r = .badSignature := by
  rw [authenticate_header r h]
  rfl

/-- A request without a verification header is refused unless it is a one-hop request of a TLS peer. -/
theorem missing_header_is_refused (r : Req κ) (h : r.vh = none) (h' : r.ttl ≠ some 1 ∨ r.tls = none) :
    authenticate r = .badSignature := by
  rw [authenticate_no_header r h]
  split
  · next h1 h2 => rcases h' with h' | h' <;> simp_all
  · rfl

theorem identity_cases (r : Req κ) (k : κ) (s : Source) (h : authenticate r = .identity k s) :
    (s = .header ∧ r.vh = some (k, true)) ∨ (s = .peer ∧ r.vh = none ∧ r.ttl = some 1 ∧ r.tls = some k) ∨
      (s = .token ∧ r.tok = some k ∧ ∃ k', r.vh = some (k', true)) := by
  cases hv : r.vh with
  | none =>
    rw [authenticate_no_header r hv] at h
    split at h <;> simp_all
  | some p =>
    obtain ⟨kh, valid⟩ := p
    rw [authenticate_header r hv] at h
    cases valid <;> cases ht : r.tok <;> simp_all

/-- **The identity handed to access control is authenticated**, for every request: it made a verification header
whose signatures all verify, or it is the TLS key of a header-less one-hop request, or it issued the session
token of a request whose header verifies. -/
theorem identity_is_authenticated (r : Req κ) (k : κ) (s : Source) (h : authenticate r = .identity k s) :
    AuthenticatedAs r k := by
  rcases identity_cases r k s h with ⟨_, hv⟩ | ⟨_, hp⟩ | ⟨_, ht⟩
  · exact Or.inl hv
  · exact Or.inr (Or.inl hp)
  · exact Or.inr (Or.inr ht)

/-- The key named by a header is used only if that header verifies: naming somebody else's key is useless. -/
theorem header_identity_needs_valid_header (r : Req κ) (k : κ) (h : authenticate r = .identity k .header) :
    r.vh = some (k, true) := by
  rcases identity_cases r k .header h with ⟨_, hv⟩ | ⟨hs, _⟩ | ⟨hs, _⟩
  · exact hv
  · cases hs
  · cases hs

/-- Non-vacuity: all three ways of being authenticated occur, and the forged request of the TLS peer is refused. -/
example : authenticate ({ tls := none, ttl := some 2, vh := some ("owner", true) } : Req String) = .identity "owner" .header := rfl
example : authenticate ({ tls := some "node", ttl := some 1, vh := none } : Req String) = .identity "node" .peer := rfl
example : authenticate ({ tls := none, ttl := some 2, vh := some ("gate", true), tok := some "owner" } : Req String) =
    .identity "owner" .token := rfl
example : authenticate ({ tls := some "stranger", ttl := some 1, vh := some ("owner", false) } : Req String) = .badSignature := rfl
example : authenticate ({ tls := some "stranger", ttl := some 2, vh := none } : Req String) = .badSignature := rfl

end auth

section relay
open GetRelay

/-- **No object data before a good header evaluation.** If the request-time eACL evaluation was inconclusive
(`recheck`), then for every number of remote nodes and every sequence of messages each of them answers, every
message written to the client (heading part or payload chunk) comes after an evaluation of the eACL against the
object header whose verdict was not "deny" — whether or not the client asked for the payload only. -/
theorem relay_data_after_good_check (c : Cfg) (hr : c.recheck = true) :
    ∀ (conns : List (List Msg)) (s : St), Inv s → okFrom false (run c s conns).1.trace = true := by
  intro conns s hi
  -- 1: no node left; 2, 3: done / denied; 4: broken, next node
  fun_induction run c s conns with
  | case1 s => exact hi.1
  | case2 s m _ s' hc | case3 s m _ s' hc =>
    have := (conn_inv c hr m s false 0 hi (fun h => nomatch h)).1
    rwa [hc] at this
  | case4 s m _ s' hc ih =>
    have := (conn_inv c hr m s false 0 hi (fun h => nomatch h)).2
    rw [hc] at this
    exact ih (this (by simp))

/-- `relay_data_after_good_check` spelled out over the trace of a whole request. -/
theorem relay_no_data_before_check (c : Cfg) (hr : c.recheck = true) (conns : List (List Msg))
    (pre post : List Ev) (e : Ev) (h : (run c {} conns).1.trace = pre ++ e :: post) (he : e.isData = true) :
    ∃ v, v ≠ Verdict.deny ∧ Ev.check v ∈ pre := by
  have hok := relay_data_after_good_check c hr conns {} (by simp [Inv, okFrom])
  rw [h] at hok
  have := okFrom_data hok he
  simp only [checked, Bool.false_or, List.any_eq_true] at this
  obtain ⟨x, hx, hg⟩ := this
  cases x with
  | check v => exact ⟨v, by simpa [Ev.isGoodCheck] using hg, hx⟩
  | sendInit => simp [Ev.isGoodCheck] at hg
  | sendChunk n => simp [Ev.isGoodCheck] at hg

/-- **A header-time denial sends nothing**: when the re-check is required and the eACL denies the object's header,
no node's answer — well-formed or not — makes the server write a heading part or a payload byte to the client. -/
theorem relay_denied_sends_nothing (c : Cfg) (hr : c.recheck = true) (hd : c.hdr = .deny) (conns : List (List Msg)) :
    ∀ e ∈ (run c {} conns).1.trace, e.isData = false := by
  intro e he
  cases hdat : e.isData with
  | false => rfl
  | true =>
    obtain ⟨pre, post, hsplit⟩ := List.append_of_mem he
    obtain ⟨v, hv, hmem⟩ := relay_no_data_before_check c hr conns pre post e hsplit hdat
    have hpre : Ev.check v ∈ (run c {} conns).1.trace := by rw [hsplit]; exact List.mem_append_left _ hmem
    have := List.all_eq_true.mp (run_onlyHdr c conns {} rfl) _ hpre
    exact absurd (by simpa [hd] using this) hv

/-- The storage path (object held locally): same guarantee from the header interceptor. -/
theorem local_data_after_good_check (c : Cfg) (hr : c.recheck = true) : okFrom false (localGet c).1 = true := by
  unfold localGet
  rw [hr]
  cases c.hdr <;> cases c.suppressInit <;> by_cases hp : c.plen > 0 <;> simp [hp, okFrom]

theorem local_denied_sends_nothing (c : Cfg) (hr : c.recheck = true) (hd : c.hdr = .deny) :
    (localGet c).2 = .denied ∧ ∀ e ∈ (localGet c).1, e.isData = false := by
  simp [localGet, hr, hd, Ev.isData]

/-- Non-vacuity: a payload-only relay of a permitted object sends the chunks after the evaluation; of a denied
one nothing; a second node is asked after a broken answer and nothing is sent twice. -/
example : (run { recheck := true, suppressInit := true, hdr := .pass, plen := 8 } {} [[.init, .chunk 4, .chunk 4]]).1.trace =
    [.check .pass, .sendChunk 4, .sendChunk 4] := by decide
example : run { recheck := true, suppressInit := true, hdr := .deny, plen := 8 } {} [[.init, .chunk 4, .chunk 4]] =
    ({ onceDone := true, responded := 0, trace := [.check .deny] }, .denied) := by decide
example : (run { recheck := true, suppressInit := false, hdr := .pass, plen := 8 } {} [[.init, .chunk 4], [.init, .chunk 4, .chunk 4]]) =
    ({ onceDone := true, responded := 8, trace := [.check .pass, .sendInit, .sendChunk 4, .sendChunk 4] }, .done) := by decide

end relay
end NeoFS.C29
