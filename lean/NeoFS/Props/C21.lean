import NeoFS.Lemmas.ECCoding
import NeoFS.Model.ECBuf
import Mathlib.Tactic.Set

/-!
# C21 — erasure coding restores the payload from any sufficient subset

`Coder` abstracts klauspost/reedsolomon; every theorem that needs it assumes `c.Lawful d p` (the
MDS-style law); `idCoder_lawful` shows the law is satisfiable for `p = 0`.
-/
namespace NeoFS.EC

/-- All parts of an encoding have the same length ⌈n/d⌉ and there are `d+p` of them. -/
theorem parts_equal_length (c : Coder) (d p : Nat) (hd : 1 ≤ d) (hc : c.Lawful d p) (payload : List Nat) :
    (encode c d p payload).length = d + p ∧
      ∀ s ∈ encode c d p payload, s.length = perShard payload.length d := by
  unfold encode
  by_cases he : payload = []
  · subst he
    simp only [if_true, List.length_replicate, true_and, List.length_nil]
    intro s hs
    have : s = [] := List.eq_of_mem_replicate hs
    subst this
    simp only [perShard, List.length_nil, Nat.zero_add]
    exact (Nat.div_eq_of_lt (by omega)).symm
  · simp only [he, if_false, Coder.allParts, List.length_append, dataParts_length,
      hc.parity_count _ (dataParts_length payload d), true_and, List.mem_append]
    rintro s (hs | hs)
    · exact length_of_mem_dataParts payload d hd s hs
    · exact hc.parity_len _ _ (length_of_mem_dataParts payload d hd) s hs

/-- Concatenating the data parts gives back exactly the payload. -/
theorem concat_split (c : Coder) (d p : Nat) (hd : 1 ≤ d) (payload : List Nat) :
    concatDataParts d payload.length (encode c d p payload) = payload := by
  unfold concatDataParts encode
  by_cases he : payload = []
  · subst he; simp
  · simp only [he, if_false, Coder.allParts]
    rw [List.take_left' (dataParts_length payload d)]
    exact dataParts_flatten_take payload d hd

/-- Any subset of at least `d` parts decodes to exactly the original payload. -/
theorem decode_any_subset (c : Coder) (d p : Nat) (hd : 1 ≤ d) (hc : c.Lawful d p) (payload : List Nat)
    (hne : payload ≠ []) (present : List Bool) (hp : present.length = d + p) (hk : d ≤ present.count true) :
    decode c d p payload.length (mask (c.allParts d p payload) present) = some payload := by
  obtain ⟨r, hr, hlen, hfill, _⟩ := hc.recon payload present
    (List.replicate d true ++ List.replicate p false) hne hp (by simp) hk
  -- the first d reconstructed parts are the data parts
  have hdat : (r.take d).map (·.getD []) = dataParts payload d := by
    apply List.ext_getElem (by simp [dataParts_length, hlen])
    intro i h1 h2
    have hi : i < d := by simpa [dataParts_length] using h2
    have h := hfill i (by omega) (Or.inr (by simp [List.getD, List.getElem?_append_left, hi]))
    rw [getElem?_allParts_data c d p payload i hi, List.getElem?_eq_getElem h2] at h
    obtain ⟨_, hri⟩ := List.getElem?_eq_some_iff.mp h
    simp [hri]
  have hsum : ((dataParts payload d).map List.length).sum = d * perShard payload.length d := by
    rw [← List.length_flatten, length_flatten_dataParts payload d hd]
  have := le_mul_perShard payload.length d hd
  rw [decode, hr]
  simp only
  rw [hdat, hsum, if_neg (by omega), dataParts_flatten_take payload d hd]

/-- Partial reconstruction restores exactly the requested parts, keeps the given ones and never produces a
wrong part. -/
theorem decode_range_exact (c : Coder) (d p : Nat) (hc : c.Lawful d p) (payload : List Nat)
    (hne : payload ≠ []) (present required : List Bool) (hp : present.length = d + p)
    (hq : required.length = d + p) (hk : d ≤ present.count true) :
    ∃ r, decodeSome c d p (mask (c.allParts d p payload) present) required = some r ∧
      (∀ i, i < d + p → (present.getD i false = true ∨ required.getD i false = true) →
        r[i]? = some ((c.allParts d p payload)[i]?)) ∧
      (∀ (i : Nat) (s : Shard), r[i]? = some (some s) → (c.allParts d p payload)[i]? = some s) := by
  obtain ⟨r, hr, _, hfill, hok⟩ := hc.recon payload present required hne hp hq hk
  exact ⟨r, hr, fun i hi h => hfill i hi h, hok⟩

/-! ### the law is satisfiable -/

/-- no parity at all (`p = 0`): reconstruction needs every part -/
def idCoder : Coder where
  parity := fun _ _ _ => []
  reconSome := fun _ _ parts _ => if parts.all Option.isSome then some parts else none

theorem idCoder_lawful (d : Nat) : idCoder.Lawful d 0 := by
  refine ⟨fun _ _ => rfl, fun _ _ _ s hs => by simp [idCoder] at hs, ?_⟩
  intro payload present required _ hp _ hk
  have hal : (idCoder.allParts d 0 payload).length = d := by simp [Coder.allParts, idCoder, dataParts_length]
  have hpres : present = List.replicate (idCoder.allParts d 0 payload).length true := by
    rw [hal, ← Nat.add_zero d, ← hp]
    have := List.count_le_length (a := true) (l := present)
    exact List.eq_replicate_of_mem fun b hb => (List.count_eq_length.mp (by omega) b hb).symm
  generalize idCoder.allParts d 0 payload = parts at hal hpres ⊢
  subst hpres
  refine ⟨parts.map some, ?_, by simp [hal], ?_, ?_⟩
  · show (if (mask parts _).all Option.isSome then some (mask parts _) else none) = _
    rw [mask_all_present]
    simp
  · intro i hi _
    rw [List.getElem?_map, List.getElem?_eq_getElem (by omega)]
    rfl
  · intro i s h
    simpa [List.getElem?_map] using h

/-! ### several rules from one buffer -/

/-- With capacity clamped to the payload length (`b[:0:payloadLen]` in `modifyECParentObject`), `Split`
never touches the buffer and every view lies inside the payload; parity always goes to fresh memory. -/
theorem split_clamped (d p : Nat) (b : Buf) (hcap : b.mem.length = b.len) (hd : 1 ≤ d) :
    (splitBuf d p b).1 = b.mem ∧
      ∀ i off, (splitBuf d p b).2[i]? = some (Sh.view off) → i < d ∧ off + perShard b.len d ≤ b.len := by
  have hnot : ¬ b.mem.length > b.len := by omega
  unfold splitBuf
  by_cases h1 : d + p = 1
  · simp only [h1, if_true, true_and]
    intro i off h
    have hd1 : d = 1 := by omega
    cases i with
    | zero =>
      simp at h; subst h; subst hd1
      simp [perShard]
    | succ j => simp at h
  simp only [h1, hnot, if_false]
  refine ⟨trivial, ?_⟩
  intro i off h
  set sz := perShard b.len d with hsz
  set nV := min (d + p) (if sz = 0 then 0 else b.len / sz) with hnV
  have hle := le_mul_perShard b.len d hd
  rw [← hsz] at hle
  by_cases hi : i < nV
  · rw [List.getElem?_append_left (by simp; exact hi)] at h
    simp only [List.getElem?_map, List.getElem?_range hi, Option.map_some, Option.some.injEq, Sh.view.injEq] at h
    subst h
    by_cases hz : sz = 0
    · simp [hnV, hz] at hi
    · have hpos : 0 < sz := by omega
      have hi2 : i < b.len / sz := by
        have : nV ≤ b.len / sz := by rw [hnV]; simp only [hz, if_false]; exact Nat.min_le_right _ _
        omega
      have hmul : (i + 1) * sz ≤ b.len := by
        have := Nat.mul_le_of_le_div sz (i + 1) b.len (by omega)
        exact this
      rw [Nat.add_mul, Nat.one_mul] at hmul
      refine ⟨?_, hmul⟩
      -- i*sz + sz ≤ len ≤ d*sz  ⇒ i < d
      exact Nat.lt_of_not_le (fun hge => by
        have : d * sz ≤ i * sz := Nat.mul_le_mul_right sz hge
        omega)
  · rw [List.getElem?_append_right (by simp; omega), List.getElem?_map] at h
    obtain ⟨x, _, hx⟩ := Option.map_eq_some_iff.mp h
    cases hx

theorem encodeBuf_no_view_write (r d p sz : Nat) (mem : List Nat) (sh : List Sh)
    (hv : ∀ (i off : Nat), sh[i]? = some (Sh.view off) → i < d) :
    (encodeBuf r d p sz mem sh).1 = mem ∧
      ∀ (i off : Nat), (encodeBuf r d p sz mem sh).2[i]? = some (Sh.view off) → sh[i]? = some (Sh.view off) := by
  unfold encodeBuf
  -- loop invariant: the memory is `mem`, every view is one of `sh`'s, hence below `d` and never written to
  refine List.foldlRecOn (motive := fun acc : List Nat × List Sh => acc.1 = mem ∧
    ∀ (i off : Nat), acc.2[i]? = some (Sh.view off) → sh[i]? = some (Sh.view off)) _ _ ⟨rfl, fun _ _ h => h⟩ ?_
  intro acc ⟨h1, h2⟩ k _
  cases hk : acc.2[d + k]? with
  | none => exact ⟨h1, h2⟩
  | some x =>
    cases x with
    | view off => exact absurd (hv (d + k) off (h2 _ _ hk)) (by omega)
    | fresh bs =>
      refine ⟨h1, fun i off hi => ?_⟩
      by_cases e : d + k = i
      · subst e
        rw [List.getElem?_set_self'] at hi
        cases hlt : acc.2[d + k]? <;> simp [hlt] at hi hk
      · rw [List.getElem?_set_ne e] at hi
        exact h2 i off hi

/-- Hence encoding one payload under any number of rules from one clamped buffer never modifies the buffer
(all views lie inside the payload, everything else is private memory); that earlier rules' shards still read
the same is the intended consequence, not stated here. -/
theorem multi_rule_independent (rules : List (Nat × Nat)) (hr : ∀ q ∈ rules, 1 ≤ q.1) :
    ∀ (r : Nat) (b : Buf), b.mem.length = b.len → (rulesBuf r rules b).1 = b.mem := by
  induction rules with
  | nil => intro r b _; rfl
  | cons q rest ih =>
    intro r b hcap
    obtain ⟨d, p⟩ := q
    have hd : 1 ≤ d := hr (d, p) (by simp)
    obtain ⟨hs1, hs2⟩ := split_clamped d p b hcap hd
    have henc := encodeBuf_no_view_write r d p (perShard b.len d) (splitBuf d p b).1 (splitBuf d p b).2
      (fun i off h => (hs2 i off h).1)
    have hmem : (ruleBuf r d p b).1 = b.mem := by
      unfold ruleBuf; simp only; rw [henc.1, hs1]
    unfold rulesBuf
    simp only
    have := ih (fun q hq => hr q (by simp [hq])) (r + 1) { b with mem := (ruleBuf r d p b).1 }
      (by simp [hmem, hcap])
    simp only at this
    rw [this, hmem]

/-- The negative side, which is why the clamp is an obligation: with spare capacity the second rule's
`Split` clears and overwrites the region that holds the first rule's parity. -/
theorem unclamped_corrupts :
    let b : Buf := { mem := [1, 2, 3, 4, 9, 9, 9, 9], len := 4 }
    let r := rulesBuf 0 [(2, 1), (1, 1)] b
    (r.2.map fun sh => sh.map (derefSh r.1 2)) ≠
      [[ [1, 2], [3, 4], [1000, 1000] ], [ [1, 2], [1100, 1100] ]] ∧
    (rulesBuf 0 [(2, 1), (1, 1)] { mem := [1, 2, 3, 4], len := 4 }).1 = [1, 2, 3, 4] := by
  decide

end NeoFS.EC
