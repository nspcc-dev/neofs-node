import NeoFS.Lemmas.Listing
import NeoFS.Lemmas.ListMerge
import NeoFS.Spec.MetaRef
import NeoFS.Props.C01
/-!
# C06 — cursor listing yields each available physical object exactly once

Shard level (`DB.ListWithCursor` = `Shard.ListWithCursor`): for every reachable metabase, every starting cursor
(also one naming a container or object that does not exist) and every sequence of page sizes, the pages are
consecutive segments of ONE strictly ascending list — the physical objects of live containers that are not
marked for removal, after the cursor — and end-of-listing is reported exactly when that list is exhausted.

Engine level (`StorageEngine.ListWithCursor`): over any shards in any visiting order one page is strictly
ascending (each address once), has at most `count` items, records for every item exactly the shards that can
list it, skips nothing (whatever a shard could list after the cursor is in the page or lies after a full
page's last item), and pages chained through the returned cursor never repeat or lose an address.
-/
namespace NeoFS.Meta
open NeoFS.Meta.Ref

/-! ## shard level -/

def DBSorted (db : DB) : Prop := db.Pairwise fun a b => a.1 < b.1

/-- everything listing may return, in address order -/
def dbListable (db : DB) : List (Nat × Nat) := db.flatMap fun b => if b.1 == 0 then [] else bucketAddrs b 0

/-- … after a cursor position -/
def dbAfter (db : DB) (cur : Nat × Nat) : List (Nat × Nat) := (dbListable db).filter (addrLt cur)

theorem setCnr_sorted (db : DB) (h : DBSorted db) (cn : Nat) (v : Cnr) : DBSorted (setCnr db cn v) := by
  rw [setCnr_eq]
  exact insertBy_sorted _ h fun _ _ => rfl

theorem dbSyncCounters_sorted (db : DB) (h : DBSorted db) : DBSorted (dbSyncCounters db) := by
  unfold DBSorted dbSyncCounters at *
  rw [List.pairwise_map]
  exact h

theorem step_sorted (s : St) (op : Op) (h : DBSorted s.db) : DBSorted (step s op).db := by
  cases op with
  | setEpoch e => exact h
  | put cn chain =>
    simp only [step]; unfold dbPut
    dsimp only
    generalize putChain _ _ _ _ = r
    obtain ⟨c', d, e⟩ := r
    dsimp only
    split
    · exact setCnr_sorted _ h _ _
    · exact h
  | mark cn ids r =>
    simp only [step]; unfold dbMarkGarbage
    split
    · exact h
    · split
      · exact h
      · dsimp only
        generalize Cnr.markGarbageIn _ _ _ _ = r
        obtain ⟨c', n, p⟩ := r
        exact setCnr_sorted _ h _ _
  | inhumeCnr cn => simp only [step]; unfold dbInhumeContainer; exact setCnr_sorted _ h _ _
  | deleteCnr cn => simp only [step]; unfold dbDeleteContainer; exact List.Pairwise.filter _ h
  | delete cn ids =>
    simp only [step]; unfold dbDelete
    split
    · exact h
    · dsimp only
      generalize List.foldl _ _ _ = r
      obtain ⟨c', d⟩ := r
      exact setCnr_sorted _ h _ _
  | revive cn id =>
    simp only [step]; unfold dbRevive
    split
    · exact h
    · split
      · exact h
      · split
        · exact setCnr_sorted _ h _ _
        · exact h
  | syncCounters => simp only [step]; exact dbSyncCounters_sorted _ h

/-- every reachable metabase keeps its buckets in container order -/
theorem run_sorted (ops : List Op) : DBSorted (run ops).db := by
  suffices H : ∀ (ops : List Op) (s : St), DBSorted s.db → DBSorted (ops.foldl step s).db from
    H ops {} List.Pairwise.nil
  intro ops
  induction ops with
  | nil => intro s h; exact h
  | cons o os ih => intro s h; exact ih _ (step_sorted s o h)

theorem mem_dbAfter {db : DB} {k x : Nat × Nat} : x ∈ dbAfter db k ↔ x ∈ dbListable db ∧ addrLt k x = true :=
  List.mem_filter

/-- the buckets the loop visits yield exactly the listable addresses after the cursor -/
theorem afterAddrs_eq_dbAfter (cur : Nat × Nat) (db : DB) :
    afterAddrs cur (db.filter fun b => b.1 ≥ cur.1 && b.1 != 0) = dbAfter db cur := by
  unfold dbAfter dbListable
  induction db with
  | nil => rfl
  | cons b bs ih =>
    rw [List.flatMap_cons, List.filter_append, ← ih]
    by_cases hvis : (b.1 ≥ cur.1 && b.1 != 0) = true
    · -- a visited bucket
      have h : cur.1 ≤ b.1 ∧ b.1 ≠ 0 := by simpa using hvis
      rw [List.filter_cons, if_pos hvis, if_neg (by simpa using h.2)]
      unfold afterAddrs
      rw [List.flatMap_cons]
      congr 1
      by_cases heq : b.1 = cur.1
      · rw [if_neg (by simpa using heq)]
        exact (filter_bucketAddrs b 0 cur heq.symm (Nat.zero_le _)).symm
      · rw [if_pos (by simpa using heq)]
        exact (filter_bucketAddrs_all b 0 cur (by omega)).symm
    · -- not visited: the zero container, or a container below the cursor
      rw [List.filter_cons, if_neg hvis]
      by_cases h0 : b.1 = 0
      · rw [if_pos (by simpa using h0)]; rfl
      · have hlt : b.1 < cur.1 := by
          have : ¬ (cur.1 ≤ b.1 ∧ b.1 ≠ 0) := by simpa using hvis
          omega
        rw [if_neg (by simpa using h0), filter_bucketAddrs_none b 0 cur hlt]
        rfl

theorem filter_filter_of_imp {α} (p q : α → Bool) (l : List α) (h : ∀ a, p a = true → q a = true) :
    (l.filter q).filter p = l.filter p := by
  rw [List.filter_filter]
  apply List.filter_congr
  intro a _
  cases hp : p a with
  | true => simp [h a hp]
  | false => simp

/-- **One page** of `DB.ListWithCursor(count, cursor)`, `count ≥ 1`, on a well-formed metabase: the page is
the next `count` listable addresses after the cursor; end-of-listing is answered iff nothing is left after the
cursor; otherwise the new cursor `k` is a position after which exactly the not yet returned addresses lie. -/
theorem dbList_page (db : DB) (hs : DBSorted db) (hwf : DBWF db) (count : Nat) (hc : 0 < count)
    (cursor : Option (Nat × Nat)) :
    (dbList db count cursor).1 = (dbAfter db (cursor.getD (0, 0))).take count ∧
    (match (dbList db count cursor).2 with
      | none => dbAfter db (cursor.getD (0, 0)) = []
      | some k => dbAfter db (cursor.getD (0, 0)) ≠ [] ∧
          dbAfter db k = (dbAfter db (cursor.getD (0, 0))).drop count) := by
  generalize hcur : cursor.getD (0, 0) = cur
  obtain ⟨r1, r2, r3⟩ := foldl_dbListStep_spec count (db.filter fun b => b.1 ≥ cur.1 && b.1 != 0) [] cur
    (List.Pairwise.filter _ hs) (fun b hb => by have h := (List.mem_filter.mp hb).2; simp at h; exact h.1)
    (fun b hb => hwf b (List.mem_filter.mp hb).1) hc
  rw [afterAddrs_eq_dbAfter, List.length_nil, Nat.sub_zero] at r1 r3
  -- what lies after the new cursor also lies after the old one
  have hk := (filter_filter_of_imp _ _ (dbListable db) r2).symm.trans r3
  unfold dbList
  simp only [hcur]
  rw [r1]
  change dbAfter db _ = _ at hk
  generalize dbAfter db cur = A at hk
  cases A with
  | nil => rw [List.take_nil]; exact ⟨rfl, rfl⟩
  | cons a as =>
    obtain ⟨n, rfl⟩ : ∃ n, count = n + 1 := ⟨count - 1, by omega⟩
    exact ⟨rfl, List.cons_ne_nil _ _, hk⟩

/-- `count = 0` answers end-of-listing -/
theorem dbList_zero (db : DB) (cursor : Option (Nat × Nat)) : dbList db 0 cursor = ([], none) := by
  have : ∀ (bs : List (Nat × Cnr)) (cur : Nat × Nat), (bs.foldl (dbListStep 0) ([], cur, false)).1 = [] := by
    intro bs cur
    cases bs with
    | nil => rfl
    | cons b bs =>
      rw [List.foldl_cons, dbListStep_of_not_full, decide_eq_true (Nat.zero_le _), foldl_dbListStep_stop]
      exact congrArg (List.map fun i => (b.1, i)) (listPage_zero b.2 _)
  unfold dbList
  simp [this]

/-! ### all pages -/

/-- follow the cursor through pages of the given sizes; `true` = end-of-listing was answered -/
def pages (db : DB) : List Nat → Option (Nat × Nat) → List (Nat × Nat) × Bool
  | [], _ => ([], false)
  | n :: ns, cur =>
    match dbList db n cur with
    | (_, none) => ([], true)
    | (p, some k) => let r := pages db ns (some k); (p ++ r.1, r.2)

/-- **All pages, any page sizes, any starting cursor.** The concatenated pages are the first `Σ sizes`
listable addresses after the cursor (consecutive segments of one list: nothing repeated, nothing skipped);
end-of-listing is answered only when everything after the cursor has been returned, and it IS answered once
there are more pages than addresses left. -/
theorem pages_exact (db : DB) (hs : DBSorted db) (hwf : DBWF db) :
    ∀ (counts : List Nat) (cursor : Option (Nat × Nat)), (∀ n ∈ counts, 0 < n) →
    (pages db counts cursor).1 = (dbAfter db (cursor.getD (0, 0))).take counts.sum ∧
    ((pages db counts cursor).2 = true → (pages db counts cursor).1 = dbAfter db (cursor.getD (0, 0))) ∧
    ((dbAfter db (cursor.getD (0, 0))).length < counts.length → (pages db counts cursor).2 = true) := by
  intro counts
  induction counts with
  | nil => intro cursor _; simp [pages]
  | cons n ns ih =>
    intro cursor hpos
    obtain ⟨p1, p2⟩ := dbList_page db hs hwf n (hpos n List.mem_cons_self) cursor
    unfold pages
    generalize dbList db n cursor = r at p1 p2
    obtain ⟨p, _ | k⟩ := r
    · dsimp only at p2 ⊢
      simp [p2]
    · dsimp only at p1 p2 ⊢
      obtain ⟨q1, q2, q3⟩ := ih (some k) (fun m hm => hpos m (List.mem_cons_of_mem _ hm))
      rw [Option.getD_some, p2.2] at q1 q2 q3
      refine ⟨?_, fun he => ?_, fun hl => q3 ?_⟩
      · rw [q1, p1, List.sum_cons, List.take_add]
      · rw [q2 he, p1, List.take_append_drop]
      · have hn := hpos n List.mem_cons_self
        have hL : 0 < (dbAfter db (cursor.getD (0, 0))).length := List.length_pos_iff.mpr p2.1
        rw [List.length_drop]
        rw [List.length_cons] at hl
        omega

/-- the listable addresses are strictly ascending, hence each appears once -/
theorem dbListable_sorted (db : DB) (hs : DBSorted db) (hwf : DBWF db) :
    (dbListable db).Pairwise fun a b => addrLt a b = true := by
  unfold dbListable
  induction db with
  | nil => simp
  | cons b bs ih =>
    unfold DBSorted at hs
    rw [List.pairwise_cons] at hs
    rw [List.flatMap_cons, List.pairwise_append]
    refine ⟨?_, ih hs.2 (fun x hx => hwf x (by simp [hx])), ?_⟩
    · split
      · simp
      · unfold bucketAddrs
        rw [List.pairwise_map]
        have hsorted : (b.2.listableFrom 0).Pairwise (· < ·) := by
          unfold Cnr.listableFrom
          split
          · simp
          · exact List.Pairwise.filter _ (List.pairwise_cons.mp (listCands_sorted b.2 (hwf b (by simp)) 0)).2
        exact hsorted.imp (fun h => by unfold addrLt; simp [h])
    · intro a ha c hc
      have ha1 : a.1 = b.1 := by
        split at ha
        · simp at ha
        · exact fst_of_mem_bucketAddrs b 0 a ha
      rw [List.mem_flatMap] at hc
      obtain ⟨x, hx, hc⟩ := hc
      have hc1 : c.1 = x.1 := by
        split at hc
        · simp at hc
        · exact fst_of_mem_bucketAddrs x 0 c hc
      have := hs.1 x hx
      unfold addrLt; simp; omega

theorem dbAfter_sorted (db : DB) (hs : DBSorted db) (hwf : DBWF db) (cur : Nat × Nat) :
    (dbAfter db cur).Pairwise fun a b => addrLt a b = true :=
  List.Pairwise.filter _ (dbListable_sorted db hs hwf)

/-- what listing may return is what the reference rules call "physical, in a live container, not marked for
removal" (ids are non-zero) -/
theorem listable_eq_reference (c : Cnr) (h : c.WF) :
    c.listableFrom 0 = ((liveObjects c).filter fun r => decide (r.id > 0)).map (·.id) := by
  unfold Cnr.listableFrom liveObjects
  by_cases hg : c.gcMark
  · simp [hg]
  · simp only [hg, Bool.false_eq_true, if_false]
    unfold Cnr.listCands
    rw [List.filter_map, List.filter_filter, List.filter_filter]
    congr 1
    apply List.filter_congr
    intro r _
    simp only [Function.comp, Cnr.showable]
    rw [inGarbage_ref c h]
    cases r.phy <;> cases tombstoned c r.id <;> cases marked c r.id <;> simp

/-- **After any history**: listing from any cursor with any page sizes returns, page after page, exactly the
listable addresses after the cursor (`dbAfter`), each once, in order, then end-of-listing. That the listable ids of
a bucket are the reference rules' physical, unmarked objects is `listable_eq_reference`; it is not part of this
statement. -/
theorem shard_listing_exact (ops : List Op) (counts : List Nat) (hpos : ∀ n ∈ counts, 0 < n)
    (cursor : Option (Nat × Nat)) :
    let db := (run ops).db
    (pages db counts cursor).1 = (dbAfter db (cursor.getD (0, 0))).take counts.sum ∧
    ((pages db counts cursor).2 = true → (pages db counts cursor).1 = dbAfter db (cursor.getD (0, 0))) ∧
    ((dbAfter db (cursor.getD (0, 0))).length < counts.length → (pages db counts cursor).2 = true) ∧
    (dbListable db).Pairwise (fun a b => addrLt a b = true) :=
  have hs := run_sorted ops
  have hwf := run_wf ops
  let r := pages_exact (run ops).db hs hwf counts cursor hpos
  ⟨r.1, r.2.1, r.2.2, dbListable_sorted _ hs hwf⟩

/-- non-vacuity: two containers, a marked object on a page break, a removed container -/
example :
    let r (id : Nat) : Rec := ⟨id, .regular, true, true, 0, 0, 0, 0, 0, none, none⟩
    let db : DB := [(1, { recs := [r 1, r 2, r 3], garb := [(2, false)] }), (2, { recs := [r 4], gcMark := true }),
      (3, { recs := [r 5] })]
    dbListable db = [(1, 1), (1, 3), (3, 5)] ∧ (pages db [1, 1, 1, 1] none) = ([(1, 1), (1, 3), (3, 5)], true) ∧
    (pages db [2, 2] (some (1, 1))) = ([(1, 3), (3, 5)], true) := by decide +kernel

end NeoFS.Meta

/-! ## engine level -/

namespace NeoFS.EngList
open NeoFS.Meta

theorem lt_eq_addrLt : lt = addrLt := rfl

/-- the page shard `s` answers -/
def page (count : Nat) (cursor : Option Addr) (s : Nat × DB) : List Addr := (dbList s.2 count cursor).1

/-- the engine's per-shard step is one run of the merge loop -/
theorem engStep_eq (count : Nat) (cursor : Option Addr) (acc : List Item) (s : Nat × DB) (h : acc.length ≤ count) :
    engStep count cursor acc s = mergeGo count acc (page count cursor s) s.1 := by
  unfold engStep page
  cases hp : (dbList s.2 count cursor).1 with
  | nil => simp only [List.isEmpty_nil, if_true]; rw [mergeGo_nil_right _ _ _ h]
  | cons y ys =>
    simp only [List.isEmpty_cons, Bool.false_eq_true, if_false]
    unfold mergeList
    cases acc with
    | nil => simp only [List.isEmpty_nil, if_true]; rw [mergeGo_nil_left]
    | cons _ _ => simp

/-- the engine's loop invariant over the shards visited so far -/
structure Inv (count : Nat) (cursor : Option Addr) (ss : List (Nat × DB)) (R : List Item) : Prop where
  len : R.length ≤ count
  sorted : Sorted (keys R)
  holders : ∀ it ∈ R, it.holders = (ss.filter fun s => decide (it.addr ∈ page count cursor s)).map (·.1)
  complete : ∀ s ∈ ss, ∀ x ∈ page count cursor s, x ∈ keys R ∨ (R.length = count ∧ ∀ y ∈ keys R, lt y x = true)
  src : ∀ y ∈ keys R, ∃ s ∈ ss, y ∈ page count cursor s

theorem inv_step (count : Nat) (cursor : Option Addr) (ss : List (Nat × DB)) (R : List Item) (s : Nat × DB)
    (inv : Inv count cursor ss R) (hp : Sorted (page count cursor s)) :
    Inv count cursor (ss ++ [s]) (engStep count cursor R s) := by
  rw [engStep_eq count cursor R s inv.len]
  have m := mergeGo_spec count R (page count cursor s) s.1 inv.sorted hp
  refine ⟨m.len, m.sorted, ?_, ?_, ?_⟩
  · intro it hit
    rw [List.filter_append, List.map_append]
    rcases m.holders it hit with ⟨i, hi, h1, h2⟩ | ⟨h1, h2, h3⟩
    · rw [h2, inv.holders i hi, h1]
      congr 1
      by_cases hm : it.addr ∈ page count cursor s <;> simp [hm]
    · -- a new address: no earlier shard's page has it
      have hnone : (ss.filter fun s0 => decide (it.addr ∈ page count cursor s0)) = [] := by
        rw [List.filter_eq_nil_iff]
        intro s0 hs0 hmem
        have hmem' : it.addr ∈ page count cursor s0 := by simpa using hmem
        rcases inv.complete s0 hs0 it.addr hmem' with h | ⟨hf, hall⟩
        · unfold keys at h
          rw [List.mem_map] at h
          obtain ⟨i, hi, hia⟩ := h
          exact h1 i hi hia
        · have := (full_stays_full m inv.sorted hf it.addr hall).2 it.addr (List.mem_map_of_mem hit)
          rw [lt_irrefl] at this
          exact Bool.false_ne_true this
      rw [hnone, h3]
      simp [h2]
  · intro s0 hs0 x hx
    rw [List.mem_append] at hs0
    rcases hs0 with hs0 | hs0
    · rcases inv.complete s0 hs0 x hx with h | ⟨hf, hall⟩
      · exact m.complete x (Or.inl h)
      · exact Or.inr (full_stays_full m inv.sorted hf x hall)
    · simp at hs0; subst hs0
      exact m.complete x (Or.inr hx)
  · intro y hy
    rcases m.src y hy with h | h
    · obtain ⟨s0, hs0, hy0⟩ := inv.src y h
      exact ⟨s0, List.mem_append_left _ hs0, hy0⟩
    · exact ⟨s, by simp, h⟩

theorem Inv.full_before_drop {count : Nat} {cursor : Option Addr} {ss : List (Nat × DB)} {R : List Item}
    (inv : Inv count cursor ss R) {s : Nat × DB} (hs : s ∈ ss) {A : List Addr} (hA : Sorted A)
    (hp : page count cursor s = A.take count) {x : Addr} (hx : x ∈ A.drop count) :
    R.length = count ∧ ∀ y ∈ keys R, lt y x = true :=
  full_before (sorted_take _ _ hA) (length_take_of_mem_drop hx) inv.len
    (fun p hp' => inv.complete s hs p (hp ▸ hp')) x (fun p hp' => take_lt_drop A count hA p hp' x hx)

theorem inv_fold (count : Nat) (cursor : Option Addr) (hc : 0 < count) :
    ∀ (todo ss : List (Nat × DB)) (R : List Item), Inv count cursor ss R →
    (∀ s ∈ todo, DBSorted s.2 ∧ DBWF s.2) →
    Inv count cursor (ss ++ todo) (todo.foldl (engStep count cursor) R) := by
  intro todo
  induction todo with
  | nil => intro ss R inv _; simpa using inv
  | cons s rest ih =>
    intro ss R inv hw
    simp only [List.foldl_cons]
    have hsw := hw s (by simp)
    have hp : Sorted (page count cursor s) := by
      unfold page
      rw [(dbList_page s.2 hsw.1 hsw.2 count hc cursor).1]
      exact sorted_take _ _ (dbAfter_sorted _ hsw.1 hsw.2 _)
    have := ih (ss ++ [s]) _ (inv_step count cursor ss R s inv hp) (fun x hx => hw x (by simp [hx]))
    simpa using this

theorem engList_fst (shards : List (Nat × DB)) (count : Nat) (cursor : Option Addr) :
    (engList shards count cursor).1 = shards.foldl (engStep count cursor) [] := by
  unfold engList
  dsimp only
  split
  · next h => exact (List.getLast?_eq_none_iff.mp h).symm
  · rfl

theorem engList_snd (shards : List (Nat × DB)) (count : Nat) (cursor : Option Addr) :
    (engList shards count cursor).2 = ((shards.foldl (engStep count cursor) []).getLast?).map (·.addr) := by
  unfold engList
  dsimp only
  split
  · next h => rw [h]; rfl
  · next l h => rw [h]; rfl

/-- **One engine page**, any shards in any visiting order, `count ≥ 1`, any cursor. With `cur` the cursor
position and `dbAfter s cur` what shard `s` can list after it:
* at most `count` items, strictly ascending (each address once);
* every item is listable on some shard, and its holders are exactly the shards that can list it, in visiting order;
* nothing is skipped: whatever a shard can list after the cursor is in the page, or the page is full and ends before it;
* end-of-listing (`none`) iff no shard can list anything after the cursor; otherwise the new cursor is the last item. -/
theorem engine_page (shards : List (Nat × DB)) (hw : ∀ s ∈ shards, DBSorted s.2 ∧ DBWF s.2)
    (count : Nat) (hc : 0 < count) (cursor : Option Addr) :
    let cur := cursor.getD (0, 0)
    let R := (engList shards count cursor).1
    R.length ≤ count ∧ Sorted (keys R) ∧
    (∀ it ∈ R, it.holders = (shards.filter fun s => decide (it.addr ∈ dbAfter s.2 cur)).map (·.1)) ∧
    (∀ it ∈ R, it.holders ≠ []) ∧
    (∀ s ∈ shards, ∀ x ∈ dbAfter s.2 cur, x ∈ keys R ∨ (R.length = count ∧ ∀ y ∈ keys R, lt y x = true)) ∧
    (match (engList shards count cursor).2 with
      | none => R = [] ∧ ∀ s ∈ shards, dbAfter s.2 cur = []
      | some k => ∃ l, R.getLast? = some l ∧ k = l.addr) := by
  intro cur R
  have inv0 : Inv count cursor [] [] := ⟨by simp, by simp [keys, Sorted], by simp, by simp, by simp [keys]⟩
  have inv := inv_fold count cursor hc shards [] [] inv0 hw
  simp only [List.nil_append] at inv
  have hR : R = shards.foldl (engStep count cursor) [] := engList_fst shards count cursor
  rw [← hR] at inv
  -- pages versus everything listable after the cursor
  have hpage : ∀ s ∈ shards, page count cursor s = (dbAfter s.2 cur).take count := fun s hs =>
    (dbList_page s.2 (hw s hs).1 (hw s hs).2 count hc cursor).1
  have hcomplete : ∀ s ∈ shards, ∀ x ∈ dbAfter s.2 cur,
      x ∈ keys R ∨ (R.length = count ∧ ∀ y ∈ keys R, lt y x = true) := by
    intro s hs x hx
    rw [← List.take_append_drop count (dbAfter s.2 cur), List.mem_append] at hx
    rcases hx with hx | hx
    · exact inv.complete s hs x (by rw [hpage s hs]; exact hx)
    · exact Or.inr (inv.full_before_drop hs (dbAfter_sorted s.2 (hw s hs).1 (hw s hs).2 cur) (hpage s hs) hx)
  have hholders : ∀ it ∈ R, it.holders = (shards.filter fun s => decide (it.addr ∈ dbAfter s.2 cur)).map (·.1) := by
    intro it hit
    rw [inv.holders it hit]
    congr 1
    apply List.filter_congr
    intro s hs
    rw [hpage s hs, decide_eq_decide]
    -- beyond the page of `s` only a full result ending before the item could lie
    refine ⟨List.mem_of_mem_take, fun h2 => ?_⟩
    rw [← List.take_append_drop count (dbAfter s.2 cur), List.mem_append] at h2
    refine h2.resolve_right fun hdrop => ?_
    have := (inv.full_before_drop hs (dbAfter_sorted s.2 (hw s hs).1 (hw s hs).2 cur) (hpage s hs) hdrop).2
      it.addr (List.mem_map_of_mem hit)
    rw [lt_irrefl] at this
    cases this
  refine ⟨inv.len, inv.sorted, hholders, ?_, hcomplete, ?_⟩
  · intro it hit hnil
    obtain ⟨s, hs, hy⟩ := inv.src it.addr (List.mem_map_of_mem hit)
    rw [inv.holders it hit] at hnil
    have : s ∈ shards.filter fun s => decide (it.addr ∈ page count cursor s) := List.mem_filter.mpr ⟨hs, by simpa using hy⟩
    simp only [List.map_eq_nil_iff] at hnil
    rw [hnil] at this
    simp at this
  · show (match (engList shards count cursor).2 with
      | none => R = [] ∧ ∀ s ∈ shards, dbAfter s.2 cur = []
      | some k => ∃ l, R.getLast? = some l ∧ k = l.addr)
    have h2 : (engList shards count cursor).2 = (R.getLast?).map (·.addr) := by
      rw [hR]; exact engList_snd shards count cursor
    rw [h2]
    cases hl : R.getLast? with
    | none =>
      have hnil : R = [] := List.getLast?_eq_none_iff.mp hl
      refine ⟨hnil, ?_⟩
      intro s hs
      cases hd : dbAfter s.2 cur with
      | nil => rfl
      | cons x xs =>
        exfalso
        rcases hcomplete s hs x (by rw [hd]; simp) with h | ⟨h, _⟩
        · rw [hnil] at h; simp [keys] at h
        · rw [hnil] at h; simp at h; omega
    | some l => exact ⟨l, rfl, rfl⟩

/-- **Chaining pages.** What the next engine page can contain lies strictly after the returned cursor, and
what one page did not return lies after that cursor on its shard, so the next page picks it up: pages chained
through the cursor are strictly ascending overall (no address twice) and lose nothing. -/
theorem engine_chain (shards : List (Nat × DB)) (hw : ∀ s ∈ shards, DBSorted s.2 ∧ DBWF s.2)
    (count : Nat) (hc : 0 < count) (cursor : Option Addr) (k : Addr)
    (hk : (engList shards count cursor).2 = some k) :
    (∀ s ∈ shards, ∀ x ∈ dbAfter s.2 (cursor.getD (0, 0)),
      x ∈ keys (engList shards count cursor).1 ∨ x ∈ dbAfter s.2 k) ∧
    (∀ y ∈ keys (engList shards count (some k)).1, lt k y = true) ∧
    (∀ y ∈ keys (engList shards count cursor).1, y = k ∨ lt y k = true) := by
  obtain ⟨_, hsorted, _, _, hcomp, hcur⟩ := engine_page shards hw count hc cursor
  rw [hk] at hcur
  obtain ⟨l, hl, hkl⟩ := hcur
  have hlast : ∀ y ∈ keys (engList shards count cursor).1, y = k ∨ lt y k = true :=
    le_getLast_of_sorted hsorted (by rw [keys, List.getLast?_map, hl, hkl]; rfl)
  refine ⟨?_, ?_, hlast⟩
  · intro s hs x hx
    rcases hcomp s hs x hx with h | ⟨_, hall⟩
    · exact Or.inl h
    · right
      have hkin : k ∈ keys (engList shards count cursor).1 := by
        rw [hkl]; unfold keys; exact List.mem_map_of_mem (List.mem_of_getLast? hl)
      exact mem_dbAfter.mpr ⟨(mem_dbAfter.mp hx).1, hall k hkin⟩
  · -- an item of the next page has a holder, and a holder lists it after `k`
    intro y hy
    obtain ⟨_, _, hhold, hne, _, _⟩ := engine_page shards hw count hc (some k)
    obtain ⟨it, hit, rfl⟩ := List.mem_map.mp hy
    have hne' : (shards.filter fun s => decide (it.addr ∈ dbAfter s.2 k)) ≠ [] :=
      fun h => hne it hit (by rw [hhold it hit]; exact congrArg (List.map (·.1)) h)
    obtain ⟨s, hs⟩ := List.exists_mem_of_ne_nil _ hne'
    have hmem : it.addr ∈ dbAfter s.2 k := of_decide_eq_true (List.mem_filter.mp hs).2
    exact (mem_dbAfter.mp hmem).2

/-- non-vacuity: three shards with overlapping copies, a copy marked for removal on one shard, page breaks on
an object held by several shards -/
example :
    let r (id : Nat) : Rec := ⟨id, .regular, true, true, 0, 0, 0, 0, 0, none, none⟩
    let s1 : DB := [(1, { recs := [r 1, r 2, r 3], garb := [(2, false)] })]
    let s2 : DB := [(1, { recs := [r 2, r 3] }), (2, { recs := [r 4] })]
    let s3 : DB := [(2, { recs := [r 4, r 5] })]
    engList [(7, s1), (8, s2), (9, s3)] 2 none = ([⟨(1, 1), [7]⟩, ⟨(1, 2), [8]⟩], some (1, 2)) ∧
    engList [(9, s3), (8, s2), (7, s1)] 2 (some (1, 2)) = ([⟨(1, 3), [8, 7]⟩, ⟨(2, 4), [9, 8]⟩], some (2, 4)) ∧
    engList [(7, s1), (8, s2), (9, s3)] 2 (some (2, 4)) = ([⟨(2, 5), [9]⟩], some (2, 5)) ∧
    engList [(7, s1), (8, s2), (9, s3)] 2 (some (2, 5)) = ([], none) := by decide +kernel

end NeoFS.EngList
