import NeoFS.Lemmas.SearchPages
import NeoFS.Lemmas.SearchPre
import NeoFS.Lemmas.SearchIndex
import NeoFS.Lemmas.SearchUnf
/-!
# C03 — search returns exactly the matching available objects, in order, across pages

Model: `Model/Search.lean` (byte-level bucket, `PreprocessSearchQuery`, `MetaDataKVHandler`, `searchTx`),
reference: `Spec/Search.lean` (`satisfies`, `isMatch`, `itemOf`).

What is proved here, for queries over attributes stored as plain strings (user attributes, version, type, creation
epoch, payload size, ROOT/PHY; all matchers incl. numeric ones):

* `early_exit_safe`  : over ANY list of index elements visited in stored-value order above the seek bound, the
  handler's verdict on every element is the declarative match, and whenever it stops the scan no later element
  matches (`VerdictOK`);
* `page_sound_complete` : hence one page is exactly the first `count` matching elements of the visited index segment,
  with their requested attribute values, and a cursor (= key of the last returned element) iff more match;
* `pagination_exact` : following the returned cursor with any page sizes ≥ 1 yields every hit once, in order, and ends
  with an empty cursor;
* `int_iff_decimal`, `numeric_filter_iff_decimal` : a value is put into the integer index / compared numerically
  iff it is an optionally signed decimal string in range;
* `plainCtx_of_preprocess`, `numeric_filter_bounds` : what `PreprocessSearchQuery`/`parseIntFilters` return, incl. the
  ±(2^256−1) boundary handling; `bucket_strictly_sorted`, `prefix_loop_exact` : the byte bucket is strictly sorted and
  the seek + prefix loop visits exactly the keys above the seek key with the prefix; `empty_query_page` : the empty query;
* `plain_key_order`, `int_key_order`, `prefix_segment` : the byte order of the index keys is the order on
  (value, id) resp. (number, id), and the keys with a given prefix form a segment.

The hypothesis `IndexSegment` of the page theorems (the byte bucket, seeked and prefix-scanned, enumerates the
attribute's index elements in key order, and `Get` answers `lookup`) is a statement about bbolt-style cursor
iteration over the model's own sorted key list; it is not proved here (the key-order lemmas above are its
ingredients) and is exercised on every query of the correspondence run, where the driver runs the byte-level model.
-/
namespace NeoFS.Search
open NeoFS.Int256

/-- the handler context `searchTx` builds. -/
def hctx (b : List Bytes) (avail : Nat → Bool) (c : Ctx) : HCtx :=
  { get := getAttr b, avail := avail, fs := c.fs, attrs := c.attrs, pref := c.pref }

/-- The visited part of the index, seen as objects: `os` are the objects of the visited keys in visiting order. -/
structure IndexSegment (b : List Bytes) (avail : Nat → Bool) (c : Ctx) (os : List Obj) (val key : Obj → Bytes) : Prop where
  scan : scanKeys b c.pref c.seek = os.map key
  split : ∀ o ∈ os, splitKey (hctx b avail c) (key o) = some (val o, oidBytes o.id)
  idRound : ∀ o ∈ os, fromBE (oidBytes o.id) = o.id
  rel : ∀ o ∈ os, EntryRel (hctx b avail c) o (val o)
  get : ∀ o ∈ os, ∀ a ∈ attrsOf (hctx b avail c), getAttr b o.id a = lookup o a
  availOK : ∀ o ∈ os, avail o.id = o.avail
  sorted : os.Pairwise (fun x y => bLe (val x) (val y))
  bound : ∀ o ∈ os, LB (hctx b avail c).p0 (val o)

/-- the preprocessed query is a plain one: filters and requested attributes are stored as strings, and the numeric
filters were parsed as `parseIntFilters` does (`PFok`). -/
structure PlainCtx (c : Ctx) : Prop where
  nonempty : c.fs ≠ []
  pf : ∀ idx p, c.fs[idx]? = some p → PFok (c.fs.headD { f := ⟨[], .eq, []⟩ }).f idx p
  plainF : ∀ p ∈ c.fs, kindOf p.f.attr = .plain
  plainA : ∀ a ∈ c.attrs, kindOf a = .plain

/-- **`PreprocessSearchQuery` establishes `PlainCtx`**: for every accepted query over plain attributes (any cursor) the
returned filters are the query's filters, numeric ones parsed so that the raw bytes are the encoding of the filter
value and `AutoMatch` is only set for `<= 2^256-1` / `>= -(2^256-1)`. -/
theorem plainCtx_of_preprocess (f0 : Filter) (r : List Filter) (attrs : List Bytes) (cur : Option Bytes) (c : Ctx)
    (hpre : preprocess (f0 :: r) attrs cur = .ok c)
    (hkf : ∀ f ∈ f0 :: r, kindOf f.attr = .plain) (hka : ∀ a ∈ attrs, kindOf a = .plain) :
    PlainCtx c ∧ c.fs.map (·.f) = f0 :: r ∧ c.attrs = attrs ∧ blindly (f0 :: r) = false := by
  obtain ⟨h1, h2, h3, h4⟩ := preprocess_fs f0 r attrs cur c hpre
  refine ⟨⟨?_, ?_, ?_, ?_⟩, h1, h2, h3⟩
  · intro he; rw [he] at h1; simp at h1
  · have hhead : (c.fs.headD { f := ⟨[], .eq, []⟩ }).f = f0 := by
      cases hfs : c.fs with
      | nil => rw [hfs] at h1; simp at h1
      | cons q t => rw [hfs] at h1; simp at h1; simp [h1.1]
    rw [hhead]; exact h4
  · intro p hp
    exact hkf p.f (by rw [← h1]; exact List.mem_map.2 ⟨p, hp, rfl⟩)
  · rw [h2]; exact hka

/-- the ±(2^256−1) boundaries of numeric filters: an accepted numeric filter has a value `ParseDecimal` accepts
(so it is in range), and it is marked `AutoMatch` only if it is `<= 2^256-1` or `>= -(2^256-1)`. -/
theorem numeric_filter_bounds (f0 : Filter) (i : Nat) (f : Filter) (p : PF) (h : parseIntFilter f0 i f = .ok p)
    (hi : f.cop.isInt = true) :
    ∃ x, parseInt f.cval = some x ∧ x.WF ∧
      (p.auto = true → (f.cop = .le ∧ x = maxI) ∨ (f.cop = .ge ∧ x = minI)) := by
  obtain ⟨hf, hok⟩ := parseIntFilter_ok f0 i f p h
  rw [← hf] at hi
  obtain ⟨x, hx, ha, _⟩ := hok hi
  rw [hf] at hx ha
  exact ⟨x, hx, parseInt_wf hx, ha⟩

/-- **Early exit is safe, verdicts are exact.** -/
theorem early_exit_safe (b : List Bytes) (avail : Nat → Bool) (c : Ctx) (hc : PlainCtx c)
    (os : List Obj) (val key : Obj → Bytes) (hseg : IndexSegment b avail c os val key) :
    VerdictOK (hctx b avail c) key (expOf (hctx b avail c)) os false :=
  verdictOK_entries (hctx b avail c) hc.nonempty val key hc.pf hc.plainF hc.plainA os false
    hseg.split hseg.idRound hseg.rel hseg.get hseg.availOK hseg.sorted hseg.bound (by intro h; cases h)

/-- **One page is sound and complete**: the first `count` matching elements of the visited segment with their
attribute values; the cursor is the key of the last returned element, present iff more elements match. -/
theorem page_sound_complete (b : List Bytes) (avail : Nat → Bool) (c : Ctx) (hc : PlainCtx c) (count : Nat)
    (os : List Obj) (val key : Obj → Bytes) (hseg : IndexSegment b avail c os val key) :
    search b avail c count = scanResult (hitsOf key (expOf (hctx b avail c)) os) count [] [] := by
  have hne : c.fs.isEmpty = false := by
    cases hfs : c.fs with
    | nil => exact absurd hfs hc.nonempty
    | cons _ _ => rfl
  unfold search searchFiltered
  rw [hne, hseg.scan]
  simp only [Bool.false_eq_true, if_false]
  exact runScan_spec (hctx b avail c) count key (expOf (hctx b avail c)) os false [] []
    (early_exit_safe b avail c hc os val key hseg) (Nat.zero_le _)

/-- what a page consists of, spelled out. -/
theorem page_items (hs : List (Bytes × Item)) (count : Nat) :
    (scanResult hs count [] []).items = (hs.take count).map (·.2) ∧
    ((scanResult hs count [] []).cursor.isSome = true ↔ hs.length > count) ∧
    (scanResult hs count [] []).err = false := by
  rw [scanResult_nil_acc]
  refine ⟨rfl, ?_, rfl⟩
  by_cases h : hs.length > count <;> simp [h]

/-- **Pagination is exact**: if pages are as in `page_sound_complete` from the start and from the cursor of every
hit, then for any page sizes ≥ 1 the chain of pages lists all hits once, in order, and ends without a cursor. -/
theorem pagination_exact (b : List Bytes) (avail : Nat → Bool) (fs : List Filter) (attrs : List Bytes)
    (H : List (Bytes × Item))
    (hpage : ∀ i n, i ≤ H.length → 1 ≤ n → pageB b avail fs attrs (curAt H i) n = .ok (scanResult (H.drop i) n [] []))
    (sizes : List Nat) (hne : sizes ≠ []) (hpos : ∀ n ∈ sizes, 1 ≤ n) (fuel : Nat) (hfuel : H.length < fuel) :
    (pagesB b avail fs attrs fuel sizes none).flatMap pageItems = H.map (·.2) ∧
    chainClean (pagesB b avail fs attrs fuel sizes none) = true := by
  have := pages_exact b avail fs attrs H hpage fuel 0 sizes hne hpos (by omega) (Nat.zero_le _)
  simpa [curAt] using this

/-- **Integer-ness**: a pair goes to the integer index iff the attribute may be numeric and the value is an optionally
signed decimal string in range. -/
theorem int_iff_decimal (a v : Bytes) :
    intIndexed a v = true ↔
      (a ∉ plainOnlyAttrs ∧ ∃ neg digits, SignedDecimal (toChars v) neg digits ∧ decVal digits < two256) := by
  unfold intIndexed parseInt
  simp only [Bool.and_eq_true, Bool.not_eq_true', List.contains_eq_mem, decide_eq_false_iff_not, Option.isSome_iff_exists]
  constructor
  · rintro ⟨h1, z, hz⟩
    obtain ⟨neg, d, hs, hv, _⟩ := (parse_accepts_iff _ _).1 hz
    exact ⟨h1, neg, d, hs, hv⟩
  · rintro ⟨h1, neg, d, hs, hv⟩
    exact ⟨h1, mk neg (decVal d), (parse_accepts_iff _ _).2 ⟨neg, d, hs, hv, rfl⟩⟩

/-- a numeric filter can only be satisfied by a value that is an optionally signed decimal string in range. -/
theorem numeric_filter_iff_decimal (o : Obj) (f : Filter) (hi : f.cop.isInt = true) (hs : satisfies o f = true) :
    ∃ v, lookup o f.attr = some v ∧ ∃ neg digits, SignedDecimal (toChars v) neg digits ∧ decVal digits < two256 := by
  unfold satisfies at hs
  cases hl : lookup o f.attr with
  | none => rw [hl] at hs; simp only [decide_eq_true_eq] at hs; rw [hs] at hi; simp [Op.isInt] at hi
  | some v =>
    rw [hl] at hs
    have hnp : f.cop ≠ .np := by intro e; rw [e] at hi; simp [Op.isInt] at hi
    simp only [hnp, if_false, hi, if_true] at hs
    cases hz : parseInt v with
    | none => rw [hz] at hs; simp at hs
    | some z =>
      obtain ⟨neg, d, hsd, hv, _⟩ := (parse_accepts_iff _ _).1 hz
      exact ⟨v, rfl, neg, d, hsd, hv⟩

/-! ### key order -/

theorem oid_order (i j : Nat) (hi : i < two256) (hj : j < two256) : lexCmp (oidBytes i) (oidBytes j) = ordNat i j := by
  rw [two256_eq] at hi hj
  exact lexCmp_beBytes 32 i j hi hj

theorem lexCmp_key_head (t : Nat) (a x y : Bytes) :
    lexCmp (t :: (a ++ 0 :: x)) (t :: (a ++ 0 :: y)) = lexCmp x y := by
  rw [lexCmp_cons_same, lexCmp_append_left, lexCmp_cons_same]

/-- keys of the plain index of one attribute are ordered like (value, id), for delimiter-free values. -/
theorem plain_key_order (a v1 v2 : Bytes) (i j : Nat) (h1 : ∀ x ∈ v1, x ≠ 0) (h2 : ∀ x ∈ v2, x ≠ 0)
    (hi : i < two256) (hj : j < two256) :
    lexCmp (keyPlain a v1 i) (keyPlain a v2 j) = thenCmp (lexCmp v1 v2) (ordNat i j) := by
  unfold keyPlain
  rw [lexCmp_key_head, lexCmp_delim v1 v2 _ _ h1 h2, oid_order i j hi hj]

/-- keys of the integer index of one attribute are ordered like (number, id). -/
theorem int_key_order (a : Bytes) (z1 z2 : I256) (i j : Nat) (h1 : z1.WF) (h2 : z2.WF)
    (hi : i < two256) (hj : j < two256) :
    lexCmp (keyInt a (encode z1) i) (keyInt a (encode z2) j) = thenCmp (ordInt z1.toInt z2.toInt) (ordNat i j) := by
  unfold keyInt
  rw [lexCmp_key_head, lexCmp_fixed _ _ _ _ (by rw [encode_length, encode_length]), encode_order z1 z2 h1 h2,
    oid_order i j hi hj]

/-- the keys with a given prefix form a segment of any sorted key list. -/
theorem prefix_segment (p k1 k2 k3 : Bytes) (h12 : bLe k1 k2) (h23 : bLe k2 k3) (h1 : p <+: k1) (h3 : p <+: k3) :
    p <+: k2 :=
  prefix_convex (bLe_trans (bLe_of_prefix h1) h12) h23 h3

/-- **The bucket is strictly sorted** and holds exactly the keys the objects contribute (one value per key). -/
theorem bucket_strictly_sorted (objs : List Obj) :
    (bucket objs).Pairwise bLt ∧ ∀ k, k ∈ bucket objs ↔ k ∈ objs.flatMap objKeys := by
  have hsorted : ((objs.flatMap objKeys).mergeSort bytesLe).Pairwise bLe := by
    have := List.pairwise_mergeSort (le := bytesLe)
      (fun a b c h1 h2 => (bytesLe_iff a c).2 (bLe_trans ((bytesLe_iff a b).1 h1) ((bytesLe_iff b c).1 h2)))
      (fun a b => by
        rcases bLe_total a b with h | h
        · simp [(bytesLe_iff a b).2 h]
        · simp [(bytesLe_iff b a).2 h])
      (objs.flatMap objKeys)
    exact this.imp (fun h => (bytesLe_iff _ _).1 h)
  obtain ⟨h1, h2⟩ := dedupAdj_sorted _ hsorted
  refine ⟨h1, fun k => ?_⟩
  unfold bucket
  rw [h2 k, List.mem_mergeSort]

/-- **The prefix loop loses nothing**: for a seek key that extends the prefix (which `PreprocessSearchQuery` always
builds), `Seek` + "skip the seek key" + "iterate while the prefix holds" over the bucket visits exactly the keys above
the seek key that carry the prefix, in key order. -/
theorem prefix_loop_exact (objs : List Obj) (pref seek : Bytes) (hp : pref <+: seek) :
    scanKeys (bucket objs) pref seek = (bucket objs).filter (fun k => lexCmp seek k == .lt && pref.isPrefixOf k) :=
  scanKeys_eq_filter _ (bucket_strictly_sorted objs).1 pref seek hp

/-- **The empty query** (`searchUnfiltered`), for ALL availability assignments and page sizes ≥ 1: over the visited
object-id keys the page is the first `count` available ids in id order; without a cursor nothing is left; a cursor is
the id of the last returned object and is only given with a full page. -/
theorem empty_query_page (b : List Bytes) (avail : Nat → Bool) (c : Ctx) (count : Nat) (hcount : 1 ≤ count)
    (hfs : c.fs = []) (ids : List Nat) (hids : ∀ id ∈ ids, id < two256)
    (hvisit : (afterSeek b c.seek).takeWhile (fun k => k.head? = some 0) = ids.map keyID) :
    let r := search b avail c count
    let av := (ids.filter avail).map (fun id => (⟨id, []⟩ : Item))
    r.err = false ∧ r.items = av.take count ∧ (r.cursor = none → av.length ≤ count) ∧
      (∀ cur, r.cursor = some cur → r.items.length = count ∧ ∃ it, r.items.getLast? = some it ∧ cur = oidBytes it.id) := by
  have h := scanUnfiltered_spec avail count hcount ids [] hids (Nat.zero_le _)
  simp only [List.reverse_nil, List.nil_append, List.length_nil, Nat.sub_zero] at h
  unfold search searchUnfiltered
  simp only [hfs, List.isEmpty_nil, if_true, hvisit]
  exact h

/-! ### non-vacuity: a concrete bucket, query and visited segment meeting every hypothesis -/

def exOid (n : Nat) : Bytes := List.replicate 31 0 ++ [n]

/-- the bucket of three objects with attribute `a` = "ab", "ac", "b" (ids 1, 2, 3), as the code lays it out. -/
def exB : List Bytes :=
  [0 :: exOid 1, 0 :: exOid 2, 0 :: exOid 3,
   2 :: 97 :: 0 :: ([97, 98] ++ 0 :: exOid 1), 2 :: 97 :: 0 :: ([97, 99] ++ 0 :: exOid 2), 2 :: 97 :: 0 :: ([98] ++ 0 :: exOid 3),
   3 :: (exOid 1 ++ 97 :: 0 :: [97, 98]), 3 :: (exOid 2 ++ 97 :: 0 :: [97, 99]), 3 :: (exOid 3 ++ 97 :: 0 :: [98])]

def exO1 : Obj := ⟨1, [([97], [97, 98])], true⟩
def exO2 : Obj := ⟨2, [([97], [97, 99])], true⟩
def exO3 : Obj := ⟨3, [([97], [98])], true⟩
/-- `a PREFIX "a"`, attribute `a` requested. -/
def exFs : List Filter := [⟨[97], .pfx, [97]⟩]
def exCtx : Ctx := { fs := [{ f := ⟨[97], .pfx, [97]⟩ }], attrs := [[97]], pref := [2, 97, 0], seek := [2, 97, 0, 97] }
def exVal (o : Obj) : Bytes := (lookup o [97]).getD []
def exKey (o : Obj) : Bytes := keyPlain [97] (exVal o) o.id

example : (match preprocess exFs [[97]] none with
    | .ok c => decide (c.seek = exCtx.seek) && decide (c.pref = exCtx.pref) | _ => false) = true := by decide +kernel

/-- page size 1 from the start: the first match and a cursor; the early exit happens at "b". -/
example : search exB (fun _ => true) exCtx 1 =
    { items := [⟨1, [[97, 98]]⟩], cursor := some (97 :: 0 :: ([97, 98] ++ 0 :: exOid 1)), err := false } := by
  decide +kernel
/-- with object 1 removed the page is object 2 and there is no cursor. -/
example : search exB (fun id => id != 1) exCtx 1 = { items := [⟨2, [[97, 99]]⟩], cursor := none, err := false } := by
  decide +kernel

example : PlainCtx exCtx := by
  have hk : kindOf [97] = .plain := by decide +kernel
  refine ⟨by decide, ?_, ?_, ?_⟩
  · intro idx p hp hi
    obtain rfl := List.mem_singleton.1 (List.mem_of_getElem? hp)
    exact absurd (cop_isInt_op _ hi) (by decide)
  · intro p hp; obtain rfl := List.mem_singleton.1 hp; exact hk
  · intro a ha; obtain rfl := List.mem_singleton.1 ha; exact hk

example : IndexSegment exB (fun _ => true) exCtx [exO1, exO2, exO3] exVal exKey := by
  have hid : (hctx exB (fun _ => true) exCtx).idIter = false := by decide +kernel
  have hint : (hctx exB (fun _ => true) exCtx).intPrim = false := by decide +kernel
  refine ⟨by decide +kernel, by decide +kernel, by decide, ?_, by decide +kernel, by decide, ?_, ?_⟩
  · intro o ho
    rw [entryRel_bytes hid hint]
    revert o
    decide
  · unfold bLe; decide
  · unfold LB bLe; decide +kernel

end NeoFS.Search
