import NeoFS.Model.Precision
/-!
# C39 — converting GAS amounts between precisions never creates value or wraps

Theorems are for every `Int` amount — of either sign — and every precision (only the two refuted claims bound it by 18).
-/
namespace NeoFS.Precision

theorem factor_pos (p : Nat) : 0 < factor p := Int.pow_pos (by decide)

theorem factor_le_pow {p k : Nat} (h1 : p ≤ 8 + k) (h2 : 8 ≤ p + k) : factor p ≤ (10 : Int) ^ k := by
  have h : (if p < 8 then 8 - p else p - 8) ≤ k := by
    split
    · exact Nat.sub_le_iff_le_add'.mpr h2
    · exact Nat.sub_le_iff_le_add'.mpr h1
  exact Int.ofNat_le.mpr (Nat.pow_le_pow_right (by decide) h)

theorem toBalanceZ_of_lt {p : Nat} (h : p < 8) (n : Int) : toBalanceZ p n = n / factor p := by
  simp [toBalanceZ, convert, h]

theorem toBalanceZ_of_ge {p : Nat} (h : 8 ≤ p) (n : Int) : toBalanceZ p n = n * factor p := by
  simp [toBalanceZ, convert, Nat.not_lt.mpr h]

theorem toFixed8Z_of_gt {p : Nat} (h : 8 < p) (n : Int) : toFixed8Z p n = n / factor p := by
  simp [toFixed8Z, convert, h]

theorem toFixed8Z_of_le {p : Nat} (h : p ≤ 8) (n : Int) : toFixed8Z p n = n * factor p := by
  simp [toFixed8Z, convert, Nat.not_lt.mpr h]

/-- The round trip is exact whenever the balance precision is at least the main-net one. -/
theorem exact_when_finer (p : Nat) (n : Int) (hp : 8 ≤ p) : toFixed8Z p (toBalanceZ p n) = n := by
  rw [toBalanceZ_of_ge hp]
  rcases Nat.lt_or_eq_of_le hp with h | rfl
  · rw [toFixed8Z_of_gt h, Int.mul_ediv_cancel _ (Int.ne_of_gt (factor_pos p))]
  · rw [toFixed8Z_of_le (Nat.le_refl 8)]
    exact (Int.mul_one _).trans (Int.mul_one n)

/-- Main-net precision → balance precision → back never yields more than the original amount — for EVERY
integer amount, negative ones included: `big.Int.Div` is the Euclidean division, which for the positive
factor rounds towards minus infinity, so `(n / f) * f ≤ n` whatever the sign of `n` (Go's truncating `/`
would round a negative non-multiple UP and give more). -/
theorem roundtrip_le (p : Nat) (n : Int) : toFixed8Z p (toBalanceZ p n) ≤ n := by
  by_cases h : p < 8
  · rw [toBalanceZ_of_lt h, toFixed8Z_of_le (Nat.le_of_lt h)]
    exact Int.ediv_mul_le n (Int.ne_of_gt (factor_pos p))
  · exact Int.le_of_eq (exact_when_finer p n (Nat.not_lt.mp h))

def inInt64 (x : Int) : Prop := -9223372036854775808 ≤ x ∧ x < 9223372036854775808

theorem wrap64_of_inInt64 {x : Int} (h : inInt64 x) : wrap64 x = x := by
  unfold wrap64 inInt64 at *
  rw [Int.emod_eq_of_lt (by omega) (by omega)]
  omega

/-- the lower bound is `-2^63 - 2^64` -/
theorem wrap64_of_lt (x : Int) (h1 : -27670116110564327424 ≤ x) (h2 : x < -9223372036854775808) :
    wrap64 x = x + 18446744073709551616 := by
  unfold wrap64
  rw [← Int.add_mul_emod_self_left _ 18446744073709551616 1, Int.emod_eq_of_lt (by omega) (by omega)]
  omega

/-- The full claim of the property: no amount below 2^53 overflows, for any precision 0..18. -/
def C39_full : Prop :=
  ∀ p : Nat, p ≤ 18 → ∀ n : Int, 0 ≤ n → n < 9007199254740992 →
    toBalance p n = toBalanceZ p n ∧ toFixed8 p n = toFixed8Z p n

/-- It is false: with the real balance precision 12 the amount 2^53-1 wraps to a negative number. -/
theorem C39_counterexample : ¬ C39_full := by
  intro h
  have := (h 12 (by decide) 9007199254740991 (by decide) (by decide)).1
  revert this
  decide

example : toBalance 12 9007199254740991 = -2161727821137848080 := by decide

theorem inInt64_ediv_factor (p : Nat) {n : Int} (hn : inInt64 n) : inInt64 (n / factor p) := by
  have hf := factor_pos p
  by_cases h0 : 0 ≤ n
  · exact ⟨Int.le_trans (by decide) (Int.ediv_nonneg h0 (Int.le_of_lt hf)), Int.lt_of_le_of_lt (Int.ediv_le_self _ h0) hn.2⟩
  · have hneg : n < 0 := Int.not_le.mp h0
    have h1 : n * factor p ≤ n * 1 := Int.mul_le_mul_of_nonpos_left (Int.le_of_lt hneg) hf
    rw [Int.mul_one] at h1
    exact ⟨Int.le_trans hn.1 (Int.le_ediv_of_mul_le hf h1),
      Int.lt_trans (Int.ediv_neg_of_neg_of_pos hneg hf) (by decide)⟩

theorem no_wrap_of_fits (p : Nat) {n : Int} (hn : inInt64 n) (hfit : inInt64 (n * factor p)) :
    toBalance p n = toBalanceZ p n ∧ toFixed8 p n = toFixed8Z p n := by
  have hdiv := inInt64_ediv_factor p hn
  have hc : ∀ d, inInt64 (convert n (factor p) d) := fun d => by cases d <;> assumption
  exact ⟨wrap64_of_inInt64 (hc _), wrap64_of_inInt64 (hc _)⟩

/-- What does hold: no wrap as long as amount × factor fits int64 (for the division direction: always). -/
theorem no_wrap_partial (p : Nat) (n : Int) (hn : 0 ≤ n) (hn2 : n < 9223372036854775808)
    (hfit : n * factor p < 9223372036854775808) :
    toBalance p n = toBalanceZ p n ∧ toFixed8 p n = toFixed8Z p n :=
  no_wrap_of_fits p ⟨Int.le_trans (by decide) hn, hn2⟩
    ⟨Int.le_trans (by decide) (Int.mul_nonneg hn (Int.le_of_lt (factor_pos p))), hfit⟩

/-- No wrap for negative amounts either: as long as the magnitude of amount × factor fits int64. -/
theorem no_wrap_partial_neg (p : Nat) (n : Int) (hn : n ≤ 0) (hn2 : -9223372036854775808 ≤ n)
    (hfit : -9223372036854775808 ≤ n * factor p) :
    toBalance p n = toBalanceZ p n ∧ toFixed8 p n = toFixed8Z p n :=
  no_wrap_of_fits p ⟨hn2, Int.lt_of_le_of_lt hn (by decide)⟩
    ⟨hfit, Int.lt_of_le_of_lt (Int.mul_nonpos_of_nonpos_of_nonneg hn (Int.le_of_lt (factor_pos p))) (by decide)⟩

/-- The exact boundary for the Fixed8 → balance direction: for p ≤ 11 every amount below 2^53 fits. -/
theorem no_wrap_upto_11 (p : Nat) (hp : 8 ≤ p) (hp2 : p ≤ 11) (n : Int) (hn : 0 ≤ n) (hn2 : n < 9007199254740992) :
    toBalance p n = toBalanceZ p n := by
  have hf : n * factor p ≤ n * 10 ^ 3 := Int.mul_le_mul_of_nonneg_left (factor_le_pow hp2 (by omega)) hn
  exact (no_wrap_partial p n hn (by omega) (by omega)).1

/-! ### The int64 level: every amount the API accepts, negative ones included -/

/-- As the Go methods compute it (int64 in, int64 out): the round trip of ANY int64 amount, of either sign,
never yields more than the original, as long as neither of the two conversions wraps. -/
theorem roundtrip_le_int64 (p : Nat) (n : Int) (h1 : inInt64 (toBalanceZ p n))
    (h2 : -9223372036854775808 ≤ toFixed8Z p (toBalanceZ p n)) (hn : n < 9223372036854775808) :
    toFixed8 p (toBalance p n) ≤ n := by
  have hle := roundtrip_le p n
  unfold toFixed8 toBalance
  rw [wrap64_of_inInt64 h1, wrap64_of_inInt64 ⟨h2, Int.lt_of_le_of_lt hle hn⟩]
  exact hle

/-- The exact region where the CURRENT code yields more than the original for a coarser balance precision
(`p < 8`): exactly the int64 amounts whose multiple of the factor below them lies below MinInt64 (fewer
than `factor` amounts next to MinInt64) — there the multiplication of the way back wraps to a positive
number.  Everywhere else, for either sign, the result is at most the original. -/
theorem roundtrip_more_iff (p : Nat) (hp : p < 8) (n : Int) (hn : inInt64 n) :
    n < toFixed8 p (toBalance p n) ↔ n / factor p * factor p < -9223372036854775808 := by
  have hf := factor_pos p
  have hfl : factor p ≤ 10 ^ 8 := factor_le_pow (by omega) (by omega)
  have hd := inInt64_ediv_factor p hn
  -- the multiple `m` of the factor just below `n` is less than `factor p ≤ 10^8` away from it
  have hm1 : n / factor p * factor p ≤ n := Int.ediv_mul_le n (Int.ne_of_gt hf)
  have hm2 : n < n / factor p * factor p + factor p := by
    have := Int.lt_ediv_add_one_mul_self n hf
    rwa [Int.add_mul, Int.one_mul] at this
  unfold toFixed8 toBalance
  rw [toBalanceZ_of_lt hp, wrap64_of_inInt64 hd, toFixed8Z_of_le (Nat.le_of_lt hp)]
  generalize n / factor p * factor p = m at *
  obtain ⟨hn1, hn2⟩ := hn
  by_cases hlow : m < -9223372036854775808
  · rw [wrap64_of_lt m (by omega) hlow]
    exact ⟨fun _ => hlow, fun _ => by omega⟩
  · rw [wrap64_of_inInt64 ⟨Int.not_lt.mp hlow, Int.lt_of_le_of_lt hm1 hn2⟩]
    exact ⟨fun h => absurd h (Int.not_lt.mpr hm1), fun h => absurd h hlow⟩

/-- The statement for all int64 amounts without the no-wrap hypothesis of the way back … -/
def C39_roundtrip_full : Prop :=
  ∀ p : Nat, p ≤ 18 → ∀ n : Int, inInt64 n → inInt64 (toBalanceZ p n) → toFixed8 p (toBalance p n) ≤ n

/-- … is false for the current code: precision 6, MinInt64 comes back as 9223372036854775716. -/
theorem C39_roundtrip_counterexample : ¬ C39_roundtrip_full := by
  intro h
  have := h 6 (by decide) (-9223372036854775808) (by unfold inInt64; decide) (by unfold inInt64; decide)
  revert this
  decide

example : toFixed8 6 (toBalance 6 (-9223372036854775808)) = 9223372036854775716 := by decide
example : toFixed8 6 (toBalance 6 (-150)) = -200 := by decide   -- Euclidean: rounds down, never more
example : toBalance 6 (-150) = -2 := by decide
example : toFixed8 12 (-1) = -1 := by decide
example : -9223372036854775808 / factor 6 * factor 6 < -9223372036854775808 := by decide

/-! ### Conversions overlapping in time (copies of one converter in two processors' worker pools) -/

/-- Whatever the order in which the workers complete their requests (any schedule: any order, any
repetition, indices out of range ignored), every completed request has the result of the sequential run. -/
theorem concurrent_eq_sequential (p : Nat) (tasks : List Task) (sched : List Nat) :
    ∀ x ∈ runSched p tasks sched, (runSeq p tasks)[x.1]? = some x.2 := by
  intro x hx
  unfold runSched at hx
  simp only [List.mem_filterMap] at hx
  obtain ⟨i, _, hi⟩ := hx
  cases ht : tasks[i]? with
  | none => simp [ht] at hi
  | some t =>
    simp only [ht, Option.map_some, Option.some.injEq] at hi
    subst hi
    simp [runSeq, List.getElem?_map, ht]

/-- … and every request that is scheduled completes with it. -/
theorem concurrent_complete (p : Nat) (tasks : List Task) (sched : List Nat) (i : Nat) (t : Task)
    (hi : tasks[i]? = some t) (hs : i ∈ sched) : (i, eval p t) ∈ runSched p tasks sched := by
  unfold runSched
  simp only [List.mem_filterMap]
  exact ⟨i, hs, by simp [hi]⟩

example : runSched 12 [⟨true, 1⟩, ⟨false, -10001⟩] [1, 0, 1, 0, 7] = [(1, -2), (0, 10000), (1, -2), (0, 10000)] := by decide

end NeoFS.Precision
