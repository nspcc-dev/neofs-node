import NeoFS.Lemmas.ResyncPlain
/-!
# C18 — rebuilding metadata from blobs gives the same object statuses in any blob order

Model: `Model/Resync.lean` (`resync epoch order` = `Reset` + batches of `resyncBatchSize` through `PutBatch`
with its skip-without-roll-back rule) over the metabase model `Model/Meta.lean`.

The full statement (`C18_full`) is FALSE for the current code: `C18_counterexample` and the theorems
`order_dependent_*` give concrete stored sets (replayed on the real metabase from `corpus/resync/`).  What is
proved for ALL sets and ALL permutations:

* `resync_perm_invariant_partial` — inside the fragment `plainObjs` (any number of containers; per container
  unsplit regular objects, tombstones and locks where no tombstone/lock targets a tombstone or lock, no id is
  the target of both a tombstone and a lock, and a tombstone's target carries no expiration) the rebuild never
  aborts and `Exists` / `IsLocked` of every address at every epoch are the same for every blob order;
* `resync_gc_reclaims_partial` — in that fragment every stored object is indexed or carries a garbage key and
  every address reported as removed carries a garbage key (`GetGarbage` lists it, GC reclaims the payload);
* `resync_eq_incremental_partial` — for EVERY history of puts at one epoch (any objects, split chains included)
  the rebuild from the accepted objects in history order reproduces the incremental metabase exactly;
* `resync_interleaving_partial` — for ANY objects: the rebuilt bucket of a container depends only on the order
  of that container's own blobs (buckets of different containers commute), as long as no put aborts.
-/
namespace NeoFS.Resync
open NeoFS.Meta

/-- **The property at full strength**: for every epoch, every stored set (each address once) and every
permutation of the blob order: the rebuild ends alike, every address has the same views at every epoch, every
stored blob is known to the rebuilt metabase (indexed or listed as garbage — otherwise GC can never reclaim
it) and every address reported as removed carries a garbage key. -/
def C18_full : Prop :=
  ∀ (epoch : Nat) (objs objs' : List Obj), objs.Perm objs' → (objs.map Obj.addr).Nodup →
    (resync epoch objs).2 = (resync epoch objs').2 ∧
    (∀ cn id e, id ≠ 0 → view (resync epoch objs).1 cn id e = view (resync epoch objs').1 cn id e) ∧
    (∀ o ∈ objs, known (resync epoch objs).1 o.addr.1 o.addr.2 = true) ∧
    (∀ cn id e, (dbExists (resync epoch objs).1 cn id e).2 = .alreadyRemoved →
      hasGarbageKey (resync epoch objs).1 cn id = true)

/-! ### the witnesses -/

def par9 : Hdr := { id := 9, typ := .regular, size := 40 }
def child1 : Hdr := { id := 1, typ := .regular, size := 5, parentId := 9, firstId := 1 }
def child2 : Hdr := { id := 2, typ := .regular, size := 6, parentId := 9, firstId := 1 }
def ts9 : Hdr := { id := 7, typ := .tombstone, assoc := 9 }
/-- the two children of split object 9 (each embeds the parent header), then the tombstone of 9 -/
def kidsFirst : List Obj := [(1, [child1, par9]), (1, [child2, par9]), (1, [ts9])]
/-- the same blobs, the tombstone met first -/
def tombFirst : List Obj := [(1, [ts9]), (1, [child1, par9]), (1, [child2, par9])]

/-- (a) A tombstone met BEFORE the children of a split object: each child is skipped as "already removed",
never indexed and gets no garbage key — `Exists` says "not found" where the other order says "removed", and the
child's blob is unknown to the metabase: GC can never reclaim it. -/
theorem order_dependent_tombstone_vs_children :
    view (resync 0 kidsFirst).1 1 1 0 = ((false, .alreadyRemoved), false) ∧
    view (resync 0 tombFirst).1 1 1 0 = ((false, .ok), false) ∧
    known (resync 0 kidsFirst).1 1 1 = true ∧ known (resync 0 tombFirst).1 1 1 = false := by decide +kernel

def obj3 : Hdr := { id := 3, typ := .regular, size := 5 }
def ts3 : Hdr := { id := 7, typ := .tombstone, assoc := 3 }
def lock3 : Hdr := { id := 8, typ := .lock, assoc := 3 }

/-- (b) LOCK versus TOMBSTONE of one target: whichever is met first wins. -/
theorem order_dependent_lock_vs_tombstone :
    view (resync 0 [(1, [obj3]), (1, [ts3]), (1, [lock3])]).1 1 3 0 = ((false, .alreadyRemoved), false) ∧
    view (resync 0 [(1, [obj3]), (1, [lock3]), (1, [ts3])]).1 1 3 0 = ((true, .ok), true) := by decide +kernel

def par9exp : Hdr := { id := 9, typ := .regular, size := 40, exp := some "1" }
def lock9 : Hdr := { id := 8, typ := .lock, assoc := 9 }

/-- (c) An expired split object and its LOCK (epoch 5, expiration 1): the second child met before the lock is
skipped as "expired" and never indexed; met after the lock it is indexed and available. -/
theorem order_dependent_expired_vs_lock :
    view (resync 5 [(1, [child1, par9exp]), (1, [child2, par9exp]), (1, [lock9])]).1 1 2 5 = ((false, .ok), false) ∧
    view (resync 5 [(1, [lock9]), (1, [child1, par9exp]), (1, [child2, par9exp])]).1 1 2 5 = ((true, .ok), false) ∧
    known (resync 5 [(1, [child1, par9exp]), (1, [child2, par9exp]), (1, [lock9])]).1 1 2 = false := by decide +kernel

def ts6 : Hdr := { id := 6, typ := .tombstone, assoc := 3 }
def lock6 : Hdr := { id := 7, typ := .lock, assoc := 6 }

/-- (d) A lock whose target id is a tombstone object (accepted while the target was not stored yet): met
after its target it is refused with "lock non regular", which `PutBatch` does not skip — the whole rebuild
FAILS in this order and succeeds in the other. -/
theorem order_dependent_abort :
    (resync 0 [(1, [ts6]), (1, [lock6])]).2 = .lockNonRegular ∧ (resync 0 [(1, [lock6]), (1, [ts6])]).2 = .ok := by
  decide +kernel

/-- (e) A child that carries only its parent's ID (no embedded header) met after the parent's tombstone IS
indexed and reported removed — but gets no garbage key: `GetGarbage` never lists it. -/
theorem order_dependent_unmarked_child :
    dbExists (resync 0 [(1, [ts9]), (1, [child2])]).1 1 2 0 = (false, .alreadyRemoved) ∧
    hasGarbageKey (resync 0 [(1, [ts9]), (1, [child2])]).1 1 2 = false ∧
    hasGarbageKey (resync 0 [(1, [child2]), (1, [ts9])]).1 1 2 = true := by decide +kernel

/-- **The full statement is false for the current code.** -/
theorem C18_counterexample : ¬ C18_full := by
  intro h
  have h1 := (h 0 kidsFirst tombFirst (by decide) (by decide)).2.1 1 1 0 (by decide)
  rw [order_dependent_tombstone_vs_children.1, order_dependent_tombstone_vs_children.2.1] at h1
  cases h1

/-- also the reclaim half alone fails (witness (a): a stored blob the rebuilt metabase does not know) -/
theorem C18_counterexample_reclaim :
    ¬ (∀ (epoch : Nat) (objs : List Obj), (objs.map Obj.addr).Nodup →
        ∀ o ∈ objs, known (resync epoch objs).1 o.addr.1 o.addr.2 = true) := by
  intro h
  have h1 : known (resync 0 tombFirst).1 1 1 = true := h 0 tombFirst (by decide) (1, [child1, par9]) (by decide)
  rw [order_dependent_tombstone_vs_children.2.2.2] at h1
  cases h1

/-! ### what holds for all sets and all orders -/

/-- **Order independence inside the fragment** — for every epoch of the rebuild, every list `hs` of unsplit
objects (container, header) satisfying the decidable predicate `plainObjs` and EVERY permutation `hs'` of it:
both rebuilds succeed and `DB.Exists` and `DB.IsLocked` answer the same for every address (non-zero id) at
every later epoch. -/
theorem resync_perm_invariant_partial (epoch : Nat) (hs hs' : List (Nat × Hdr)) (hperm : hs.Perm hs')
    (hf : plainObjs hs = true) :
    (resync epoch (toObjs hs)).2 = .ok ∧ (resync epoch (toObjs hs')).2 = .ok ∧
    ∀ cn id e, id ≠ 0 → view (resync epoch (toObjs hs)).1 cn id e = view (resync epoch (toObjs hs')).1 cn id e := by
  have hP := plainObjs_cn hs hf
  obtain ⟨d, hd, hinv⟩ := plain_final epoch hs hs hP (List.Perm.refl _)
  obtain ⟨d', hd', hinv'⟩ := plain_final epoch hs hs' hP hperm
  rw [hd, hd']
  refine ⟨rfl, rfl, fun cn id e hid => ?_⟩
  rw [view_eq_viewC, view_eq_viewC]
  unfold viewC
  obtain ⟨h1, h2⟩ := plain_views_eq (hP cn) (hinv cn) (hinv' cn) e id hid
  simp only
  rw [h1, h2, (hinv cn).nogc, (hinv' cn).nogc]

/-- **Reclaim inside the fragment** — after the rebuild from any permutation `hs'`: every stored object is
known to the metabase (indexed, or listed as garbage) and every address `Exists` reports as removed carries a
garbage key, i.e. `GetGarbage` lists it and the GC deletes its payload. -/
theorem resync_gc_reclaims_partial (epoch : Nat) (hs hs' : List (Nat × Hdr)) (hperm : hs.Perm hs')
    (hf : plainObjs hs = true) :
    (∀ p ∈ hs', known (resync epoch (toObjs hs')).1 p.1 p.2.id = true) ∧
    (∀ cn id e, (dbExists (resync epoch (toObjs hs')).1 cn id e).2 = .alreadyRemoved →
      hasGarbageKey (resync epoch (toObjs hs')).1 cn id = true) := by
  have hP := plainObjs_cn hs hf
  obtain ⟨d', hd', hinv'⟩ := plain_final epoch hs hs' hP hperm
  rw [hd']
  constructor
  · intro p hp
    rw [known_bucket]
    exact plain_known (hinv' p.1) p.2 ((mem_hdrsIn hs p.1 p.2).mpr (hperm.mem_iff.mpr hp))
  · intro cn id e hrem
    rw [dbExists_bucket] at hrem
    rw [hasGarbageKey_bucket]
    exact plain_removed_has_key (hP cn) (hinv' cn) e id
      (status_of_exists_removed _ id e true (hinv' cn).nogc hrem)

/-- **The rebuild reproduces incremental construction** — for EVERY history of `DB.Put`s at one epoch (any
objects: split chains with parent headers, EC parts, links, tombstones, locks, refused puts included): the
rebuild from the accepted objects, met in history order, succeeds and gives exactly the metabase the history
built (every bucket, every counter). -/
theorem resync_eq_incremental_partial (epoch : Nat) (history : List Obj) :
    resync epoch (acceptedBy epoch [] history) = (incremental epoch [] history, .ok) :=
  (resyncB_of_runSeq resyncBatchSize epoch (by decide) _ _ (runSeq_acceptedBy epoch history [])).1

/-- **Containers do not interact** — for ANY two blob orders (any objects) in which every container's own
blobs come in the same relative order and no put aborts: every view of every address is the same. -/
theorem resync_interleaving_partial (epoch : Nat) (objs objs' : List Obj)
    (hsame : ∀ cn, chainsOf objs cn = chainsOf objs' cn)
    (hn : noAbort epoch objs = true) (hn' : noAbort epoch objs' = true) :
    ∀ cn id e, view (resync epoch objs).1 cn id e = view (resync epoch objs').1 cn id e := by
  intro cn id e
  unfold noAbort at hn hn'
  obtain ⟨d, hd⟩ := Option.isSome_iff_exists.mp hn
  obtain ⟨d', hd'⟩ := Option.isSome_iff_exists.mp hn'
  have h1 := resyncB_of_runSeq resyncBatchSize epoch (by decide) _ d hd
  have h2 := resyncB_of_runSeq resyncBatchSize epoch (by decide) _ d' hd'
  unfold resync
  rw [h1.1, h2.1, view_eq_viewC, view_eq_viewC, h1.2, h2.2]
  unfold resyncFold
  rw [bucket_of_fold, bucket_of_fold, hsame cn]

/-! ### non-vacuity -/

/-- two containers; regular objects with and without expiration, a tombstone and its target, two locks of one
target, a tombstone and a lock of ids nothing is stored under -/
def exPlain : List (Nat × Hdr) :=
  [(1, { id := 1, typ := .regular, size := 10 }), (1, { id := 7, typ := .tombstone, assoc := 1, exp := some "9" }),
   (1, { id := 2, typ := .regular, size := 3, exp := some "2" }), (1, { id := 5, typ := .lock, assoc := 2 }),
   (1, { id := 6, typ := .lock, assoc := 2, exp := some "4" }), (1, { id := 8, typ := .tombstone, assoc := 11 }),
   (2, { id := 1, typ := .regular, size := 4 }), (2, { id := 3, typ := .lock, assoc := 12 })]

example : plainObjs exPlain = true := by decide +kernel
/-- the hypothesis is met by a set on which the order matters for the bucket contents: the target met after
its tombstone is not indexed, met before it is — the views agree nevertheless -/
example :
    (known (resync 3 (toObjs exPlain)).1 1 1, known (resync 3 (toObjs exPlain.reverse)).1 1 1) = (true, true) ∧
    ((resync 3 (toObjs exPlain)).1 == (resync 3 (toObjs exPlain.reverse)).1) = false ∧
    view (resync 3 (toObjs exPlain)).1 1 1 3 = ((false, .alreadyRemoved), false) ∧
    view (resync 3 (toObjs exPlain)).1 1 2 3 = ((true, .ok), true) := by decide +kernel
example : acceptedBy 0 [] tombFirst = [(1, [ts9])] ∧ acceptedBy 0 [] kidsFirst = kidsFirst := by decide +kernel
example : noAbort 0 kidsFirst = true ∧ noAbort 0 [(1, [ts6]), (1, [lock6])] = false := by decide +kernel
/-- the fragment's predicate rejects each of the witnesses above -/
example : plainObjs [(1, obj3), (1, ts3), (1, lock3)] = false ∧ plainObjs [(1, ts6), (1, lock6)] = false ∧
    plainObjs [(1, child2), (1, ts9)] = false := by decide +kernel

end NeoFS.Resync
