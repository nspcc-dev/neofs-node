import NeoFS.Lemmas.Engine
/-!
# C20 — engine reads find every stored object despite shard order, modes and failures

The read algorithm (`getWith` for `Eng.get`; `Eng.head` is its first pass, `pass1`, alone) is analysed for ALL
engines (any number of shards in any state), ALL visiting orders without repetition, ALL modes and ALL injected
failures, error counters and thresholds (so shards may be switched to degraded-read-only in the middle of a read).
-/
namespace NeoFS.Engine

/-- the answer ends the read with result `R` -/
def Stops (R : GetR) : GetR → Prop
  | .ok o => R = .ok o
  | .err er => classify er = .stop R

/-- the answer lets the read go on to the next shard (not found here, or a counted failure) -/
def Passes : GetR → Prop
  | .ok _ => False
  | .err er => classify er = .skip ∨ classify er = .count

/-- the answer neither yields the object nor reports "metadata without object" -/
def NoObj : GetR → Prop
  | .ok _ => False
  | .err er => er ≠ .metaNF ∧ er ≠ .metaIO

/-- **Whatever the other shards do, the first shard answer that ends the read decides it.**  If some shard of
the order gives an answer that ends the read with `R`, and every shard either does the same or lets the read go
on (not found, failure), the first pass ends with `R` — for every order, every mode, every failure; the
shards are observed in the state `e0` they had before the read (failures counted during the read may switch
already visited shards to degraded mode). -/
theorem pass1_stops (ans : Nat → Shard → Bool → GetR) (R : GetR) (e0 : Eng) :
    ∀ (ord : List Nat) (e : Eng) (st : P1), ord.Nodup →
      (∀ j ∈ ord, e.shards[j]? = e0.shards[j]?) →
      (∃ h ∈ ord, ∃ sh, e0.shards[h]? = some sh ∧ Stops R (ans h sh sh.mode.noMeta)) →
      (∀ i ∈ ord, ∀ s, e0.shards[i]? = some s →
        Stops R (ans i s s.mode.noMeta) ∨ Passes (ans i s s.mode.noMeta)) →
      ∃ e' st', pass1 ans ord e st = (e', some R, st') := by
  intro ord
  induction ord with
  | nil => intro e st _ _ ⟨h, hm, _⟩ _; cases hm
  | cons i rest ih =>
    intro e st hnd hag hhold hall
    have hi : e.shards[i]? = e0.shards[i]? := hag i List.mem_cons_self
    have hstop : ∀ s, e0.shards[i]? = some s → Stops R (ans i s s.mode.noMeta) →
        ∃ e' st', pass1 ans (i :: rest) e st = (e', some R, st') := by
      intro s hs h
      rw [pass1, hi, hs]
      simp only
      cases hr : ans i s s.mode.noMeta with
      | ok o => rw [hr] at h; exact ⟨_, _, by rw [show R = .ok o from h]⟩
      | err er => rw [hr] at h; simp only [show classify er = .stop R from h]; exact ⟨_, _, rfl⟩
    obtain ⟨h, hm, sh, hsh, hst⟩ := hhold
    rcases List.mem_cons.mp hm with rfl | hm'
    · exact hstop sh hsh hst
    · -- the shard that stops the read is in `rest`: shard `i` stops it too, or lets it go on
      have hrest : ∀ (e2 : Eng) (st2 : P1), (∀ j ∈ rest, e2.shards[j]? = e0.shards[j]?) →
          ∃ e' st', pass1 ans rest e2 st2 = (e', some R, st') := fun e2 st2 hag2 =>
        ih e2 st2 (List.nodup_cons.mp hnd).2 hag2 ⟨h, hm', sh, hsh, hst⟩
          (fun j hj => hall j (List.mem_cons_of_mem i hj))
      have hag' : ∀ j ∈ rest, e.shards[j]? = e0.shards[j]? := fun j hj => hag j (List.mem_cons_of_mem i hj)
      cases hs : e0.shards[i]? with
      | none => rw [pass1, hi, hs]; exact hrest e st hag'
      | some s =>
        rcases hall i List.mem_cons_self s hs with hS | hP
        · exact hstop s hs hS
        · rw [pass1, hi, hs]
          simp only
          cases hr : ans i s s.mode.noMeta with
          | ok o => rw [hr] at hP; exact hP.elim
          | err er =>
            rw [hr] at hP
            rcases hP with hc | hc
            · simp only [hc]; exact hrest e _ hag'
            · simp only [hc]; exact hrest _ _ (report_agree er hnd hag)

/-- **No shard answer with the object and no "metadata without object" ⇒ the first pass yields no object and
does not open the second pass.** -/
theorem pass1_no_obj (ans : Nat → Shard → Bool → GetR) (e0 : Eng) :
    ∀ (ord : List Nat) (e : Eng) (st : P1), ord.Nodup →
      (∀ j ∈ ord, e.shards[j]? = e0.shards[j]?) →
      (∀ i ∈ ord, ∀ s, e0.shards[i]? = some s → NoObj (ans i s s.mode.noMeta)) →
      (∀ o, (pass1 ans ord e st).2.1 ≠ some (.ok o)) ∧ (pass1 ans ord e st).2.2.metaSh = st.metaSh := by
  intro ord
  induction ord with
  | nil => intro e st _ _ _; exact ⟨fun o h => (nomatch h), rfl⟩
  | cons i rest ih =>
    intro e st hnd hag hall
    have hi : e.shards[i]? = e0.shards[i]? := hag i List.mem_cons_self
    have hrest : ∀ (e2 : Eng) (st2 : P1), (∀ j ∈ rest, e2.shards[j]? = e0.shards[j]?) →
        (∀ o, (pass1 ans rest e2 st2).2.1 ≠ some (.ok o)) ∧ (pass1 ans rest e2 st2).2.2.metaSh = st2.metaSh :=
      fun e2 st2 hag2 => ih e2 st2 (List.nodup_cons.mp hnd).2 hag2 (fun j hj => hall j (List.mem_cons_of_mem i hj))
    have hag' : ∀ j ∈ rest, e.shards[j]? = e0.shards[j]? := fun j hj => hag j (List.mem_cons_of_mem i hj)
    cases hs : e0.shards[i]? with
    | none => rw [pass1, hi, hs]; exact hrest e st hag'
    | some s =>
      have hno := hall i List.mem_cons_self s hs
      rw [pass1, hi, hs]
      simp only
      cases hr : ans i s s.mode.noMeta with
      | ok o => rw [hr] at hno; exact hno.elim
      | err er =>
        rw [hr] at hno
        simp only [noteMeta_of_ne _ i er hno.1 hno.2]
        cases hc : classify er with
        | skip => exact hrest e _ hag'
        | count => exact hrest _ _ (report_agree er hnd hag)
        | stop r =>
          obtain ⟨x, rfl⟩ := classify_stop_err er r hc
          exact ⟨fun o h => (nomatch h), rfl⟩
        | split l p =>
          simp only
          split
          · exact ⟨fun o h => (nomatch h), rfl⟩
          · exact hrest e _ hag'

theorem getWith_stops (ans : Nat → Shard → Bool → GetR) (R : GetR) (e : Eng) (ord : List Nat) (hnd : ord.Nodup)
    (hhold : ∃ h ∈ ord, ∃ sh, e.shards[h]? = some sh ∧ Stops R (ans h sh sh.mode.noMeta))
    (hall : ∀ i ∈ ord, ∀ s, e.shards[i]? = some s →
      Stops R (ans i s s.mode.noMeta) ∨ Passes (ans i s s.mode.noMeta)) :
    (getWith ans e ord).2 = R := by
  obtain ⟨e', st', h⟩ := pass1_stops ans R e ord e {} hnd (fun _ _ => rfl) hhold hall
  unfold getWith
  rw [h]

theorem getWith_no_obj (ans : Nat → Shard → Bool → GetR) (e : Eng) (ord : List Nat) (hnd : ord.Nodup)
    (hall : ∀ i ∈ ord, ∀ s, e.shards[i]? = some s → NoObj (ans i s s.mode.noMeta)) (o : Obj) :
    (getWith ans e ord).2 ≠ .ok o := by
  have h := pass1_no_obj ans e ord e {} hnd (fun _ _ => rfl) hall
  unfold getWith
  generalize pass1 ans ord e {} = r at h
  obtain ⟨e1, r1, st1⟩ := r
  simp only at h
  cases r1 with
  | some r => simp only; intro hr; exact h.1 o (by rw [hr])
  | none =>
    simp only
    cases hsp : st1.split with
    | some m => simp
    | none =>
      have : st1.metaSh.isNone = true := by rw [h.2]; rfl
      simp [this]

/-- the shard hands out `o` for `id` in the first pass: its blob is readable and it is degraded (no metadata to
consult) or its metabase has the object indexed and available -/
def Shard.holds (s : Shard) (id ep : Nat) (o : Obj) : Prop :=
  s.failR = false ∧ s.blob id = some o ∧
    (s.mode.noMeta = true ∨ (s.status id ep = .avail ∧ (s.find id).isSome = true))

theorem Shard.get_of_holds (s : Shard) (id ep : Nat) (o : Obj) (h : s.holds id ep o) :
    s.get id ep s.mode.noMeta = .ok o := by
  obtain ⟨hf, hb, hm⟩ := h
  have hbg : s.blobGet id = .ok o := by simp [Shard.blobGet, hf, hb]
  cases hn : s.mode.noMeta with
  | true => rw [(s.get_noMeta id ep true hn).1, hbg]
  | false =>
    rw [hn] at hm
    have hl := hm.resolve_left Bool.false_ne_true
    rw [(s.get_live id ep hn hl.1 hl.2).2, hbg]

/-- every first-pass answer of a shard is the object it stores under the id, "removed"/"expired" exactly when
its metabase says so, or an answer that lets the read go on -/
theorem Shard.get_cases (s : Shard) (id ep : Nat) :
    (∃ o, s.get id ep s.mode.noMeta = .ok o ∧ s.holds id ep o) ∨
    (s.get id ep s.mode.noMeta = .err .removed ∧ s.mode.noMeta = false ∧ s.status id ep = .tomb) ∨
    (s.get id ep s.mode.noMeta = .err .expired ∧ s.mode.noMeta = false ∧ s.status id ep = .exp) ∨
    (Passes (s.get id ep s.mode.noMeta) ∧ ∀ o, ¬ s.holds id ep o) := by
  have hnoF : s.failR = true → ∀ o, ¬ s.holds id ep o := fun hf o h => by rw [h.1] at hf; cases hf
  have hnoB : s.blob id = none → ∀ o, ¬ s.holds id ep o := fun hb o h => by rw [h.2.1] at hb; cases hb
  cases hn : s.mode.noMeta with
  | true =>
    rw [(s.get_noMeta id ep true hn).1]
    rcases s.blobGet_cases id with ⟨o, hg, hf, hb⟩ | ⟨hg, hf⟩ | ⟨hg, hb⟩
    · exact Or.inl ⟨o, hg, hf, hb, Or.inl hn⟩
    · rw [hg]; exact Or.inr (Or.inr (Or.inr ⟨Or.inr rfl, hnoF hf⟩))
    · rw [hg]; exact Or.inr (Or.inr (Or.inr ⟨Or.inl rfl, hnoB hb⟩))
  | false =>
    by_cases hl : s.status id ep = .avail ∧ (s.find id).isSome = true
    · -- the blob is read; a failure becomes "metadata without object"
      rw [(s.get_live id ep hn hl.1 hl.2).2]
      rcases s.blobGet_cases id with ⟨o, hg, hf, hb⟩ | ⟨hg, hf⟩ | ⟨hg, hb⟩
      · rw [hg]; exact Or.inl ⟨o, rfl, hf, hb, Or.inr hl⟩
      · rw [hg]; exact Or.inr (Or.inr (Or.inr ⟨Or.inr rfl, hnoF hf⟩))
      · rw [hg]; exact Or.inr (Or.inr (Or.inr ⟨Or.inl rfl, hnoB hb⟩))
    · obtain ⟨er, hg, _, her⟩ := s.get_blocked id ep hn hl
      rw [hg]
      rcases her with rfl | ⟨rfl, hst⟩ | ⟨rfl, hst⟩
      · exact Or.inr (Or.inr (Or.inr ⟨Or.inl rfl,
          fun o h => hl (h.2.2.resolve_left (by rw [hn]; exact Bool.false_ne_true))⟩))
      · exact Or.inr (Or.inl ⟨rfl, rfl, hst⟩)
      · exact Or.inr (Or.inr (Or.inl ⟨rfl, rfl, hst⟩))

/-- **An error or a degraded mode on one shard never hides an object held by another shard.**  For every
engine, every order (no shard twice), every mode of every shard, every injected failure and every error
threshold: if some shard of the order holds the object (readable blob; metadata says available, or the shard
is degraded) and no shard with a metabase reports it removed or expired, `Get` returns exactly that object.
(`hsame`: an address has one content — ids are content hashes.) -/
theorem get_finds_held_object (e : Eng) (id : Nat) (ord : List Nat) (hnd : ord.Nodup)
    (h : Nat) (sh : Shard) (o : Obj) (hmem : h ∈ ord) (hsh : e.shards[h]? = some sh)
    (hold : sh.holds id e.epoch o)
    (hnorem : ∀ i ∈ ord, ∀ s, e.shards[i]? = some s → s.mode.noMeta = false →
      s.status id e.epoch ≠ .tomb ∧ s.status id e.epoch ≠ .exp)
    (hsame : ∀ i ∈ ord, ∀ s o', e.shards[i]? = some s → s.blob id = some o' → o' = o) :
    (e.get id ord).2 = .ok o := by
  unfold Eng.get
  apply getWith_stops (shardAns id e.epoch) (.ok o) e ord hnd
  · exact ⟨h, hmem, sh, hsh, by simp only [shardAns]; rw [Shard.get_of_holds sh id e.epoch o hold]; rfl⟩
  · intro i hi s hs
    simp only [shardAns]
    rcases Shard.get_cases s id e.epoch with ⟨o', hg, hh⟩ | ⟨_, hm, hst⟩ | ⟨_, hm, hst⟩ | ⟨hp, _⟩
    · left; rw [hg]; simp only [Stops]; rw [hsame i hi s o' hs hh.2.1]
    · exact absurd hst (hnorem i hi s hs hm).1
    · exact absurd hst (hnorem i hi s hs hm).2
    · right; exact hp

/-- **A removed object is reported removed regardless of the order**: if some shard with a metabase has the
object tombstoned, no shard holds it as available and none reports it expired, `Get` answers "already removed"
for every order and whatever fails elsewhere. -/
theorem get_reports_removed (e : Eng) (id : Nat) (ord : List Nat) (hnd : ord.Nodup)
    (r : Nat) (sr : Shard) (hmem : r ∈ ord) (hsr : e.shards[r]? = some sr)
    (hmeta : sr.mode.noMeta = false) (htomb : sr.status id e.epoch = .tomb)
    (hnone : ∀ i ∈ ord, ∀ s o, e.shards[i]? = some s → ¬ s.holds id e.epoch o)
    (hnoexp : ∀ i ∈ ord, ∀ s, e.shards[i]? = some s → s.mode.noMeta = false → s.status id e.epoch ≠ .exp) :
    (e.get id ord).2 = .err .removed := by
  unfold Eng.get
  apply getWith_stops (shardAns id e.epoch) (.err .removed) e ord hnd
  · -- a shard with a metabase answers "removed" for a tombstoned id before any blob is read
    have hg : sr.get id e.epoch sr.mode.noMeta = .err .removed := by
      simp [Shard.get, Shard.mExists, hmeta, htomb]
    exact ⟨r, hmem, sr, hsr, by rw [shardAns, hg]; rfl⟩
  · intro i hi s hs
    simp only [shardAns]
    rcases Shard.get_cases s id e.epoch with ⟨o', _, hh⟩ | ⟨hg, _, _⟩ | ⟨_, hm, hst⟩ | ⟨hp, _⟩
    · exact absurd hh (hnone i hi s o' hs)
    · left; rw [hg]; rfl
    · exact absurd hst (hnoexp i hi s hs hm)
    · right; exact hp

/-- no live copy: no shard with a metabase has the object indexed and available, and no degraded shard holds
its blob (decidable) -/
def noLiveCopy (e : Eng) (id : Nat) (ord : List Nat) : Bool :=
  ord.all fun i =>
    match e.shards[i]? with
    | none => true
    | some s =>
      if s.mode.noMeta then (s.blob id).isNone
      else !(s.status id e.epoch == .avail && (s.find id).isSome)

theorem noLiveCopy_shard {e : Eng} {id : Nat} {ord : List Nat} (hno : noLiveCopy e id ord = true)
    {i : Nat} (hi : i ∈ ord) {s : Shard} (hs : e.shards[i]? = some s) :
    NoObj (s.get id e.epoch s.mode.noMeta) ∧ NoObj (s.head id e.epoch) := by
  have h := List.all_eq_true.mp hno i hi
  rw [hs] at h
  cases hn : s.mode.noMeta with
  | true =>
    simp only [hn, if_true] at h
    rw [(s.get_noMeta id e.epoch true hn).1, (s.get_noMeta id e.epoch true hn).2]
    have : NoObj (s.blobGet id) := by
      rcases s.blobGet_cases id with ⟨o, _, _, hb⟩ | ⟨hg, _⟩ | ⟨hg, _⟩
      · rw [hb] at h; cases h
      · rw [hg]; exact ⟨nofun, nofun⟩
      · rw [hg]; exact ⟨nofun, nofun⟩
    exact ⟨this, this⟩
  | false =>
    obtain ⟨er, hg, hh, her⟩ := s.get_blocked id e.epoch hn (fun hl => by simp [hn, hl.1, hl.2] at h)
    rw [hg, hh]
    have : NoObj (.err er) := by
      rcases her with rfl | ⟨rfl, _⟩ | ⟨rfl, _⟩ <;> exact ⟨nofun, nofun⟩
    exact ⟨this, this⟩

/-- **A degraded mode or an error on one shard never makes a removed object reappear** (repaired code): if no
shard with a metabase has the object available and no degraded shard holds its blob, `Get` does not return
it — whatever modes, failures and order; in particular a garbage-marked, not yet collected object stays
unreadable while ANOTHER shard is degraded. -/
theorem get_no_resurrection_partial (e : Eng) (id : Nat) (ord : List Nat) (hnd : ord.Nodup)
    (hno : noLiveCopy e id ord = true) (o : Obj) : (e.get id ord).2 ≠ .ok o := by
  unfold Eng.get
  exact getWith_no_obj (shardAns id e.epoch) e ord hnd (fun i hi s hs => (noLiveCopy_shard hno hi hs).1) o

/-- the same for `Head` -/
theorem head_no_resurrection_partial (e : Eng) (id : Nat) (ord : List Nat) (hnd : ord.Nodup)
    (hno : noLiveCopy e id ord = true) (o : Obj) : (e.head id ord).2 ≠ .ok o := by
  have hall : ∀ i ∈ ord, ∀ s, e.shards[i]? = some s → NoObj (headAns id e.epoch i s s.mode.noMeta) :=
    fun i hi s hs => (noLiveCopy_shard hno hi hs).2
  have h := pass1_no_obj (headAns id e.epoch) e ord e {} hnd (fun _ _ => rfl) hall
  unfold Eng.head
  generalize pass1 (headAns id e.epoch) ord e {} = r at h
  obtain ⟨e1, r1, st1⟩ := r
  simp only at h
  cases r1 with
  | some r => simp only; intro hr; exact h.1 o (by rw [hr])
  | none =>
    simp only
    cases hsp : st1.split with
    | some m => simp
    | none => simp

/-- the object is recorded as removed on shard `s`: a tombstone or a garbage mark in its metabase (whether or
not the metabase is reachable in the shard's current mode), no lock protecting it -/
def Shard.recordsRemoval (s : Shard) (id ep : Nat) : Bool := s.inGarbage id != .avail && !s.locked id ep

/-- the property as the statement has it: once every shard that stores the object has recorded its removal,
no mode of any shard makes a read return it -/
def C20_full : Prop :=
  ∀ (e : Eng) (id : Nat) (ord : List Nat) (o : Obj), ord.Nodup →
    (∀ i ∈ ord, ∀ s, e.shards[i]? = some s → s.blob id = none ∨ s.recordsRemoval id e.epoch = true) →
    (e.get id ord).2 ≠ .ok o

def cexObj : Obj := { id := 1, kind := .reg, target := 0, exp := 0 }
def o1 : Obj := { id := 1, kind := .reg, target := 0, exp := 0 }
def l7 : Obj := { id := 7, kind := .lock, target := 1, exp := 0 }

/-- the witness: one shard holds object 1 with a garbage mark (removal accepted, GC has not run) and is then
switched to a degraded mode: its metabase is no longer consulted and the blob is served -/
def cexEngine : Eng := { shards := [{ mode := .degRO, idx := [cexObj], blobs := [cexObj], garbage := [1] }] }

theorem C20_counterexample : ¬ C20_full := by
  intro h
  have := h cexEngine 1 [0] cexObj (by simp) (by
    intro i hi s hs
    simp only [List.mem_singleton] at hi
    subst hi
    simp only [cexEngine, List.getElem?_cons_zero, Option.some.injEq] at hs
    subst hs
    right; decide)
  exact this (by decide)

/-- second witness (missed tombstone): shard 0 was read-only when the tombstone was broadcast and still has
the object available, shard 1 has the tombstone: the answer depends on the order. -/
def cexMissed : Eng :=
  { shards := [{ mode := .ro, idx := [cexObj], blobs := [cexObj] },
               { idx := [{ id := 5, kind := .ts, target := 1, exp := 0 }],
                 blobs := [{ id := 5, kind := .ts, target := 1, exp := 0 }], garbage := [1] }] }

theorem missed_tombstone_order_dependent :
    (cexMissed.get 1 [0, 1]).2 = .ok cexObj ∧ (cexMissed.get 1 [1, 0]).2 = .err .removed := by decide

/-- the defect that was repaired: with the old entry condition of the second pass a garbage-marked object on a
healthy shard was returned as soon as ANY other shard was degraded; the repaired algorithm answers not found -/
def cexOld : Eng :=
  { shards := [{ idx := [cexObj], blobs := [cexObj], garbage := [1] }, { mode := .degRO }] }

theorem old_second_pass_resurrects :
    (getWithOld (shardAns 1 0) cexOld [0, 1]).2 = .ok cexObj ∧ (cexOld.get 1 [0, 1]).2 = .err .notFound := by decide

/-- a holder behind a failing shard and a degraded shard: the hypotheses of `get_finds_held_object` hold and
the object is returned -/
example :
    let e : Eng := { thr := 1, shards := [{ failR := true, idx := [cexObj], blobs := [cexObj] }, { mode := .deg }, { idx := [cexObj], blobs := [cexObj] }] }
    (e.get 1 [0, 1, 2]).2 = .ok cexObj ∧ (e.get 1 [0, 1, 2]).1.shards[0]?.map (·.mode) = some .degRO := by decide

/-- non-vacuity of `get_reports_removed` -/
example : (cexMissed.get 1 [1]).2 = .err .removed := by decide

/-- non-vacuity of `get_no_resurrection_partial` -/
example : noLiveCopy cexOld 1 [0, 1] = true := by decide

end NeoFS.Engine
