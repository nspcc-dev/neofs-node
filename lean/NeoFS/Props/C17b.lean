import NeoFS.Lemmas.WCSched
import NeoFS.Lemmas.WCFlush
/-!
# C17 (extension) — the background flush scheduler never loses an in-flight marker, and empties the cache

Model: `Model/WCSched.lean` (the batch cutting of `flushScheduler`, the `flushObjs` marker set, worker jobs) and the
flusher threads of `Model/WCFlush.lean`.
-/
namespace NeoFS.WCSched

/-- **No address stays in `flushObjs` forever — scheduler side.** For every configuration, every candidate list and
every sequence of worker/error answers: each marker a pass sets is owned by a batch handed to a worker or has been
removed by the pass itself (repaired code). -/
theorem scheduler_no_leak (cfg : Cfg) (cands : List (Addr × Nat)) (oracle : List Bool) :
    ∀ a ∈ (pass cfg true cands oracle).marked,
      a ∈ (pass cfg true cands oracle).sent.flatten ∨ a ∈ (pass cfg true cands oracle).unmarked := by
  intro a ha
  exact (pass_owned cfg cands oracle a ha).imp_right fun h => h.elim id fun h => absurd h List.not_mem_nil

/-- The code BEFORE the repair leaks: a small object is queued, a big object forces the open batch out, the error
signal of a worker wins that select — the big object is marked, not queued, and never unmarked. -/
theorem scheduler_leak_before_fix :
    leaked (pass { thr := 100, maxCount := 128, maxSize := 10000 } false [(1, 10), (2, 500)] [false]) = [2] ∧
    leaked (pass { thr := 100, maxCount := 128, maxSize := 10000 } true [(1, 10), (2, 500)] [false]) = [] := by decide

/-- The loop as it was before the repairs (window model `passOrig`), WITHOUT any failure: two big objects — the first is
handed over twice, the second never, and its marker stays; three small objects with a count limit of two — the batch
after the full one re-sends object 2 and the last object is never sent. Replayed on the real scheduler before the fix. -/
theorem original_scheduler_drops_last_address :
    (passOrig { thr := 100, maxCount := 128, maxSize := 10000 } [(1, 500), (2, 600)] []).sent = [[1], [1]] ∧
    leaked (passOrig { thr := 100, maxCount := 128, maxSize := 10000 } [(1, 500), (2, 600)] []) = [2] ∧
    (passOrig { thr := 100, maxCount := 2, maxSize := 10000 } [(1, 10), (2, 20), (3, 30)] []).sent = [[1, 2], [2]] ∧
    leaked (passOrig { thr := 100, maxCount := 2, maxSize := 10000 } [(1, 10), (2, 20), (3, 30)] []) = [3] := by decide

/-- the repaired loop on the same inputs -/
example : (pass { thr := 100, maxCount := 128, maxSize := 10000 } true [(1, 500), (2, 600)] []).sent = [[1], [2]] ∧
    (pass { thr := 100, maxCount := 2, maxSize := 10000 } true [(1, 10), (2, 20), (3, 30)] []).sent = [[1, 2], [3]] := by decide

/-- When workers take every batch, a pass hands over every candidate exactly once, in order, and unmarks nothing. -/
theorem scheduler_hands_over_everything (cfg : Cfg) (fixed : Bool) (cands : List (Addr × Nat)) (oracle : List Bool)
    (h : oracle.all id = true) :
    (pass cfg fixed cands oracle).sent.flatten = cands.map (·.1) ∧ (pass cfg fixed cands oracle).marked = cands.map (·.1) ∧
    (pass cfg fixed cands oracle).unmarked = [] ∧ (pass cfg fixed cands oracle).aborted = false :=
  cut_rule (I := fun l b o r => Queued (cands.map Prod.fst) r b l ∧
      r.marked ++ l.map Prod.fst = cands.map Prod.fst ∧ o.all id = true ∧ r.unmarked = [] ∧ r.aborted = false)
    (Q := fun res => res.sent.flatten = cands.map Prod.fst ∧ res.marked = cands.map Prod.fst ∧
      res.unmarked = [] ∧ res.aborted = false) cfg fixed
    (fun _ _ h => ⟨by simpa [Queued] using h.1, by simpa using h.2.1, h.2.2.2⟩)
    (fun _ _ _ _ _ _ h => ⟨h.1.mark, by simpa [Res.mark] using h.2.1, h.2.2⟩)
    (fun _ _ _ _ h _ => ⟨h.1.send, h.2.1, (takes_all h.2.2.1).2, h.2.2.2⟩)
    (fun _ _ _ _ h => absurd (takes_all h.2.2.1).1) (fun _ _ _ _ _ _ _ h => absurd (takes_all h.2.2.1).1)
    cands [] 0 oracle {} (fun _ => rfl) ⟨rfl, rfl, h, rfl, rfl⟩

/-- **Invariant over ALL histories** of puts, scheduler passes (with arbitrary worker/error answers) and job ends
(with an arbitrary main-storage failure oracle): every marker in `flushObjs` belongs to a running job, which clears it
when it ends — whatever the outcome (`worker_exit_clears_markers` below). -/
theorem markers_always_owned (cfg : Cfg) (ops : List Op) : NoLeak (runSys cfg true {} ops) :=
  noLeak_run cfg ops {} (by intro a ha; simp at ha)

theorem eventually_flushed_of (cfg : Cfg) {s s1 s2 s3 : Sys} (h : NoLeak s) (h1 : s1 = runSys cfg true s (drain s))
    (h2 : s2 = stepSys cfg true s1 (.pass [])) (h3 : s3 = runSys cfg true s2 (drain s2)) :
    s3.cache = [] ∧ s3.inflight = [] ∧ s3.jobs = [] := by
  rw [run_drain] at h1 h3
  -- the markers being owned, the first drain leaves none
  have hi1 : s1.inflight = [] :=
    h1 ▸ removeAll_eq_nil fun a ha => (h a ha).elim fun j hj => List.mem_flatten.mpr ⟨j, hj⟩
  have hj1 : s1.jobs = [] := h1 ▸ rfl
  -- the pass hands over every cached address
  have hp := scheduler_hands_over_everything cfg true (candidates s1) [] rfl
  have hc2 : s2.cache = s1.cache := h2 ▸ rfl
  have hj2 : s2.jobs.flatten = (candidates s1).map (·.1) := by rw [h2, ← hp.1, stepSys, hj1, List.nil_append]
  have hi2 : ∀ a ∈ s2.inflight, a ∈ (candidates s1).map (·.1) := by
    intro a ha
    rw [h2, stepSys, mem_removeAll, hi1, List.nil_append, hp.2.1] at ha
    exact ha.1
  rw [h3, hj2]
  refine ⟨List.filter_eq_nil_iff.mpr fun p hp' => ?_, removeAll_eq_nil hi2, rfl⟩
  have : p ∈ candidates s1 := (mem_sortBySize p _).mpr (List.mem_filter.mpr ⟨hc2 ▸ hp', by simp [hi1]⟩)
  simp [List.mem_map.mpr ⟨p, this, rfl⟩]

/-- **Under fairness every cached address is eventually flushed.** From ANY state in which no marker is leaked
(all reachable states, by `markers_always_owned`), the fair continuation — the running jobs end, the scheduler makes one
pass whose batches are taken by workers, those jobs end, the main storage accepting writes and no new puts — leaves the
cache empty with no marker and no job. -/
theorem eventually_flushed (cfg : Cfg) (s : Sys) (h : NoLeak s) :
    let s1 := runSys cfg true s (drain s)
    let s2 := stepSys cfg true s1 (.pass [])
    let s3 := runSys cfg true s2 (drain s2)
    s3.cache = [] ∧ s3.inflight = [] ∧ s3.jobs = [] :=
  eventually_flushed_of cfg h rfl rfl rfl

/-! ## non-vacuity -/

/-- a pass over small and big objects with count threshold 2: batches [1,2] [3] then the big ones alone -/
example : (pass { thr := 100, maxCount := 2, maxSize := 10000 } true [(1, 10), (2, 20), (3, 30), (4, 500), (5, 600)] []).sent
    = [[1, 2], [3], [4], [5]] := by decide

/-- an error answer while the open batch [3] is forced out by the big object 4: repaired code unmarks 3 AND 4 -/
example : (pass { thr := 100, maxCount := 2, maxSize := 10000 } true [(1, 10), (2, 20), (3, 30), (4, 500)] [true, false]).unmarked
    = [3, 4] := by decide

/-- history: five objects, a pass aborted by an error, the failed job ends, retry pass, jobs end: empty cache -/
example : runSys { thr := 100, maxCount := 2, maxSize := 10000 } true {}
    [.put 1 10, .put 2 20, .put 3 30, .put 4 500, .pass [true, false], .finish 0 false, .pass [], .finish 0 true,
     .finish 0 true, .finish 0 true] = { cache := [], inflight := [], jobs := [] } := by decide

/-- the same history on the code before the repair: object 4 stays cached and marked for ever (no later pass picks it) -/
example : runSys { thr := 100, maxCount := 2, maxSize := 10000 } false {}
    [.put 1 10, .put 2 20, .put 3 30, .put 4 500, .pass [true, false], .finish 0 false, .pass [], .finish 0 true,
     .finish 0 true, .pass [], .pass []] = { cache := [(4, 500)], inflight := [4], jobs := [] } := by decide

/-! ## the batch a worker was given versus what the scheduler's address array holds now (`BSys`)

A worker reads its batch — a window of the pass's sorted-address array — a second time when it is done, to unmark the
addresses; in between the scheduler may have run any number of passes over other objects (the worker sits in its
main-storage put). The theorems below are over ALL histories of puts, passes (any worker/error answers) and job ends in
any order and at any distance from their hand-over. -/

/-- **No pass ever changes a batch that a worker still holds**: in every reachable state the window of every running job
holds exactly the addresses the job was given (the code allocates the array of each pass; arrays of earlier passes
are never written again). -/
theorem batches_never_overwritten (cfg : Cfg) (ops : List Op) :
    ∀ j ∈ (runB cfg false {} ops).jobs, window (runB cfg false {} ops).bufs j = j.given :=
  fun j hj => ((runB_fresh cfg ops {} views_init).1 j hj).2

/-- **Every address handed to a worker is unmarked when that worker is done** — whenever that is (any number of passes
later), with whatever outcome. -/
theorem worker_unmarks_its_batch (cfg : Cfg) (ops : List Op) (i : Nat) (ok : Bool) (j : Job)
    (hj : (runB cfg false {} ops).jobs[i]? = some j) :
    ∀ a ∈ j.given, a ∉ (stepB cfg false (runB cfg false {} ops) (.finish i ok)).inflight := by
  intro a ha
  have hw := batches_never_overwritten cfg ops j (List.mem_of_getElem? hj)
  simp only [stepB, hj, hw, mem_removeAll]
  exact fun h => h.2 ha

/-- the array-level system is the marker bookkeeping of `Sys` (all theorems above carry over) -/
theorem buffers_refine (cfg : Cfg) (ops : List Op) : toSys (runB cfg false {} ops) = runSys cfg true {} ops :=
  (runB_fresh cfg ops {} views_init).2

/-- every marker is owned by a running job that was GIVEN the address (and will therefore clear it) -/
theorem markers_always_owned_buffers (cfg : Cfg) (ops : List Op) :
    ∀ a ∈ (runB cfg false {} ops).inflight, ∃ j ∈ (runB cfg false {} ops).jobs, a ∈ j.given := by
  intro a ha
  have h := markers_always_owned cfg ops
  rw [← buffers_refine] at h
  obtain ⟨g, hg, hag⟩ := h a ha
  simp only [toSys, List.mem_map] at hg
  obtain ⟨j, hj, rfl⟩ := hg
  exact ⟨j, hj, hag⟩

theorem eventually_flushed_buffers_of (cfg : Cfg) {s s1 s2 s3 : BSys} (hv : Views s) (hn : NoLeak (toSys s))
    (h1 : s1 = runB cfg false s (drain (toSys s))) (h2 : s2 = stepB cfg false s1 (.pass []))
    (h3 : s3 = runB cfg false s2 (drain (toSys s2))) : s3.cache = [] ∧ s3.inflight = [] ∧ s3.jobs = [] := by
  have v1 : Views s1 ∧ toSys s1 = runSys cfg true (toSys s) (drain (toSys s)) := h1 ▸ runB_fresh cfg _ s hv
  have v2 : Views s2 ∧ toSys s2 = stepSys cfg true (toSys s1) (.pass []) := h2 ▸ stepB_fresh cfg s1 _ v1.1
  have v3 : toSys s3 = runSys cfg true (toSys s2) (drain (toSys s2)) := h3 ▸ (runB_fresh cfg _ s2 v2.1).2
  have e := eventually_flushed_of cfg hn v1.2 v2.2 v3
  exact ⟨e.1, e.2.1, List.map_eq_nil_iff.mp e.2.2⟩

/-- **Everything is eventually flushed, however long workers held their batches**: from the state after ANY history
(jobs still running, handed over any number of passes ago) the fair continuation — running jobs end, one pass whose
batches are taken, those jobs end, storage accepting — leaves the cache empty with no marker and no job. -/
theorem eventually_flushed_buffers (cfg : Cfg) (ops : List Op) :
    let s := runB cfg false {} ops
    let s1 := runB cfg false s (drain (toSys s))
    let s2 := stepB cfg false s1 (.pass [])
    let s3 := runB cfg false s2 (drain (toSys s2))
    s3.cache = [] ∧ s3.inflight = [] ∧ s3.jobs = [] :=
  have h0 := runB_fresh cfg ops {} views_init
  eventually_flushed_buffers_of cfg h0.1 (h0.2 ▸ markers_always_owned cfg ops) rfl rfl rfl

/-- **An address array kept between the passes breaks it** (`sortedAddrs = sortedAddrs[:0]`): object 1 is handed to a
worker that stalls in its main-storage put; object 2 arrives, the next pass writes it over the array's front and a
second worker flushes it; the stalled put of 1 fails — the worker unmarks what its window holds NOW (2), object 1 stays
marked with no job, every later pass skips it: it never leaves the cache. With an array per pass the same history
ends with an empty cache. -/
theorem buffer_reuse_leaks :
    runB { thr := 100, maxCount := 128, maxSize := 10000 } true {}
      [.put 1 10, .pass [], .put 2 20, .pass [], .finish 1 true, .finish 0 false, .pass [], .pass []]
      = { cache := [(1, 10)], inflight := [1], bufs := [[2]], jobs := [] } ∧
    runB { thr := 100, maxCount := 128, maxSize := 10000 } false {}
      [.put 1 10, .pass [], .put 2 20, .pass [], .finish 1 true, .finish 0 false, .pass [], .finish 0 true]
      = { cache := [], inflight := [], bufs := [[1], [2], [1]], jobs := [] } := by decide

/-- non-vacuity: a state with a job that has been running over two later passes, its window intact -/
example : (runB { thr := 100, maxCount := 2, maxSize := 10000 } false {}
    [.put 1 10, .put 2 20, .put 3 30, .pass [], .finish 0 true, .put 4 15, .put 5 500, .pass [], .finish 1 true, .finish 1 true,
     .put 6 5, .pass [], .finish 1 true]).jobs = [{ given := [3], buf := 0, lo := 2 }] := by decide

end NeoFS.WCSched

namespace NeoFS.WCFlush

/-- the `flushObjs` markers a flusher thread is responsible for -/
def flMarks : Pc → Option (List Addr)
  | .flRead _ _ m _ => some m
  | .flPut _ m => some m
  | .flDel _ _ m => some m
  | .flCtr _ _ _ m => some m
  | _ => none

/-- **No address stays in `flushObjs` forever — worker side.** Whenever a flusher thread ends (the step makes it idle),
on the success path, on the failure path of the main-storage put, and when the file was already gone, the markers of
all addresses of its job are cleared. For every state, oracle value and removal order, in both step orders. -/
theorem worker_exit_clears_markers (d : Bool) (s : St) (t : Tid) (ok : Bool) (pick : Nat) (m : List Addr)
    (h : flMarks (s.pc t) = some m) (hidle : (stepThread d s t ok pick).1.pc t = .idle) :
    ∀ a ∈ m, (stepThread d s t ok pick).1.inflight a = false := by
  intro a ha
  -- `finish` clears the markers; every other step leaves the thread busy
  have hclr : ∀ err, (finish s t m err).1.inflight a = false := fun _ => if_pos ha
  have busy : ∀ {p' : Pc}, upd s.pc t p' t = .idle → p' = .idle := fun e => (upd_same s.pc t _).symm.trans e
  revert hidle
  unfold stepThread
  generalize s.pc t = p at h
  split <;> cases h
  · split <;> exact fun hidle => nomatch busy hidle
  · split
    · exact fun _ => hclr false
    · split <;> exact fun hidle => nomatch busy hidle
  · split
    · split
      · exact fun _ => hclr false
      · exact fun hidle => nomatch busy hidle
    · exact fun _ => hclr true
  · split
    · split
      · exact fun _ => hclr false
      · exact fun hidle => nomatch busy hidle
    · split <;> exact fun hidle => nomatch busy hidle
  · exact fun hidle => nomatch busy hidle

/-- a job whose main-storage put fails ends at once with its markers cleared and the cache untouched (it is retried) -/
example : (run false init [.write 0 1 7 true, .step 0 true 0, .step 0 true 0, .flush 1 [1] true, .step 1 true 0,
    .step 1 true 0, .step 1 false 0]).1.inflight 1 = false ∧
    (run false init [.write 0 1 7 true, .step 0 true 0, .step 0 true 0, .flush 1 [1] true, .step 1 true 0,
    .step 1 true 0, .step 1 false 0]).1.files 1 = some 7 := by decide

end NeoFS.WCFlush
