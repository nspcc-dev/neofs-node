import NeoFS.Props.C27
/-!
# C27 (extension) — a copy is reported only if the remote node stored the object; the shortage counter never wraps

* `Replicator.HandleTask` with a context cancelled while a transfer is in flight (`sendLoopC`, `handleTaskC`; op
  `task` of the policer engine), for tasks with and without the object: for EVERY environment, quantity, node list
  and cancellation point the report has at most `quantity` entries, all nodes of the task, and every reported remote
  node really stored the object — in particular the node whose transfer was interrupted is never reported
  (`interrupted_transfer_not_reported`); without a cancellation the loop is the one the C26/C27 pass theorems use
  (`handleTaskC_no_cut`).
* the `uint32` shortage counter of `processNodes` (`dec32` wraps at zero): for EVERY environment — maintenance nodes
  of the network map at any position, the local node anywhere or absent — the counter never grows through the node
  loop (`shortage_never_wraps`), and therefore no replication task ever asks for more copies than the rule requires,
  except the rebalancing task that asks for exactly one copy per candidate (`task_quantity_bounded`,
  `pass_task_quantity_bounded`).
-/
namespace NeoFS.Policer

/-! ### the replicator -/

theorem sendLoopC_sound (e : Env) (w : Bool) (q : Nat) (nodes : List Nat) :
    Report (fun n => (n = e.me ∧ w = true) ∨ (n ≠ e.me ∧ storedBy e n = true)) q nodes (sendLoopC e w q nodes) := by
  induction nodes generalizing q with
  | nil => exact Report.nil
  | cons a as ih =>
    unfold sendLoopC
    by_cases h0 : q = 0
    · rw [if_pos h0]; exact Report.nil
    rw [if_neg h0]
    by_cases h1 : a = e.me
    · rw [if_pos h1]
      cases w with
      | true => exact (ih _).take h0 (Or.inl ⟨h1, rfl⟩)
      | false => exact (ih _).skip
    rw [if_neg h1]
    by_cases hc : e.cutAt = some a
    · -- the transfer to `a` is cut: the loop ends here, with `a` reported only if it stored the object
      rw [if_pos hc]
      cases hs : storedBy e a with
      | true => exact Report.nil.take h0 (Or.inr ⟨h1, hs⟩)
      | false => exact Report.nil
    rw [if_neg hc]
    cases h2 : e.repl a with
    | true => exact (ih _).take h0 (Or.inr ⟨h1, by simp [storedBy, h2, hc]⟩)
    | false => exact (ih _).skip

/-- **The replicator's report is sound whenever the context is cancelled**: at most `quantity` successes, only nodes
of the task, the local node only when the task carried the object (it was put into the local storage), and a remote
node only if it really stored the object. -/
theorem handleTaskC_sound (e : Env) (w : Bool) (q : Nat) (nodes : List Nat) :
    (handleTaskC e w q nodes).length ≤ q ∧
      ∀ n ∈ handleTaskC e w q nodes, n ∈ nodes ∧ ((n = e.me ∧ w = true) ∨ (n ≠ e.me ∧ storedBy e n = true)) := by
  unfold handleTaskC
  split_ifs
  · exact sendLoopC_sound e w q nodes
  · simp

/-- The node whose transfer was interrupted by the cancellation (and did not store the object) is never reported. -/
theorem interrupted_transfer_not_reported (e : Env) (w : Bool) (q : Nat) (nodes : List Nat) (n : Nat)
    (hc : e.cutAt = some n) (hs : e.cutStored = false) (hme : n ≠ e.me) : n ∉ handleTaskC e w q nodes := by
  intro hn
  rcases ((handleTaskC_sound e w q nodes).2 n hn).2 with ⟨h, _⟩ | ⟨_, h⟩
  · exact hme h
  · simp [storedBy, hc, hs] at h

theorem sendLoopC_no_cut (e : Env) (hc : e.cutAt = none) (q : Nat) (nodes : List Nat) :
    sendLoopC e false q nodes = sendLoop e q nodes := by
  induction nodes generalizing q with
  | nil => simp [sendLoopC, sendLoop]
  | cons a as ih => simp [sendLoopC, sendLoop, hc, ih]

/-- Without a cancellation the loop is the one of the pass model (`handleTask`), whose soundness the C26/C27 pass
theorems use. -/
theorem handleTaskC_no_cut (e : Env) (hc : e.cutAt = none) (q : Nat) (nodes : List Nat) :
    handleTaskC e false q nodes = handleTask e q nodes := by
  unfold handleTaskC handleTask
  simp [sendLoopC_no_cut e hc]

/-! ### the shortage counter -/

/-- **The `uint32` shortage counter never wraps**: through the node loop of `processNodes` — whatever nodes are in
the MAINTENANCE state of the network map, wherever the local node is — the counter only goes down. -/
theorem shortage_never_wraps (e : Env) (c : Ctx) (l : Loop) (nodes : List Nat) :
    (walk e c l nodes).2.shortage ≤ l.shortage :=
  (walk_mono e nodes c l).shortage

/-- Every task `processNodes` issues for a list asks for at most the number of copies the rule requires (shortage
replication), or for exactly one copy per candidate node (rebalancing); a rebalancing task never has more
candidates than the list has nodes. -/
theorem task_quantity_bounded (e : Env) (legacy : Bool) (t : OType) (c : Ctx) (nodes : List Nat) (k : Nat) :
    ∀ tk ∈ (processNodes e legacy t c nodes k).tasks,
      tk ∈ c.tasks ∨ (TaskBounded (startShortage t nodes k) tk ∧ tk.nodes.length ≤ nodes.length) :=
  fun tk h => (processNodes_tasks e legacy t c nodes k tk h).imp_right And.right

/-- **No pass ever asks for more copies than a rule requires**: every replication task of every pass (any
environment, object, placement; old and repaired decision chain) is bounded by the requirement of one of the rules
the pass walks, or is the rebalancing task with one copy per candidate, or is the single-copy move of an EC part. -/
theorem pass_task_quantity_bounded (e : Env) (legacy : Bool) (o : Obj) (p : Placement) :
    ∀ tk ∈ (processObject e legacy o p).tasks,
      tk.quantity = 1 ∨ ∃ v ∈ effVectors o p, TaskBounded (startShortage o.typ v.1 v.2) tk ∧ tk.nodes.length ≤ v.1.length :=
  fun tk h => (processObject_tasks e legacy o p tk h).imp And.right fun ⟨v, hv, hi⟩ => ⟨v, hv, hi.2⟩

/-- Non-vacuity: REP 2 over six nodes, nodes 1, 2 and 5 hold the object, node 3 is in the
MAINTENANCE state of the network map and is met after the shortage is covered, the local node 5 stands behind it:
the pass issues no task at all and keeps nothing it should not (the counter stays at zero). -/
example :
    let e : Env := { me := 5, inNetmap := true, flag := fun n => n == 3,
                     ans := fun n => if n = 1 ∨ n = 2 ∨ n = 5 then .holds else .notFound, repl := fun _ => true }
    let out := processObject e false { typ := .regular } { lists := [[1, 2, 3, 4, 5, 6]], rep := [2] }
    out.tasks = [] ∧ out.dels = [.redundant] ∧ out.heads = [1, 2] := by
  decide

/-- Non-vacuity of the replicator theorem: the context is cancelled while the object is being sent to node 2, which
does not get it: node 1 is reported, node 2 is not, node 3 is never tried. -/
example :
    let e : Env := { me := 9, inNetmap := true, flag := fun _ => false, ans := fun _ => .err, repl := fun _ => true,
                     cutAt := some 2 }
    handleTaskC e false 3 [1, 2, 3] = [1] := by
  decide

end NeoFS.Policer
