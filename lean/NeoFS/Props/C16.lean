import NeoFS.Lemmas.WCFlush
/-!
# C16 — objects written through the write-cache stay readable through every flush

Model: `Model/WCFlush.lean` (threads advancing by the atomic steps of `writecache/flush.go`, `put.go`, `get.go`,
`delete.go` and of the shard's read/put/delete paths). A schedule is an arbitrary list of events (operation starts on
any thread, single atomic steps of any thread with an arbitrary main-storage failure oracle and an arbitrary removal
order inside a batch). The invariants are in `Lemmas/WCFlush.lean`.
-/
namespace NeoFS.WCFlush

def startsDelete (a : Addr) : Ev → Bool
  | .delete _ b => b == a
  | _ => false

def isDelDone (a : Addr) : Obs → Bool
  | .delDone _ b => b == a
  | _ => false

/-- every put of `a` carries the content `v` (an address is the hash of the object) -/
def carries (a : Addr) (v : Data) : Ev → Bool
  | .write _ b x _ => b != a || x == v
  | _ => true

/-- the event does not start a tracked read of `a` -/
def untaggedRead (a : Addr) : Ev → Bool
  | .read _ b tag => !(b == a && tag)
  | _ => true

theorem evOK_of {a v} {e : Ev} (h1 : carries a v e = true) (h2 : startsDelete a e = false) : EvOK a v e := by
  cases e with
  | write t b x via => intro hb; simpa [carries, hb] using h1
  | delete t b => simpa [startsDelete, EvOK] using h2
  | _ => trivial

theorem notTagged_of {a} {e : Ev} (h : untaggedRead a e = true) : NotTaggedRead a e := by
  cases e with
  | read t b tag => rintro ⟨rfl, rfl⟩; simp [untaggedRead] at h
  | _ => trivial

/-- **Readable through every flush (invariant form).** From ANY state in which the lookup invariant holds for `a`
(it holds from the acknowledgement of a put on, see `ack_establishes_safe`), for EVERY schedule — any number of
flushers (single and batch, marked or not, any removal order), readers, writers (re-puts of `a` included), deleters of
other addresses, any main-storage failure oracle — in which no delete of `a` starts: the invariant still holds at every
step boundary and every tracked read of `a` that completes returns `a`'s bytes. -/
theorem readable_through_flush (a : Addr) (v : Data) (s : St) (sched : List Ev) (hs : Safe a v s)
    (hev : ∀ e ∈ sched, EvOK a v e) :
    Safe a v (run false s sched).1 ∧ ∀ t r, Obs.readDone t a true r ∈ (run false s sched).2 → r = some v :=
  have h := run_inv (I := Safe a v) (Q := fun o => ∀ t r, o = .readDone t a true r → r = some v)
    (fun _ _ hI he => safe_step hI he) sched s hs hev
  ⟨h.1, fun t r hm => h.2 _ hm t r rfl⟩

/-- The acknowledgement of a put of `a` (through the cache or, when the cache refuses, through the main storage)
establishes the invariant, from any state of the base invariant with no tracked read of `a` in flight. -/
theorem ack_establishes_safe (a : Addr) (v : Data) (s : St) (e : Ev) (t0 : Tid) (hc : Core a v s) (hn : NoTagged a s)
    (he : EvOK a v e) (hnt : NotTaggedRead a e) (hack : (step false s e).2 = .putAck t0 a v true) :
    Safe a v (step false s e).1 := by
  have h := keeps_step hc he
  refine ⟨h.core, ?_, noTagged_rdOK (h.tagged hnt hn)⟩
  have := h.obs
  rw [hack] at this
  exact this rfl rfl rfl

/-- **After a flush the object is in the main storage with identical bytes**: in every state of the invariant, an
address that is no longer in the cache is in the main storage with its bytes (the flusher removes the cache file only
after its main-storage put succeeded). -/
theorem after_flush_in_main (a : Addr) (v : Data) (s : St) (hs : Safe a v s) (hgone : s.files a = none) :
    s.main a = some v :=
  Or.resolve_right hs.readable fun h => nomatch hgone.symm.trans h.2

theorem main_stable_of_core (a : Addr) (v : Data) (s : St) (sched : List Ev) (hc : Core a v s)
    (hev : ∀ e ∈ sched, EvOK a v e) (hm : s.main a = some v) : (run false s sched).1.main a = some v :=
  (run_inv (I := fun s => Core a v s ∧ s.main a = some v) (Q := fun _ => True)
    (fun _ _ hI he => ⟨⟨(keeps_step hI.1 he).core, (keeps_step hI.1 he).mono.main_stable hI.2⟩, trivial⟩)
    sched s ⟨hc, hm⟩ hev).1.2

/-- The key lemma of the two-step lookup: objects only move cache → main. Once the main storage holds `a`
it holds it after every further schedule (without deletes of `a`). -/
theorem main_is_stable (a : Addr) (v : Data) (s : St) (sched : List Ev) (hs : Safe a v s)
    (hev : ∀ e ∈ sched, EvOK a v e) (hm : s.main a = some v) : (run false s sched).1.main a = some v :=
  main_stable_of_core a v s sched hs.core hev hm

/-- The full statement of C16 on the model: in a history from the empty shard, once a put of `a` is acknowledged, and
while no delete of `a` starts afterwards (every delete of `a` that started earlier has completed), every read of `a`
that starts afterwards returns `a`'s bytes. -/
def C16_full : Prop :=
  ∀ (a : Addr) (v : Data) (pre post : List Ev) (ack : Ev) (t0 : Tid),
    (pre ++ ack :: post).all (carries a v) = true →
    (pre ++ [ack]).all (untaggedRead a) = true →
    (ack :: post).all (fun e => !startsDelete a e) = true →
    (pre.filter (startsDelete a)).length = ((run false init pre).2.filter (isDelDone a)).length →
    (step false (run false init pre).1 ack).2 = .putAck t0 a v true →
    ∀ t r, Obs.readDone t a true r ∈ (run false (step false (run false init pre).1 ack).1 post).2 → r = some v

/-- **C16, proved part**: the full statement under the extra decidable hypothesis that the history before the
acknowledged put contains no delete of `a` either. For ALL schedules `pre`, `post`. -/
theorem C16_partial (a : Addr) (v : Data) (pre post : List Ev) (ack : Ev) (t0 : Tid)
    (hcar : (pre ++ ack :: post).all (carries a v) = true)
    (hunt : (pre ++ [ack]).all (untaggedRead a) = true)
    (hdel : (ack :: post).all (fun e => !startsDelete a e) = true)
    (hnodel : pre.all (fun e => !startsDelete a e) = true)
    (hack : (step false (run false init pre).1 ack).2 = .putAck t0 a v true) :
    ∀ t r, Obs.readDone t a true r ∈ (run false (step false (run false init pre).1 ack).1 post).2 → r = some v := by
  simp only [List.all_eq_true, List.mem_append, List.mem_cons, Bool.not_eq_true',
    List.not_mem_nil, or_false] at hcar hunt hdel hnodel
  have hpre := run_inv (I := fun s => Core a v s ∧ NoTagged a s) (P := fun e => EvOK a v e ∧ NotTaggedRead a e)
    (Q := fun _ => True)
    (fun _ _ hI he => ⟨⟨(keeps_step hI.1 he.1).core, (keeps_step hI.1 he.1).tagged he.2 hI.2⟩, trivial⟩)
    pre init ⟨core_init a v, noTagged_init a⟩
    (fun e he => ⟨evOK_of (hcar e (Or.inl he)) (hnodel e he), notTagged_of (hunt e (Or.inl he))⟩)
  have hsafe := ack_establishes_safe a v _ ack t0 hpre.1.1 hpre.1.2
    (evOK_of (hcar ack (Or.inr (Or.inl rfl))) (hdel ack (Or.inl rfl))) (notTagged_of (hunt ack (Or.inr rfl))) hack
  exact (readable_through_flush a v _ post hsafe
    (fun e he => evOK_of (hcar e (Or.inr (Or.inr he))) (hdel e (Or.inr he)))).2

/-! ## the full statement is FALSE for the current code: a flusher that is past its main-storage put removes a NEWER
cache file of the same address if the object was deleted and put again in between -/

def cexPre : List Ev :=
  [.write 0 1 7 true, .step 0 true 0, .step 0 true 0,           -- put of 1, acknowledged
   .flush 1 [1] true, .step 1 true 0, .step 1 true 0, .step 1 true 0,  -- flusher: read, main put done; cache delete pending
   .delete 2 1, .step 2 true 0, .step 2 true 0, .step 2 true 0,   -- Shard.Delete of 1 completes (cache file, counter, main)
   .write 0 1 7 true, .step 0 true 0]                             -- second put: cache file written
def cexAck : Ev := .step 0 true 0                                  -- counters.Add: second put acknowledged
def cexPost : List Ev :=
  [.step 1 true 0, .step 1 true 0,                                -- the old flusher removes the NEW file and its counter
   .read 3 1 true, .step 3 true 0, .step 3 true 0]                -- a read that starts afterwards: not found

theorem C16_counterexample : ¬ C16_full := by
  intro h
  have := h 1 7 cexPre cexPost cexAck 0 (by decide) (by decide) (by decide) (by decide) (by decide) 3 none (by decide)
  exact absurd this (by decide)

/-! ## the mutant order (cache delete BEFORE the main-storage put) violates the property without any delete -/

def raceSched : List Ev :=
  [.write 0 1 7 true, .step 0 true 0, .step 0 true 0,            -- put of 1 acknowledged
   .flush 1 [1] true, .step 1 true 0, .step 1 true 0,            -- flusher: read, (order decision)
   .step 1 true 0, .step 1 true 0,                                -- two more flusher steps
   .read 3 1 true, .step 3 true 0, .step 3 true 0, .step 3 true 0,  -- a read racing with the flusher
   .step 1 false 0, .step 1 false 0]                              -- flusher continues, main storage failing

/-- swapped order: the read in the window returns not-found although the put was acknowledged and nothing was deleted -/
theorem swapped_order_read_fails :
    Obs.putAck 0 1 7 true ∈ (run true init raceSched).2 ∧ Obs.readDone 3 1 true none ∈ (run true init raceSched).2 := by
  decide

/-- swapped order with a failing main storage: the object is lost for good -/
theorem swapped_order_loses_object :
    (run true init raceSched).1.files 1 = none ∧ (run true init raceSched).1.main 1 = none := by
  decide

/-! ## non-vacuity -/

/-- the same racing schedule under the real order: the reader misses nothing, and the failing storage loses nothing -/
example : Obs.readDone 3 1 true (some 7) ∈ (run false init raceSched).2 ∧
    (run false init raceSched).1.main 1 = some 7 := by decide

/-- the reader's cache lookup really misses in a race (counter seen, file gone) and falls back to the main storage:
put; flusher reads and puts to main; reader sees the counter; flusher removes file; reader's file read misses -/
def missSched : List Ev :=
  [.write 0 1 7 true, .step 0 true 0, .step 0 true 0,
   .flush 1 [1] true, .step 1 true 0, .step 1 true 0, .step 1 true 0,
   .read 3 1 true, .step 3 true 0,          -- HasAddress: yes
   .step 1 true 0,                           -- flusher: fsTree.Delete
   .step 3 true 0,                           -- fsTree.Get: gone → fall back
   .step 3 true 0]                           -- blobStor.Get
example : (run false init (missSched.take 11)).1.pc 3 = .rdMain 1 true ∧
    Obs.readDone 3 1 true (some 7) ∈ (run false init missSched).2 := by decide

/-- `C16_partial` applies to it: hypotheses hold for pre = first two events, ack = third, post = the rest -/
example : ∀ t r, Obs.readDone t 1 true r ∈
    (run false (step false (run false init (missSched.take 2)).1 (.step 0 true 0)).1 (missSched.drop 3)).2 → r = some 7 :=
  C16_partial 1 7 (missSched.take 2) (missSched.drop 3) (.step 0 true 0) 0 (by decide) (by decide) (by decide) (by decide)
    (by decide)

/-- a batch of two addresses with a re-put of one of them in the middle, storage failing once: still readable -/
example : Obs.readDone 3 1 true (some 7) ∈ (run false init
    [.write 0 1 7 true, .step 0 true 0, .step 0 true 0, .write 0 2 9 true, .step 0 true 0, .step 0 true 0,
     .flush 1 [1, 2] true, .step 1 true 0, .step 1 true 0, .step 1 true 0, .step 1 false 0,   -- PutBatch fails
     .flush 1 [2, 1] true, .step 1 true 0, .step 1 true 0, .step 1 true 0, .step 1 true 0,    -- retried, succeeds
     .write 0 1 7 true, .step 0 true 0,                                                        -- re-put racing
     .step 1 true 1, .step 1 true 0, .step 0 true 0, .step 1 true 0, .step 1 true 0, .step 1 true 0,
     .read 3 1 true, .step 3 true 0, .step 3 true 0, .step 3 true 0]).2 := by decide

end NeoFS.WCFlush
