import NeoFS.Model.SigChain
import NeoFS.Lemmas.SigChain
/-!
# C33 — request signature chains are accepted only if every layer verifies

All theorems are over an ARBITRARY signature primitive `S : Scheme` (any decision function), arbitrary
encoders `E : Enc`, arbitrary chain depths and arbitrary layer contents. Nothing cryptographic is proved:
"`checkSig … = .ok`" is the model's name for "the code's signature check of this (key, scheme, signature)
over exactly these bytes succeeds".
-/
namespace NeoFS.SigChain

variable (S : Scheme) (n3on : Bool) (E : Enc)

/-- The signature field is present and its check over `msg` succeeds. -/
def SigOK (o : Option Sig) (msg : Bytes) : Prop :=
  ∃ s, o = some s ∧ checkSig S n3on msg s = .ok

section
variable {S} {n3on} {E}

theorem sigStep_none_iff (o : Option Sig) (msg : Bytes) (a : Cause) (b : SigErr → Cause) :
    sigStep S n3on o msg a b = none ↔ SigOK S n3on o msg := by
  unfold sigStep SigOK
  cases o with
  | none => simp
  | some s =>
    simp only [Option.some.injEq, exists_eq_left']
    split <;> simp_all

theorem layerFault_eq_none_iff (body : Bytes) (chk : Bool) (ms : List MLayer) (v : VLayer) (vo : List VLayer) :
    layerFault S n3on E body chk ms v vo = none ↔
      SigOK S n3on v.metaSig (E.encM ms) ∧ (chk = true → SigOK S n3on v.originSig (E.encV vo)) ∧
      if (!chk || vo.isEmpty) = true then SigOK S n3on v.bodySig body else v.bodySig = none := by
  rw [layerFault, Option.or_eq_none_iff, Option.or_eq_none_iff, sigStep_none_iff]
  refine and_congr_right fun _ => and_congr ?_ ?_
  · cases chk <;> simp [sigStep_none_iff]
  · by_cases hl : (!chk || vo.isEmpty) = true
    · rw [if_pos hl, if_pos hl, sigStep_none_iff]
    · rw [if_neg hl, if_neg hl]
      cases v.bodySig <;> simp

end

/-- What the chain variant (outermost meta version < 2.25 or absent) demands of layer `j`: meta signature
over the encoding of meta header `j` (with its origins), origin signature over the encoding of verification
header `j+1` (with its origins; the nil header at the innermost layer), body signature exactly at the
innermost layer and absent everywhere else. -/
def LayerOK (body : Bytes) (ms : List MLayer) (vs : List VLayer) (j : Nat) (v : VLayer) : Prop :=
  SigOK S n3on v.metaSig (E.encM (ms.drop j)) ∧
  SigOK S n3on v.originSig (E.encV (vs.drop (j + 1))) ∧
  (if j + 1 = vs.length then SigOK S n3on v.bodySig body else v.bodySig = none)

section
variable {S} {n3on} {E}

theorem LayerOK_zero (body : Bytes) (ms : List MLayer) (v : VLayer) (vo : List VLayer) :
    LayerOK S n3on E body ms (v :: vo) 0 v ↔ layerFault S n3on E body true ms v vo = none := by
  rw [layerFault_eq_none_iff]
  cases vo <;> simp [LayerOK]

theorem LayerOK_succ (body : Bytes) (m : MLayer) (mo : List MLayer) (v w : VLayer) (vo : List VLayer) (j : Nat) :
    LayerOK S n3on E body (m :: mo) (v :: vo) (j + 1) w ↔ LayerOK S n3on E body mo vo j w := by
  simp [LayerOK]

end

/-- The loop in the chain variant, from any depth `i`: it answers ok exactly when every remaining layer is
in order, provided the two chains have the same number of origins (which `verifyReq` has checked). -/
theorem walk_chain_iff (body : Bytes) : ∀ (vs : List VLayer) (i : Nat) (ms : List MLayer),
    vs ≠ [] → origins ms = origins vs →
    (walk S n3on E body true i ms vs = .ok ↔
      ∀ j (h : j < vs.length), LayerOK S n3on E body ms vs j vs[j]) := by
  intro vs
  induction vs with
  | nil => intro i ms h; exact absurd rfl h
  | cons v vo ih =>
    intro i ms _ hlen
    rw [forall_lt_cons v vo (LayerOK S n3on E body ms (v :: vo)), LayerOK_zero, walk_cons]
    cases hf : layerFault S n3on E body true ms v vo with
    | some c => simp
    | none =>
      cases vo with
      | nil => simp
      | cons v' vo' =>
        obtain ⟨m, mo, rfl, hlen'⟩ := origins_eq_cons_cons hlen
        simp only [Bool.not_true, List.isEmpty_cons, Bool.or_self, Bool.false_eq_true, if_false, true_and]
        rw [ih (i + 1) mo (List.cons_ne_nil _ _) hlen']
        exact forall_congr' fun j => forall_congr' fun hj => (LayerOK_succ body m mo v _ _ j).symm

/-- In the ≥ 2.25 variant only the outermost layer is looked at: its meta and body signatures. -/
theorem walk_flat_iff (body : Bytes) (v : VLayer) (vo : List VLayer) (i : Nat) (ms : List MLayer) :
    walk S n3on E body false i ms (v :: vo) = .ok ↔
      SigOK S n3on v.metaSig (E.encM ms) ∧ SigOK S n3on v.bodySig body := by
  have hf : layerFault S n3on E body false ms v vo = none ↔
      SigOK S n3on v.metaSig (E.encM ms) ∧ SigOK S n3on v.bodySig body := by
    simp [layerFault_eq_none_iff]
  rw [walk_cons, ← hf]
  cases layerFault S n3on E body false ms v vo <;> simp

/-- A reported layer error always names an existing layer (depth < length of the verification chain,
counted from the start depth). -/
theorem walk_layer_bound (body : Bytes) (chk : Bool) : ∀ (vs : List VLayer) (i : Nat) (ms : List MLayer) (d : Nat) (c : Cause),
    walk S n3on E body chk i ms vs = .layer d c → i ≤ d ∧ d < i + vs.length := by
  intro vs
  induction vs with
  | nil => intro i ms d c h; simp [walk] at h
  | cons v vo ih =>
    intro i ms d c h
    rw [walk_cons] at h
    rw [List.length_cons]
    cases hf : layerFault S n3on E body chk ms v vo with
    | some c' =>
      rw [hf] at h
      cases h
      omega
    | none =>
      rw [hf] at h
      by_cases hl : (!chk || vo.isEmpty) = true
      · rw [if_pos hl] at h; cases h
      · rw [if_neg hl] at h
        cases ms with
        | nil => cases h
        | cons m mo => have := ih _ _ _ _ h; omega

/-- The declarative acceptance condition of `VerifyRequestWithBufferN3`. -/
def Accepted (r : Req) : Prop :=
  r.vs ≠ [] ∧
  if needsOriginSig r.metas then
    origins r.metas = origins r.vs ∧
    ∀ j (h : j < r.vs.length), LayerOK S n3on E r.body r.metas r.vs j r.vs[j]
  else
    ∃ v vo, r.vs = v :: vo ∧ SigOK S n3on v.metaSig (E.encM r.metas) ∧ SigOK S n3on v.bodySig r.body

/-- **C33 main theorem.** For every request (any depth of either chain, any contents), every signature
primitive and both variants: verification answers ok IF AND ONLY IF a verification header is present and
— chain variant — the chains have equal depth, EVERY layer's meta signature verifies over that layer's meta
header, EVERY layer's origin signature verifies over the next verification header, the innermost layer's
body signature verifies over the body and no outer layer carries a body signature; — ≥ 2.25 variant —
the outermost layer's meta and body signatures verify. -/
theorem accepts_iff (r : Req) : verifyReq S n3on E r = .ok ↔ Accepted S n3on E r := by
  unfold verifyReq Accepted
  rw [ite_eq_iff_of_ne (by decide)]
  cases hvs : r.vs with
  | nil => simp
  | cons v vo =>
    refine and_congr (by simp) ?_
    dsimp only
    cases needsOriginSig r.metas with
    | true =>
      rw [ite_eq_iff_of_ne (by decide)]
      simp only [Bool.true_and, bne_iff_ne, ne_eq, Decidable.not_not, if_true]
      exact and_congr_right fun hl => walk_chain_iff S n3on E r.body (v :: vo) 0 r.metas (List.cons_ne_nil _ _) hl
    | false =>
      rw [if_neg (by simp), if_neg (by simp), walk_flat_iff]
      exact ⟨fun h => ⟨v, vo, rfl, h⟩, fun ⟨_, _, he, h⟩ => by cases he; exact h⟩

theorem verifyReq_no_nilDeref (r : Req) : verifyReq S n3on E r ≠ .nilDeref := by
  unfold verifyReq
  split
  · simp
  · simp only
    split
    · simp
    · rename_i h
      apply walk_no_nilDeref
      intro hc
      simpa [hc] using h

namespace Accepted
variable {S} {n3on} {E}

theorem layerOK {r : Req} (h : Accepted S n3on E r) (hc : needsOriginSig r.metas = true) (k : Nat)
    (hk : k < r.vs.length) : LayerOK S n3on E r.body r.metas r.vs k r.vs[k] := by
  have := h.2
  rw [if_pos hc] at this
  exact this.2 k hk

theorem flat {r : Req} (h : Accepted S n3on E r) (hc : needsOriginSig r.metas = false) :
    ∃ v vo, r.vs = v :: vo ∧ SigOK S n3on v.metaSig (E.encM r.metas) ∧ SigOK S n3on v.bodySig r.body := by
  have := h.2
  rwa [if_neg (by simp [hc])] at this

theorem metaSig {r : Req} (h : Accepted S n3on E r) (k : Nat) (hk : k < r.vs.length)
    (hm : k = 0 ∨ needsOriginSig r.metas = true) :
    SigOK S n3on (r.vs[k]).metaSig (E.encM (r.metas.drop k)) := by
  cases hc : needsOriginSig r.metas with
  | true => exact (h.layerOK hc k hk).1
  | false =>
    obtain ⟨v, vo, e, a, _⟩ := h.flat hc
    obtain rfl := hm.resolve_right (by simp [hc])
    simpa [e] using a

theorem top_bodySig {r : Req} (h : Accepted S n3on E r) {v : VLayer} {vo : List VLayer} (hvs : r.vs = v :: vo) :
    v.bodySig = none ∨ SigOK S n3on v.bodySig r.body := by
  cases hc : needsOriginSig r.metas with
  | true =>
    have h0 := (h.layerOK hc 0 (by rw [hvs]; exact Nat.succ_pos _)).2.2
    simp only [hvs, List.getElem_cons_zero] at h0
    by_cases hl : 0 + 1 = (v :: vo).length
    · exact Or.inr (by rwa [if_pos hl] at h0)
    · exact Or.inl (by rwa [if_neg hl] at h0)
  | false =>
    obtain ⟨v', vo', e, _, b⟩ := h.flat hc
    rw [hvs] at e
    cases e
    exact Or.inr b

end Accepted

/-! ## The exemption -/

/-- The exemption condition read off `requestNeedsSignature`. -/
def Exempt (trusted : Bool) (r : Req) : Prop :=
  r.vs = [] ∧ ∃ m mo, r.metas = m :: mo ∧ m.ttl = 1 ∧ trusted = true

theorem needsSignature_false_iff (trusted : Bool) (r : Req) :
    needsSignature trusted r = false ↔ Exempt trusted r := by
  unfold needsSignature Exempt
  cases hv : r.vs with
  | cons v vo => simp
  | nil =>
    cases hm : r.metas with
    | nil => simp
    | cons m mo =>
      by_cases ht : m.ttl = 1 <;> cases trusted <;> simp [ht]

theorem entry_eq (api : Api) (trusted : Bool) (r : Req) :
    entry S E api trusted r =
      if api ≠ .plain ∧ needsSignature trusted r = false then .ok else verifyReq S (api == .n3) E r := by
  cases api with
  | plain => rw [if_neg fun h => h.1 rfl]; rfl
  | ctx => cases h : needsSignature trusted r <;> simp [entry, h, show (Api.ctx == Api.n3) = false from rfl]
  | n3 => cases h : needsSignature trusted r <;> simp [entry, h]

/-- **Acceptance through the three entry points**: a request is let through iff its signature chain is
accepted, or — only through the context-aware entry points — it carries NO verification header, has a meta
header with TTL exactly 1 and arrived over an authenticated peer connection. -/
theorem entry_iff (api : Api) (trusted : Bool) (r : Req) :
    entry S E api trusted r = .ok ↔
      (api ≠ .plain ∧ Exempt trusted r) ∨
      Accepted S (api == .n3) E r := by
  rw [entry_eq, ← needsSignature_false_iff]
  by_cases hx : api ≠ .plain ∧ needsSignature trusted r = false
  · rw [if_pos hx]
    exact iff_of_true rfl (.inl hx)
  · rw [if_neg hx, accepts_iff]
    exact (or_iff_right hx).symm

/-- A request that carries a verification header is never exempt, whatever TTL and peer. -/
theorem no_exemption_with_header (api : Api) (trusted : Bool) (r : Req) (h : r.vs ≠ []) :
    entry S E api trusted r = .ok ↔ Accepted S (api == .n3) E r := by
  rw [entry_iff]
  constructor
  · rintro (⟨_, hv, _⟩ | h')
    · exact absurd hv h
    · exact h'
  · exact Or.inr

/-! ## Tampering

`Binding`: the ideal-scheme assumption — one signature value (key, scheme, signature bytes) is accepted for
at most one message. Stated as a hypothesis about the parameter `S`; satisfiable (`bindingScheme`). -/

def Binding : Prop :=
  ∀ (s : Sig) (m m' : Bytes), checkSig S n3on m s = .ok → checkSig S n3on m' s = .ok → m = m'

section
variable {S} {n3on} {E}

theorem SigOK_binding (hB : Binding S n3on) {o : Option Sig} {m m' : Bytes}
    (h : SigOK S n3on o m) (h' : SigOK S n3on o m') : m = m' := by
  obtain ⟨s, hs, hc⟩ := h
  obtain ⟨s', hs', hc'⟩ := h'
  rw [hs] at hs'; cases hs'
  exact hB s m m' hc hc'

theorem Accepted.body_unique (hB : Binding S n3on) {r r' : Req} (h : Accepted S n3on E r)
    (h' : Accepted S n3on E r') (hvs : r'.vs = r.vs) (hm : needsOriginSig r'.metas = needsOriginSig r.metas) :
    r'.body = r.body := by
  obtain ⟨body, metas, vs⟩ := r
  obtain ⟨body', metas', vs'⟩ := r'
  dsimp only at hvs hm ⊢
  subst hvs
  cases hc : needsOriginSig metas with
  | true =>
    -- the body signature sits on the innermost layer
    have hpos : vs'.length - 1 < vs'.length := Nat.sub_lt (List.length_pos_iff.mpr h.1) Nat.one_pos
    have c := (h.layerOK hc _ hpos).2.2
    have c' := (h'.layerOK (hm.trans hc) _ hpos).2.2
    have e : vs'.length - 1 + 1 = vs'.length := by omega
    rw [if_pos e] at c c'
    exact SigOK_binding hB c' c
  | false =>
    obtain ⟨v, vo, e, _, b⟩ := h.flat hc
    obtain ⟨v', vo', e', _, b'⟩ := h'.flat (hm.trans hc)
    dsimp only at e e'
    rw [e] at e'
    cases e'
    exact SigOK_binding hB b' b

end

/-- Changing the body bytes of an accepted request (everything else untouched) makes it rejected. -/
theorem tamper_body (hB : Binding S n3on) (r : Req) (body' : Bytes)
    (hacc : verifyReq S n3on E r = .ok) (hne : body' ≠ r.body) :
    verifyReq S n3on E { r with body := body' } ≠ .ok := by
  intro h'
  exact hne (Accepted.body_unique hB ((accepts_iff S n3on E r).mp hacc) ((accepts_iff S n3on E _).mp h') rfl rfl)

/-- Replacing the meta header chain so that the encoding seen by ANY checked layer `j` changes
(`j = 0` in the ≥ 2.25 variant; any `j` below the verification depth in the chain variant) makes an
accepted request rejected. -/
theorem tamper_meta (hB : Binding S n3on) (r : Req) (metas' : List MLayer) (j : Nat)
    (hacc : verifyReq S n3on E r = .ok) (hj : j < r.vs.length)
    (hmode : j = 0 ∨ (needsOriginSig r.metas = true ∧ needsOriginSig metas' = true))
    (hne : E.encM (metas'.drop j) ≠ E.encM (r.metas.drop j)) :
    verifyReq S n3on E { r with metas := metas' } ≠ .ok := by
  intro h'
  have a := ((accepts_iff S n3on E r).mp hacc).metaSig j hj (hmode.imp id (·.1))
  have a' := ((accepts_iff S n3on E _).mp h').metaSig j hj (hmode.imp id (·.2))
  exact hne (SigOK_binding hB a' a)

/-- Chain variant: replacing the verification headers BELOW layer `j` (the origin of layer `j`) by anything
with a different encoding — dropping, adding, reordering or editing inner layers — makes an accepted request
rejected. -/
theorem tamper_origin (hB : Binding S n3on) (r : Req) (j : Nat) (tail' : List VLayer)
    (hacc : verifyReq S n3on E r = .ok) (hchain : needsOriginSig r.metas = true) (hj : j < r.vs.length)
    (hne : E.encV tail' ≠ E.encV (r.vs.drop (j + 1))) :
    verifyReq S n3on E { r with vs := r.vs.take (j + 1) ++ tail' } ≠ .ok := by
  intro h'
  have hlen : (r.vs.take (j + 1)).length = j + 1 := by rw [List.length_take]; omega
  have hj' : j < (r.vs.take (j + 1) ++ tail').length := by rw [List.length_append, hlen]; omega
  have a := (((accepts_iff S n3on E r).mp hacc).layerOK hchain j hj).2.1
  have b := (((accepts_iff S n3on E _).mp h').layerOK hchain j hj').2.1
  have e1 : (r.vs.take (j + 1) ++ tail')[j] = r.vs[j] := by
    rw [List.getElem_append_left (by omega), List.getElem_take]
  dsimp only at b
  rw [e1, List.drop_left' hlen] at b
  exact hne (SigOK_binding hB b a)

/-- Chain variant: removing or adding a layer in ONE of the two chains only is always rejected with the
depth-mismatch error, whatever the signatures are. -/
theorem depth_mismatch_rejected (r : Req) (hv : r.vs ≠ []) (hchain : needsOriginSig r.metas = true)
    (hne : origins r.metas ≠ origins r.vs) :
    verifyReq S n3on E r = .wrongVerifyHdrNum := by
  unfold verifyReq
  have : r.vs.isEmpty = false := by cases h : r.vs <;> simp_all
  simp [this, hchain, hne]

/-- Chain variant: a body signature on a non-innermost layer is rejected even if it verifies. -/
theorem outer_body_sig_rejected (r : Req) (j : Nat) (hj : j + 1 < r.vs.length)
    (hchain : needsOriginSig r.metas = true) (hb : (r.vs[j]'(by omega)).bodySig ≠ none) :
    verifyReq S n3on E r ≠ .ok := by
  intro h
  have := (((accepts_iff S n3on E r).mp h).layerOK hchain j (by omega)).2.2
  rw [if_neg (by omega)] at this
  exact hb this

/-! ## Whose request is it: `GetRequestAuthor`

The author the ACL layer works with (owner / container node / inner ring classification, eACL, session subject)
must be a key whose signature over THIS request was verified. -/

/-- **The author of an accepted request is a verified signer.** For every request, signature primitive and both
variants: if verification accepts the request and `GetRequestAuthor` names a key, that key comes from the body
signature of the TOP verification header and the check of exactly that (key, scheme, signature) value over exactly
the request's body is one that verification performed successfully. -/
theorem author_is_verified_signer (r : Req) (s : Sig)
    (hacc : verifyReq S n3on E r = .ok) (ha : requestAuthor S r.vs = .key s) :
    (∃ v vo, r.vs = v :: vo ∧ v.bodySig = some s) ∧ checkSig S n3on r.body s = .ok := by
  have hA := (accepts_iff S n3on E r).mp hacc
  cases hvs : r.vs with
  | nil => exact absurd hvs hA.1
  | cons v vo =>
    rw [hvs] at ha
    have hb : v.bodySig = some s := authorOfSig_key ha
    refine ⟨⟨v, vo, rfl, hb⟩, ?_⟩
    rcases hA.top_bodySig hvs with hn | ⟨s', hs', hc⟩
    · rw [hb] at hn; cases hn
    · rw [hb] at hs'; cases hs'
      exact hc

/-- the same through the three entry points: an exempt request (no verification header) has no author at all -/
theorem author_is_verified_signer_entry (api : Api) (trusted : Bool) (r : Req) (s : Sig)
    (hacc : entry S E api trusted r = .ok) (ha : requestAuthor S r.vs = .key s) :
    checkSig S (api == .n3) r.body s = .ok := by
  have hne : r.vs ≠ [] := by
    intro h; rw [h] at ha; cases ha
  have := (no_exemption_with_header S E api trusted r hne).mp hacc
  exact (author_is_verified_signer S (api == .n3) E r s ((accepts_iff S (api == .n3) E r).mpr this) ha).2

/-- `GetRequestAuthor` drops the error of the key decoding and dereferences the result: for an ACCEPTED request this
never happens (the verified body signature's key decodes). -/
theorem author_no_panic_when_accepted (r : Req) (hacc : verifyReq S n3on E r = .ok) :
    requestAuthor S r.vs ≠ .nilKey := by
  have hA := (accepts_iff S n3on E r).mp hacc
  cases hvs : r.vs with
  | nil => nofun
  | cons v vo =>
    rw [requestAuthor]
    rcases hA.top_bodySig hvs with hn | ⟨s, hs, hc⟩
    · rw [hn]; nofun
    · rw [hs]
      exact authorOfSig_ne_nilKey hc

/-- Chain variant as the code has it: an accepted request that was forwarded (two or more verification layers) has NO
author - its top layer carries no body signature and `GetRequestAuthor` does not look below. -/
theorem forwarded_chain_has_no_author (r : Req) (hacc : verifyReq S n3on E r = .ok)
    (hchain : needsOriginSig r.metas = true) (hlen : 2 ≤ r.vs.length) :
    requestAuthor S r.vs = .noBodySig := by
  have hA := (accepts_iff S n3on E r).mp hacc
  cases hvs : r.vs with
  | nil => rw [hvs] at hlen; cases hlen
  | cons v vo =>
    have h0 := (hA.layerOK hchain 0 (by omega)).2.2
    rw [if_neg (by omega)] at h0
    simp only [hvs, List.getElem_cons_zero] at h0
    rw [requestAuthor, h0]
    rfl

/-! ## Non-vacuity -/

/-- A binding scheme exists: "the signature is the message" (per key), N3 likewise. -/
def bindingScheme : Scheme where
  supported := fun sc => sc == 0 || sc == 1 || sc == 2
  decodable := fun _ k => k.length == 33
  verify := fun _ _ msg sig => sig == msg
  n3 := fun msg invoc _ => invoc == msg

theorem bindingScheme_binding (n3on : Bool) : Binding bindingScheme n3on := by
  intro s m m' h h'
  rw [checkSig_eq_ok_iff] at h h'
  by_cases h3 : (s.scheme == 3 && n3on) = true
  · rw [if_pos h3] at h h'
    exact (beq_iff_eq.mp h).symm.trans (beq_iff_eq.mp h')
  · rw [if_neg h3] at h h'
    exact (beq_iff_eq.mp h.2.2.2.2).symm.trans (beq_iff_eq.mp h'.2.2.2.2)

def exEnc : Enc where
  encM := fun ms => 77 :: ms.length :: (ms.map (·.ttl))
  encV := fun vs => 88 :: vs.length :: (vs.map fun v => (v.metaSig.map (·.sign.length)).getD 0)

def exKey (n : Nat) : Bytes := List.replicate 33 n

/-- A two-layer request (client → node A → this node), old protocol: accepted. -/
def exReq2 : Req :=
  let m1 : MLayer := { hasVersion := true, major := 2, minor := 18, ttl := 2 }
  let m0 : MLayer := { hasVersion := true, major := 2, minor := 18, ttl := 1 }
  let v1 : VLayer := { metaSig := some ⟨exKey 1, exEnc.encM [m1], 0⟩, originSig := some ⟨exKey 1, exEnc.encV [], 0⟩,
                       bodySig := some ⟨exKey 1, [1, 2, 3], 0⟩ }
  let v0 : VLayer := { metaSig := some ⟨exKey 2, exEnc.encM [m0, m1], 1⟩, originSig := some ⟨exKey 2, exEnc.encV [v1], 1⟩,
                       bodySig := none }
  { body := [1, 2, 3], metas := [m0, m1], vs := [v0, v1] }

example : verifyReq bindingScheme false exEnc exReq2 = .ok := rfl
example : verifyReq bindingScheme false exEnc { exReq2 with body := [1, 2, 4] } = .layer 1 (.invalidBodySig .mismatch) := rfl
example : verifyReq bindingScheme false exEnc { exReq2 with metas := exReq2.metas.take 1 } = .wrongVerifyHdrNum := rfl
example : verifyReq bindingScheme false exEnc { exReq2 with vs := exReq2.vs.drop 1 } = .wrongVerifyHdrNum := rfl
example : entry bindingScheme exEnc .ctx true { body := [1], metas := [{ hasVersion := false, major := 0, minor := 0, ttl := 1 }], vs := [] } = .ok := rfl
example : entry bindingScheme exEnc .ctx true { body := [1], metas := [{ hasVersion := false, major := 0, minor := 0, ttl := 2 }], vs := [] } = .missingVerifyHdr := rfl
example : entry bindingScheme exEnc .plain true { body := [1], metas := [{ hasVersion := false, major := 0, minor := 0, ttl := 1 }], vs := [] } = .missingVerifyHdr := rfl

/-- The ≥ 2.25 variant as the code has it: inner verification headers are NOT examined. A request whose
outermost layer is in order is accepted whatever lies in the origin chain (here: an inner layer without
any signature and a meta chain of a different depth). Recorded as a fact about the implementation. -/
theorem flat_variant_ignores_inner_layers :
    let m0 : MLayer := { hasVersion := true, major := 2, minor := 25, ttl := 1 }
    let junk : VLayer := { metaSig := none, originSig := none, bodySig := none }
    let v0 : VLayer := { metaSig := some ⟨exKey 2, exEnc.encM [m0], 1⟩, originSig := none, bodySig := some ⟨exKey 2, [9], 1⟩ }
    verifyReq bindingScheme false exEnc { body := [9], metas := [m0], vs := [v0, junk, junk] } = .ok := by
  decide

/-- The statement about `requestAuthor` is not satisfied by the historical rule "descend to the innermost verification
header": in the ≥ 2.25 variant an accepted request can carry an origin layer naming a key (7) that signed nothing that
was checked - and nothing over this body at all. -/
theorem innermost_author_unverified :
    let m0 : MLayer := { hasVersion := true, major := 2, minor := 25, ttl := 1 }
    let victim : Sig := ⟨exKey 7, [4, 4], 1⟩
    let inner : VLayer := { metaSig := none, originSig := none, bodySig := some victim }
    let v0 : VLayer := { metaSig := some ⟨exKey 2, exEnc.encM [m0], 1⟩, originSig := none, bodySig := some ⟨exKey 2, [9], 1⟩ }
    let r : Req := { body := [9], metas := [m0], vs := [v0, inner] }
    verifyReq bindingScheme false exEnc r = .ok ∧
    innermostAuthor bindingScheme r.vs = .key victim ∧ checkSig bindingScheme false r.body victim ≠ .ok ∧
    requestAuthor bindingScheme r.vs = .key ⟨exKey 2, [9], 1⟩ := by
  decide

example : requestAuthor bindingScheme exReq2.vs = .noBodySig := rfl
example : requestAuthor bindingScheme (exReq2.vs.drop 1) = .key ⟨exKey 1, [1, 2, 3], 0⟩ := by decide
example : requestAuthor bindingScheme [{ metaSig := none, originSig := none, bodySig := some ⟨[5], [1], 0⟩ }] = .nilKey := by decide
example : requestAuthor bindingScheme [{ metaSig := none, originSig := none, bodySig := some ⟨[5], [1], 3⟩ }] = .key ⟨[5], [1], 3⟩ := by decide
example : requestAuthor bindingScheme [{ metaSig := none, originSig := none, bodySig := some ⟨[5], [1], 4⟩ }] = .badScheme := by decide

end NeoFS.SigChain
