import NeoFS.Lemmas.Assemble
import NeoFS.Props.C21
/-!
# C23 — reading a split or erasure-coded object returns exactly its original bytes

`spec payload mode first second` is what a read request denotes: the whole payload (`mode = 0`, GET), the
slice `Spec.rangeSlice` gives for the range modes 1–4, or out-of-range when that slice is unsatisfiable.
`PayloadRange.Resolve` enters through `Gen.resolve`, regenerated from the source on every run (C11's
`resolve_spec` covers 64-bit overflow of `off+ln`). For ALL ways of cutting a payload into children; split objects
need `1 ≤ total cs` (`v2Link [[]] 3 0 0 = .error .other`, the other paths and `spec` give `.ok []`). Not covered:
`splitEcRangeInfo` and the `(0, 0)` branch of `ecRangeByParts` on a non-empty payload.
-/
namespace NeoFS.Assemble
open NeoFS.Spec NeoFS.EC

/-- the meaning of a read request on a payload -/
def spec (payload : Bytes) (mode first second : Nat) : Res :=
  if mode = 0 then .ok payload
  else
    match rangeSlice mode first second payload.length with
    | some (o, l) => .ok (slice payload o l)
    | none => .error .outOfRange

/-- a request of the API: a known mode and 64-bit values -/
structure ReqOK (mode first second : Nat) : Prop where
  hm : mode ≤ 4
  hf : first < M64
  hs : second < M64

/-- a range path answers as `spec` once its `body` returns the slice of every in-bounds resolved range -/
theorem range_exact (pl : Bytes) (mode f s : Nat) (hr : ReqOK mode f s) (hmode : mode ≠ 0) (hn : pl.length < M64)
    (body : Nat → Nat → Res)
    (h : ∀ o l, o + l ≤ pl.length → (l = 0 → pl.length = 0 ∧ o = 0) → body o l = .ok (slice pl o l)) :
    (match resolve mode f s pl.length with
      | .error e => .error e
      | .ok (off, ln) => body off ln) = spec pl mode f s := by
  rw [spec, if_neg hmode, resolve_eq mode f s pl.length hr.hm hr.hf hr.hs hn]
  cases hsl : rangeSlice mode f s pl.length with
  | none => rfl
  | some p => exact h p.1 p.2 (Range.rangeSlice_some_bounds hsl).1 (Range.rangeSlice_some_bounds hsl).2

theorem range_exact_pos (pl : Bytes) (mode f s : Nat) (hr : ReqOK mode f s) (hmode : mode ≠ 0) (h1 : 1 ≤ pl.length)
    (hn : pl.length < M64) (body : Nat → Nat → Res)
    (h : ∀ o l, 1 ≤ l → o + l ≤ pl.length → body o l = .ok (slice pl o l)) :
    (match resolve mode f s pl.length with
      | .error e => .error e
      | .ok (off, ln) => body off ln) = spec pl mode f s :=
  range_exact pl mode f s hr hmode hn body fun o l hb hl0 =>
    h o l (Nat.pos_of_ne_zero fun e => by have := (hl0 e).1; omega) hb

/-- the out-of-range guards of the split paths (regenerated from the source) reject every wrapped or
out-of-bounds pair of 64-bit values and pass every in-bounds one -/
theorem guard_rejects (off ln n : Nat) (ho : off < M64) (hl : ln < M64) (hn : n < M64) (h : n < off + ln) :
    guardV2 off ln n = true ∧ guardV1 off ln n = true :=
  ⟨(guardV2_iff off ln n ho hl hn).mpr h, (guardV1_iff off ln n ho hl hn).mpr h⟩

theorem guard_passes (off ln n : Nat) (h : off + ln ≤ n) (hn : n < M64) :
    guardV2 off ln n = false ∧ guardV1 off ln n = false :=
  ⟨guardV2_passes off ln n h hn, guardV1_passes off ln n h hn⟩

/-- the EC range guard: passes exactly the in-bounds non-empty ranges (all 64-bit values) -/
theorem guardEC_iff (off ln n : Nat) (ho : off < M64) (hl : ln < M64) (hn : n < M64) (h1 : 1 ≤ ln) :
    guardEC off ln n = false ↔ off + ln ≤ n := by
  unfold guardEC Gen.ecRangeGuard
  simp only [Bool.or_eq_false_iff, decide_eq_false_iff_not]
  unfold M64 at *
  omega

/-- The buffer `copyECPartsRanges` copies with is never empty for a non-empty window (an empty buffer would
make `copyPayloadStreamBuffer` spin) and never exceeds the stream chunk size (256: the Reed–Solomon shard limit). -/
theorem ecRangeBuffer_positive (per fi fo li lt : Nat) (hper : per < M64) (hfl : fi ≤ li) (hli : li < 256)
    (hfo : fo < per) (hlt1 : 1 ≤ lt) (hlt : lt ≤ per) (hsame : fi = li → fo < lt) :
    1 ≤ Gen.calcECRangeBufferLen per fi fo li lt ∧ Gen.calcECRangeBufferLen per fi fo li lt ≤ 262144 := by
  unfold Gen.calcECRangeBufferLen
  unfold M64 at hper
  simp only [decide_eq_true_eq]
  split_ifs <;> omega

/-! ## objects stored whole and full reads -/

/-- GET of a split object (either scheme, with or without the link object): the children in order. -/
theorem readAll_concat (cs : List Bytes) : readAll cs = .ok cs.flatten := by
  unfold readAll
  have : (cs.map fun c => readPhys c none) = cs.map fun c => (.ok c : Res) := by
    apply List.map_congr_left; intro c _; rfl
  rw [this, copyAll_oks]

theorem whole_exact (pl : Bytes) (mode f s : Nat) (hr : ReqOK mode f s) (hn : pl.length < M64) :
    readWhole pl mode f s = spec pl mode f s := by
  unfold readWhole
  by_cases h0 : mode = 0
  · rw [if_pos h0, spec, if_pos h0]
  · rw [if_neg h0]
    exact range_exact pl mode f s hr h0 hn _ fun o l _ _ => rfl

/-! ## range reads of split objects -/

theorem length_lt_of_total_lt {cs : List Bytes} (hn : total cs < M64) : ∀ c ∈ cs, c.length < M64 := fun c hc => by
  have := (List.sublist_flatten_of_mem hc).length_le
  unfold total at hn
  omega

/-- `rangeFromLink`: the children chosen by `requiredChildrenIter`, the first cut from `firstChildOffset`, the
last cut at `lastChildRightBound`, concatenate to exactly `payload[off, off+ln)` — for all child size lists. -/
theorem rangeFromLink_exact (cs : List Bytes) (off ln : Nat) (h1 : 1 ≤ ln) (h2 : off + ln ≤ total cs)
    (hn : total cs < M64) : rangeFromLink cs off ln = .ok (slice cs.flatten off ln) := by
  have := readWindow_spec readPhys (fun _ => none) (fun c : Bytes => c) (fun c => c.length < M64)
    (fun c off ln hc h1 h2 => readPhys_range c off ln h1 h2 hc) (fun c _ => rfl) cs off ln h1
    (by simpa [total] using h2) (length_lt_of_total_lt hn)
  simp only [List.map_id'] at this
  unfold rangeFromLink
  exact this

theorem v2Link_exact (cs : List Bytes) (mode f s : Nat) (hr : ReqOK mode f s)
    (h1 : 1 ≤ total cs) (hn : total cs < M64) : v2Link cs mode f s = spec cs.flatten mode f s := by
  unfold v2Link
  by_cases h0 : mode = 0
  · rw [if_pos h0, spec, if_pos h0, readAll_concat]
  · rw [if_neg h0]
    refine range_exact_pos cs.flatten mode f s hr h0 h1 hn _ fun o l hl hb => ?_
    simp only [if_neg (Nat.ne_of_gt hl), guardV2_passes o l (total cs) hb hn, Bool.false_eq_true, if_false]
    exact rangeFromLink_exact cs o l hl hb hn

/-- walking back from the last part (V2 without link object) -/
theorem v2Last_exact (cs : List Bytes) (mode f s : Nat) (hr : ReqOK mode f s)
    (h1 : 1 ≤ total cs) (hn : total cs < M64) : v2Last cs mode f s = spec cs.flatten mode f s := by
  unfold v2Last
  by_cases h0 : mode = 0
  · rw [if_pos h0, spec, if_pos h0, readAll_concat]
  · rw [if_neg h0]
    refine range_exact_pos cs.flatten mode f s hr h0 h1 hn _ fun o l hl hb => ?_
    have := buildChain_spec cs.reverse o (o + l) (by omega)
      (fun c hc => length_lt_of_total_lt hn c (List.mem_reverse.mp hc))
    rw [List.reverse_reverse, Nat.add_sub_cancel_left] at this
    exact this

/-- V1 split: through the link object's child list or by walking back from the last part -/
theorem v1_exact (cs : List Bytes) (link : Bool) (mode f s : Nat) (hr : ReqOK mode f s) (hne : cs ≠ [])
    (h1 : 1 ≤ total cs) (hn : total cs < M64) : v1 cs link mode f s = spec cs.flatten mode f s := by
  obtain ⟨ini, lst, rfl⟩ : ∃ ini lst, cs = ini ++ [lst] :=
    ⟨cs.dropLast, cs.getLast hne, (List.dropLast_concat_getLast hne).symm⟩
  have hg := length_lt_of_total_lt hn
  have hflat : (ini ++ [lst]).flatten = ini.flatten ++ lst := by simp
  unfold v1
  by_cases h0 : mode = 0
  · cases link with
    | true => simp [h0, spec, readAll_concat]
    | false => simp [h0, spec, readAll_concat, copyAll, readPhys]
  · simp only [if_neg h0]
    refine range_exact_pos _ mode f s hr h0 h1 hn _ fun o l hl hb => ?_
    cases link with
    | true =>
      have := v1_range (ini ++ [lst]) [] o l hl hb hn hg
      rw [List.append_nil] at this
      exact this
    | false =>
      have hlen : total (ini ++ [lst]) = ini.flatten.length + lst.length := by simp [total]
      have := v1_range ini lst o l hl (hlen ▸ hb) (hlen ▸ hn) (fun c hc => hg c (by simp [hc]))
      simp only [Bool.false_eq_true, if_false, List.getLast?_concat, Option.getD_some, List.dropLast_concat, hlen,
        hflat]
      exact this

/-- Both split schemes, with and without the link object, give the same answer for every request. -/
theorem all_split_paths_agree (cs : List Bytes) (mode f s : Nat) (hr : ReqOK mode f s) (hne : cs ≠ [])
    (h1 : 1 ≤ total cs) (hn : total cs < M64) :
    v2Link cs mode f s = v2Last cs mode f s ∧ v2Last cs mode f s = v1 cs true mode f s ∧
      v1 cs true mode f s = v1 cs false mode f s := by
  rw [v2Link_exact cs mode f s hr h1 hn, v2Last_exact cs mode f s hr h1 hn,
    v1_exact cs true mode f s hr hne h1 hn, v1_exact cs false mode f s hr hne h1 hn]
  exact ⟨rfl, rfl, rfl⟩

/-- An offset+length range is reported out of range exactly when it does not fit the payload (incl. 64-bit
overflow of `offset+length`), on the V2 link path (the others agree: `all_split_paths_agree`). -/
theorem split_out_of_range_iff (cs : List Bytes) (off ln : Nat) (ho : off < M64) (hl : ln < M64) (h0 : 1 ≤ ln)
    (h1 : 1 ≤ total cs) (hn : total cs < M64) :
    v2Link cs 1 off ln = .error .outOfRange ↔ total cs < off + ln := by
  rw [v2Link_exact cs 1 off ln ⟨by omega, ho, hl⟩ h1 hn]
  have hl0 : ln ≠ 0 := by omega
  unfold spec
  simp only [Nat.one_ne_zero, if_false, rangeSlice, hl0, total]
  by_cases hb : off + ln ≤ cs.flatten.length
  · simp only [hb, if_true]
    constructor
    · intro h; cases h
    · intro h; omega
  · simp only [hb, if_false, true_iff]
    omega

/-! ## the `previous` walk yields the children in order -/

/-- `store` holds a chain of parts, listed here from the last part backwards as (id, payload): every part
points to the one before it and the first part has no `previous` id -/
def ChainRev (store : Nat → Option Part) : List (Nat × Bytes) → Prop
  | [] => True
  | [(i, c)] => store i = some { prev := none, payload := c }
  | (i, c) :: (j, c') :: rest =>
    store i = some { prev := some j, payload := c } ∧ ChainRev store ((j, c') :: rest)

theorem walkBack_chain (store : Nat → Option Part) :
    ∀ (rest : List (Nat × Bytes)) (i : Nat) (c : Bytes), ChainRev store ((i, c) :: rest) →
      walkBack store (rest.length + 1) i = c :: rest.map (·.2) := by
  intro rest
  induction rest with
  | nil => intro i c h; simp only [ChainRev] at h; simp [walkBack, h]
  | cons x xs ih =>
    intro i c h
    obtain ⟨j, c'⟩ := x
    simp only [ChainRev] at h
    simp only [List.length_cons, List.map_cons]
    rw [walkBack, h.1]
    simp only
    rw [ih j c' h.2]

/-- Walking `previous` ids from the last part visits the children last-to-first, so the reversed chain
that the assembler copies is the children in their original order — for every chain of parts. -/
theorem walkBack_in_order (store : Nat → Option Part) (chain : List (Nat × Bytes)) (lastId : Nat) (lastC : Bytes)
    (h : ChainRev store ((chain ++ [(lastId, lastC)]).reverse)) :
    (walkBack store (chain.length + 1) lastId).reverse = (chain ++ [(lastId, lastC)]).map (·.2) := by
  simp only [List.reverse_append, List.reverse_cons, List.reverse_nil, List.nil_append, List.singleton_append] at h
  have := walkBack_chain store chain.reverse lastId lastC h
  simp only [List.length_reverse] at this
  rw [this]
  simp

/-! ## erasure-coded objects -/

/-- GET of an EC object with at most `p` parts unavailable returns exactly the payload. -/
theorem ecGet_exact (o : ECObj) (hd : 1 ≤ o.d) (hm : o.missIn 0 o.d + o.missIn o.d (o.d + o.p) ≤ o.p) :
    ecGet o = .ok o.payload := by
  have hD : ¬ o.missIn 0 o.d > o.p := by omega
  have hP : ¬ o.missIn o.d (o.d + o.p) + o.missIn 0 o.d > o.p := by omega
  simp only [ecGet, hD, hP, if_false, ite_self]
  by_cases hn : o.payload.length = 0
  · rw [if_pos hn, List.eq_nil_of_length_eq_zero hn]
  · have hcat : concatDataParts o.d o.payload.length (dataParts o.payload o.d) = o.payload := by
      unfold concatDataParts
      rw [List.take_of_length_le (Nat.le_of_eq (dataParts_length _ _))]
      exact dataParts_flatten_take o.payload o.d hd
    rw [if_neg hn, hcat, ite_self]

/-- What `ecGet` takes for granted, from C21: with a lawful Reed–Solomon coder `iec.Decode` returns the
payload from the parts that are available whenever at least `d` of them are. -/
theorem ecGet_decode_justified (c : Coder) (d p : Nat) (hd : 1 ≤ d) (hc : c.Lawful d p) (payload : Bytes)
    (hne : payload ≠ []) (present : List Bool) (hp : present.length = d + p) (hk : d ≤ present.count true) :
    decode c d p payload.length (mask (c.allParts d p payload) present) = some payload :=
  decode_any_subset c d p hd hc payload hne present hp hk

/-- and for range reads: the parts `iec.DecodeRange` reconstructs are the original parts, so reading a
recovered data part is reading `dataParts payload d` at that index — unavailable parts within the parity
budget are invisible to the reader. -/
theorem recovered_part_is_original (c : Coder) (d p : Nat) (hc : c.Lawful d p) (payload : Bytes)
    (hne : payload ≠ []) (present required : List Bool) (hp : present.length = d + p)
    (hq : required.length = d + p) (hk : d ≤ present.count true) :
    ∃ r, decodeSome c d p (mask (c.allParts d p payload) present) required = some r ∧
      ∀ i, i < d → required.getD i false = true → r[i]? = some ((dataParts payload d)[i]?) := by
  obtain ⟨r, hr, hfill, _⟩ := decode_range_exact c d p hc payload hne present required hp hq hk
  refine ⟨r, hr, fun i hi hreq => ?_⟩
  rw [hfill i (by omega) (Or.inr hreq), getElem?_allParts_data c d p payload i hi]

/-! ### range reads of EC objects -/

theorem map_snd_slots (o : ECObj) : o.slots.map Prod.snd = dataParts o.payload o.d := by
  unfold ECObj.slots
  exact List.map_snd_zip (by simp [dataParts_length])

theorem length_snd_of_mem_slots (o : ECObj) (hd : 1 ≤ o.d) : ∀ x ∈ o.slots, x.2.length = perShard o.payload.length o.d := by
  intro x hx
  have hx2 : x.2 ∈ o.slots.map Prod.snd := List.mem_map_of_mem hx
  rw [map_snd_slots] at hx2
  exact length_of_mem_dataParts o.payload o.d hd x.2 hx2

/-- Range read of an EC object (`copyECObjectRangeByParts`): the data parts overlapping `[off, off+ln)`,
the first from its offset, the last up to its bound, give exactly `payload[off, off+ln)` — for every rule, payload,
in-bounds range and set of unavailable parts that leaves `d` parts (`recovered_part_is_original`). -/
theorem ecRangeByParts_exact (o : ECObj) (hd : 1 ≤ o.d) (off ln : Nat) (h1 : 1 ≤ ln)
    (hb : off + ln ≤ o.payload.length) (hM : o.d * perShard o.payload.length o.d < M64) (hav : o.d ≤ o.nAvail) :
    ecRangeByParts o off ln = .ok (slice o.payload off ln) := by
  have hn0 : o.payload.length ≠ 0 := by omega
  have hle := le_mul_perShard o.payload.length o.d hd
  have hper1 : 1 ≤ perShard o.payload.length o.d := by
    rcases Nat.eq_zero_or_pos (perShard o.payload.length o.d) with h0 | h0
    · rw [h0] at hle; omega
    · exact h0
  have hperM : perShard o.payload.length o.d < M64 := by
    have := Nat.le_mul_of_pos_left (perShard o.payload.length o.d) (show 0 < o.d by omega)
    omega
  have hg := length_snd_of_mem_slots o hd
  have hsnd : o.slots.map (fun x => x.2) = dataParts o.payload o.d := map_snd_slots o
  have hflat : (o.slots.map (fun x => x.2)).flatten.length = o.d * perShard o.payload.length o.d := by
    rw [hsnd, length_flatten_dataParts o.payload o.d hd]
  have hslen : o.slots.map (fun x => x.2.length) = List.replicate o.d (perShard o.payload.length o.d) := by
    rw [List.eq_replicate_iff]
    constructor
    · have : (o.slots.map Prod.snd).length = o.d := by rw [map_snd_slots, dataParts_length]
      simpa using this
    · intro b hbm
      obtain ⟨x, hx, rfl⟩ := List.mem_map.mp hbm
      exact hg x hx
  obtain ⟨f, fo, l, lb, e1, e2⟩ := ecFrom_spec hper1 hperM o.slots off (off + ln) (by omega)
    (by rw [hflat]; omega) hg
  unfold ecRangeByParts
  simp only [hn0, if_false]
  have h00 : ¬ (ln = 0 ∧ off = 0) := by omega
  simp only [h00, if_false]
  rw [(guardEC_iff off ln _ (by omega) (by omega) (by omega) h1).mpr hb]
  simp only [Bool.false_eq_true, if_false, hav, decide_true]
  have hrep : List.replicate (o.d + o.p) (perShard o.payload.length o.d) =
      (o.slots.map fun x => x.2.length) ++ List.replicate o.p (perShard o.payload.length o.d) := by
    rw [hslen]; simp
  unfold requiredChildren
  rw [hrep, rcFirst_append _ e1]
  simp only
  rw [if_neg (Nat.not_lt.mpr (Nat.le_add_right f l)), Nat.add_sub_cancel_left, e2, hsnd,
    dataParts_flatten o.payload o.d hd, Nat.add_sub_cancel_left, slice_append_left _ _ _ _ hb]

/-- GETRANGE / ranged GET of an EC object that is not size-split: exactly the denoted slice, or out of
range exactly when the request is unsatisfiable, with any parts unavailable as long as `d` remain. -/
theorem ecRange_exact (o : ECObj) (hd : 1 ≤ o.d) (mode f s : Nat) (hr : ReqOK mode f s) (hmode : mode ≠ 0)
    (hM : o.d * perShard o.payload.length o.d < M64) (hav : o.d ≤ o.nAvail) :
    ecRead o mode f s = spec o.payload mode f s := by
  have hle := le_mul_perShard o.payload.length o.d hd
  unfold ecRead ecRange
  rw [if_neg hmode, if_neg (by omega)]
  refine range_exact o.payload mode f s hr hmode (by omega) _ fun off ln hb hl0 => ?_
  by_cases hn : o.payload.length = 0
  · obtain rfl : ln = 0 := by omega
    simp [ecRangeByParts, hn, ecErr, slice_len_zero]
  · rw [ecRangeByParts_exact o hd off ln (Nat.pos_of_ne_zero fun e => hn (hl0 e).1) hb hM hav]
    rfl

/-- GET of a size-split object whose children are EC-coded: every child within its parity budget ⇒ the
payload. -/
theorem splitEcGet_exact (os : List ECObj) (hd : ∀ o ∈ os, 1 ≤ o.d)
    (hm : ∀ o ∈ os, o.missIn 0 o.d + o.missIn o.d (o.d + o.p) ≤ o.p) :
    splitEcGet os = .ok (os.map fun o => o.payload).flatten := by
  unfold splitEcGet
  have : os.map ecGet = (os.map fun o => o.payload).map fun c => (.ok c : Res) := by
    rw [List.map_map]
    apply List.map_congr_left
    intro o ho
    exact ecGet_exact o (hd o ho) (hm o ho)
  rw [this, copyAll_oks]
  rfl

/-- Range read of a size-split object with EC-coded children through the link object: the children chosen by
`requiredChildren`, each read through its own EC parts, compose to exactly the denoted slice. -/
theorem splitEcRangeLink_exact (os : List ECObj) (mode f s : Nat) (hr : ReqOK mode f s)
    (h1 : 1 ≤ totalEC os) (hn : totalEC os < M64)
    (hd : ∀ o ∈ os, 1 ≤ o.d) (hav : ∀ o ∈ os, o.d ≤ o.nAvail)
    (hM : ∀ o ∈ os, o.d * perShard o.payload.length o.d < M64)
    (hnz : ∀ o ∈ os, 1 ≤ o.payload.length) (hmode : mode ≠ 0) :
    splitEcRead os true mode f s = spec (os.map fun o => o.payload).flatten mode f s := by
  have hchild : ∀ o ∈ os, ∀ off ln, 1 ≤ ln → off + ln ≤ o.payload.length →
      ecRangeByParts o off ln = .ok (slice o.payload off ln) :=
    fun o ho off ln h1 h2 => ecRangeByParts_exact o (hd o ho) off ln h1 h2 (hM o ho) (hav o ho)
  have htot : totalEC os = (os.map fun o => o.payload).flatten.length := by
    unfold totalEC
    rw [List.length_flatten, List.map_map]
    rfl
  unfold splitEcRead splitEcRangeLink
  simp only [if_neg hmode, if_true]
  rw [htot] at h1 hn ⊢
  refine range_exact_pos _ mode f s hr hmode h1 hn _ fun o l hl hb => ?_
  rw [if_neg (by omega), if_neg (by omega)]
  have hw := readWindow_spec ecChildRange (fun o => some (0, o.payload.length)) (fun o : ECObj => o.payload)
    (fun o => o ∈ os) (fun c off ln hc h1 h2 => hchild c hc off ln h1 h2)
    (fun c hc => by
      have := hchild c hc 0 c.payload.length (hnz c hc) (by omega)
      simp only [ecChildRange, this, slice_zero_of_length_le _ _ (Nat.le_refl _)])
    os o l hl hb (fun c hc => hc)
  unfold splitEcWindow
  revert hw
  cases requiredChildren o l (os.map fun o => o.payload.length) with
  | mk fst rest =>
    obtain ⟨fo, la, lb⟩ := rest
    cases fst with
    | none => intro hw; simp at hw
    | some fi => intro hw; simp only at hw ⊢; rw [hw]; rfl

/-! ## non-vacuity -/

deriving instance DecidableEq for Except

example : spec [1, 2, 3, 4, 5, 6, 7] 1 2 3 = .ok [3, 4, 5] ∧ spec [1, 2, 3] 1 2 3 = .error .outOfRange ∧
    spec [1, 2, 3] 1 18446744073709551615 2 = .error .outOfRange := by decide

example : v2Link [[1, 2], [3, 4, 5], [6, 7]] 1 1 5 = .ok [2, 3, 4, 5, 6] ∧
    v2Last [[1, 2], [3, 4, 5], [6, 7]] 1 1 5 = .ok [2, 3, 4, 5, 6] ∧
    v1 [[1, 2], [3, 4, 5], [6, 7]] false 1 1 3 = .ok [2, 3, 4] ∧
    v1 [[1, 2], [3, 4, 5], [6, 7]] true 2 6 100 = .ok [7] := by decide

example : ecGet { d := 2, p := 1, payload := [1, 2, 3], present := [false, true, true] } = .ok [1, 2, 3] ∧
    ecGet { d := 2, p := 1, payload := [1, 2, 3], present := [false, true, false] } = .error .notFound := by decide

end NeoFS.Assemble
