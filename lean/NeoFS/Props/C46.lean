import NeoFS.Model.Dump
/-!
# C46 — restoring a shard dump reproduces exactly the dumped objects

For every list of objects (each below 2^32 bytes) and EVERY way the reader cuts the stream into chunks, with
`ignoreErrors = true`; a restore that stops at the first corrupted record (`ignoreErrors = false`) is not covered.
-/
namespace NeoFS.Dump

theorem fromLE32_le32 (n : Nat) (h : n < 4294967296) : fromLE32 (le32 n) = n := by
  have d1 : n % 65536 = n % 256 + 256 * (n / 256 % 256) := Nat.mod_mul (a := 256) (b := 256)
  have d2 : n % 16777216 = n % 65536 + 65536 * (n / 65536 % 256) := Nat.mod_mul (a := 65536) (b := 256)
  have d3 : n % 4294967296 = n % 16777216 + 16777216 * (n / 16777216 % 256) := Nat.mod_mul (a := 16777216) (b := 256)
  rw [le32, fromLE32, ← d1, ← d2, ← d3, Nat.mod_eq_of_lt h]

theorem le32_length (n : Nat) : (le32 n).length = 4 := rfl

theorem read_spec (r : Reader) (n : Nat) :
    ∃ k, k ≤ n ∧ (0 < n → 0 < k) ∧ r.read n = (r.data.take k, ⟨r.data.drop k, r.chunks.drop 1⟩) := by
  refine ⟨_, Nat.min_le_left _ _, fun hn => Nat.lt_min.mpr ⟨hn, ?_⟩, rfl⟩
  cases r.chunks with
  | nil => exact hn
  | cons c _ => exact Nat.le_max_right c 1

theorem readFull_succ {r r' : Reader} {got : List Nat} (fuel n : Nat) (hr : r.read (n + 1) = (got, r'))
    (hne : got.isEmpty = false) :
    r.readFull (fuel + 1) (n + 1) =
      (got ++ (r'.readFull fuel (n + 1 - got.length)).1, (r'.readFull fuel (n + 1 - got.length)).2) := by
  rw [Reader.readFull, hr]
  simp only [hne, Bool.false_eq_true, if_false]

/-- `io.ReadFull` returns exactly the next `n` bytes however the reader chunks them. -/
theorem readFull_exact : ∀ (fuel n : Nat) (r : Reader), n ≤ fuel → n ≤ r.data.length →
    (r.readFull fuel n).1 = r.data.take n ∧ (r.readFull fuel n).2.data = r.data.drop n := by
  intro fuel
  induction fuel with
  | zero =>
    intro n r h _
    obtain rfl := Nat.le_zero.mp h
    exact ⟨rfl, rfl⟩
  | succ f ih =>
    intro n r hn hlen
    cases n with
    | zero => exact ⟨rfl, rfl⟩
    | succ m =>
      obtain ⟨k, hk, hpos, hrd⟩ := read_spec r (m + 1)
      have hk0 : 0 < k := hpos (Nat.succ_pos m)
      have hkl : (r.data.take k).length = k := List.length_take_of_le (Nat.le_trans hk hlen)
      have hne : (r.data.take k).isEmpty = false := by
        rw [List.isEmpty_eq_false_iff, ← List.length_pos_iff, hkl]; exact hk0
      obtain ⟨i1, i2⟩ := ih (m + 1 - k) ⟨r.data.drop k, r.chunks.drop 1⟩
        (Nat.sub_le_iff_le_add.mpr (Nat.le_trans hn (Nat.add_le_add_left hk0 f)))
        (by rw [List.length_drop]; exact Nat.sub_le_sub_right hlen k)
      rw [readFull_succ f m hrd hne, hkl, i1, i2, List.drop_drop, ← List.take_add, Nat.add_sub_cancel' hk]
      exact ⟨rfl, rfl⟩

theorem readFull_append (a b chunks : List Nat) (fuel : Nat) (h : a.length ≤ fuel) :
    ∃ ch, (⟨a ++ b, chunks⟩ : Reader).readFull fuel a.length = (a, ⟨b, ch⟩) := by
  obtain ⟨h1, h2⟩ := readFull_exact fuel a.length ⟨a ++ b, chunks⟩ h (by simp)
  rw [List.take_left' rfl] at h1
  rw [List.drop_left' rfl] at h2
  generalize (⟨a ++ b, chunks⟩ : Reader).readFull fuel a.length = x at h1 h2 ⊢
  exact ⟨x.2.chunks, Prod.ext h1 (congrArg (Reader.mk · x.2.chunks) h2)⟩

/-- encoding of the records that follow the magic -/
def records (objs : List (List Nat)) : List Nat := objs.flatMap fun o => le32 o.length ++ o

theorem dump_eq (objs : List (List Nat)) : dump objs = magic ++ records objs := rfl

theorem records_cons (o : List Nat) (os : List (List Nat)) :
    records (o :: os) = le32 o.length ++ (o ++ records os) := by
  simp [records, List.flatMap_cons, List.append_assoc]

theorem records_length_ge : ∀ objs : List (List Nat), objs.length ≤ (records objs).length := by
  intro objs
  induction objs with
  | nil => simp
  | cons x xs ih =>
    rw [records_cons, List.length_append, List.length_append, le32_length, List.length_cons]; omega

theorem restoreLoop_nil (valid : List Nat → Bool) (ie full : Bool) (fuel : Nat) (chunks : List Nat)
    (acc : List (List Nat)) (failed : Nat) :
    restoreLoop valid ie full fuel ⟨[], chunks⟩ acc failed = .done acc failed := by
  cases fuel with
  | zero => rfl
  | succ f => simp [restoreLoop, Reader.readFull, Reader.read]

theorem restoreLoop_cons (valid : List Nat → Bool) (o : List Nat) (os : List (List Nat)) (fuel : Nat)
    (chunks : List Nat) (acc : List (List Nat)) (failed : Nat) (ho : o.length < 4294967296) :
    ∃ ch, restoreLoop valid true true (fuel + 1) ⟨records (o :: os), chunks⟩ acc failed =
      if valid o then restoreLoop valid true true fuel ⟨records os, ch⟩ (acc ++ [o]) failed
      else restoreLoop valid true true fuel ⟨records os, ch⟩ acc (failed + 1) := by
  obtain ⟨ch1, h1⟩ := readFull_append (le32 o.length) (o ++ records os) chunks 4 (Nat.le_refl 4)
  obtain ⟨ch2, h2⟩ := readFull_append o (records os) ch1 o.length (Nat.le_refl _)
  have h1 : (⟨le32 o.length ++ (o ++ records os), chunks⟩ : Reader).readFull 4 4 = _ := h1
  refine ⟨ch2, ?_⟩
  rw [records_cons, restoreLoop, h1]
  simp only [fromLE32_le32 o.length ho, h2, le32_length, Nat.lt_irrefl, if_true, if_false, Bool.true_and,
    decide_false, Bool.false_eq_true, Bool.not_true, Bool.false_and]
  exact if_neg Bool.false_ne_true

/-- The record loop reads back exactly the records: valid ones are restored in order, invalid ones are
counted and skipped when errors are ignored — for every chunking of the stream. -/
theorem restoreLoop_records (valid : List Nat → Bool) :
    ∀ (objs : List (List Nat)) (fuel : Nat) (chunks : List Nat) (acc : List (List Nat)) (failed : Nat),
      (∀ o ∈ objs, o.length < 4294967296) → objs.length < fuel →
      restoreLoop valid true true fuel ⟨records objs, chunks⟩ acc failed =
        .done (acc ++ objs.filter valid) (failed + objs.countP (fun o => !valid o)) := by
  intro objs
  induction objs with
  | nil => intro fuel chunks acc failed _ _; simpa [records] using restoreLoop_nil valid true true fuel chunks acc failed
  | cons o os ih =>
    intro fuel chunks acc failed hsz hf
    obtain ⟨f, rfl⟩ : ∃ f, fuel = f + 1 := ⟨fuel - 1, by omega⟩
    obtain ⟨ch, hstep⟩ := restoreLoop_cons valid o os f chunks acc failed (hsz o List.mem_cons_self)
    have hrest := fun acc failed =>
      ih f ch acc failed (fun x hx => hsz x (List.mem_cons_of_mem _ hx)) (by simpa using hf)
    rw [hstep]
    cases hv : valid o
    · simp [hrest, hv, Nat.add_assoc, Nat.add_comm 1]
    · simp [hrest, hv]

/-- **Restoring a dump stores exactly the dumped objects, in order, with identical bytes, for every
chunking of the stream**; with corrupted records ignored, exactly the intact ones and the number of skipped. -/
theorem restore_dump_exact (valid : List Nat → Bool) (objs : List (List Nat)) (chunks : List Nat)
    (hsz : ∀ o ∈ objs, o.length < 4294967296) :
    restore valid true true ⟨dump objs, chunks⟩ =
      .done (objs.filter valid) (objs.countP fun o => !valid o) := by
  obtain ⟨ch, h1⟩ := readFull_append magic (records objs) chunks 4 (Nat.le_refl 4)
  have hfuel : objs.length < (magic ++ records objs).length + 1 := by
    have : (magic ++ records objs).length = 4 + (records objs).length := List.length_append
    have := records_length_ge objs
    omega
  -- `magic.length` is the code's literal 4
  have h1 : (⟨magic ++ records objs, chunks⟩ : Reader).readFull 4 4 = _ := h1
  rw [restore, dump_eq, h1]
  simpa using restoreLoop_records valid objs _ ch [] 0 hsz hfuel

theorem restore_dump_all (objs : List (List Nat)) (chunks : List Nat)
    (hsz : ∀ o ∈ objs, o.length < 4294967296) :
    restore (fun _ => true) true true ⟨dump objs, chunks⟩ = .done objs 0 := by
  rw [restore_dump_exact _ objs chunks hsz]; simp

/-- The defect that was repaired: reading the record body with a single `Read` loses data as soon as the
reader returns a short read (a concrete two-chunk reader). -/
theorem single_read_loses_data :
    restore (fun _ => true) true false ⟨dump [[1, 2, 3]], [4, 4, 1]⟩ ≠ .done [[1, 2, 3]] 0 := by decide

end NeoFS.Dump
