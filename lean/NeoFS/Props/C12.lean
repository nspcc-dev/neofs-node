import NeoFS.Props.C13
import NeoFS.Lemmas.FSTreeSched
/-!
# C12 — a crash during a blob write never exposes partial or wrong object bytes

Process-crash model (no power loss): the oracle value `Fault.crash p` at system call `n` stops the process there
(a write being executed may have appended a prefix of `p` bytes); every later system call of the run is a no-op on the
kernel state (`crash_freezes_*`, for the calls of the O_TMPFILE writer and `Delete`).  Recovery (`recover`) drops the process state — open descriptors, the batch in
memory, locks — and keeps names and inodes; unnamed (O_TMPFILE) inodes are unreachable; `CleanUpTmp` removes the
portable writer's `p#i` names, which no reader ever looks at.  Since the theorems of C13 hold for EVERY oracle,
they hold for every crash point of every schedule.
-/
namespace NeoFS.FSTree

/-- the kernel part of the state is unchanged and the process stays stopped -/
def Frozen (k k' : K) : Prop := k'.inodes = k.inodes ∧ k'.dir = k.dir ∧ k'.tmps = k.tmps ∧ k'.crashed = true

theorem Frozen.trans {a b c : K} (h1 : Frozen a b) (h2 : Frozen b c) : Frozen a c :=
  ⟨by rw [h2.1, h1.1], by rw [h2.2.1, h1.2.1], by rw [h2.2.2.1, h1.2.2.1], h2.2.2.2⟩

theorem faultAt_crashed {o : Oracle} {k : K} (h : k.crashed = true) : faultAt o k = some (.crash 0) := by
  unfold faultAt; rw [h]; rfl

theorem crash_freezes_open (o : Oracle) (k : K) (h : k.crashed = true) : Frozen k (sysOpen o k).1 ∧ (sysOpen o k).2 = none := by
  unfold sysOpen; rw [faultAt_crashed h]; exact ⟨⟨rfl, rfl, rfl, rfl⟩, rfl⟩

theorem crash_freezes_write (o : Oracle) (k : K) (i : Nat) (b : Bytes) (h : k.crashed = true) :
    Frozen k (sysWrite o k i b).1 ∧ (sysWrite o k i b).2 = false := by
  unfold sysWrite; rw [faultAt_crashed h]; simp only [h, if_true]; exact ⟨⟨rfl, rfl, rfl, h⟩, trivial⟩

theorem crash_freezes_link (o : Oracle) (k : K) (i a : Nat) (h : k.crashed = true) :
    Frozen k (sysLink o k i a).1 ∧ (sysLink o k i a).2 = .err := by
  unfold sysLink; rw [faultAt_crashed h]; exact ⟨⟨rfl, rfl, rfl, rfl⟩, rfl⟩

theorem crash_freezes_sync (o : Oracle) (k : K) (h : k.crashed = true) : Frozen k (sysSync o k).1 ∧ (sysSync o k).2 = false := by
  unfold sysSync; rw [faultAt_crashed h]; exact ⟨⟨rfl, rfl, rfl, rfl⟩, rfl⟩

theorem crash_freezes_unlink (o : Oracle) (k : K) (a : Nat) (h : k.crashed = true) : Frozen k (sysUnlink o k a).1 := by
  unfold sysUnlink; rw [faultAt_crashed h]; exact ⟨rfl, rfl, rfl, rfl⟩

theorem crash_freezes_intSync (cfg : Cfg) (o : Oracle) (k : K) (b : Batch) (h : k.crashed = true) :
    Frozen k (intSync cfg o k b).1 := by
  unfold intSync
  simp only
  split
  · have s1 := crash_freezes_sync o k h
    have s2 := crash_freezes_sync o (sysSync o k).1 s1.1.2.2.2
    exact ⟨by simp only [s2.1.1, s1.1.1], by simp only [s2.1.2.1, s1.1.2.1], by simp only [s2.1.2.2.1, s1.1.2.2.1], s2.1.2.2.2⟩
  · have s2 := crash_freezes_sync o k h
    exact ⟨s2.1.1, s2.1.2.1, s2.1.2.2.1, s2.1.2.2.2⟩

/-- after the stop point the rest of `syncBatch.write` does nothing to names and bytes -/
theorem crash_freezes_sbWrite (cfg : Cfg) (o : Oracle) (k : K) (b : Batch) (a : Nat) (d : Bytes) (h : k.crashed = true) :
    Frozen k (sbWrite cfg o k b a d).1 ∧ (sbWrite cfg o k b a d).2.2 = false := by
  unfold sbWrite
  simp only
  have w := crash_freezes_write o k b.ino (record a d) h
  simp only [w.2, Bool.not_false, if_true]
  exact ⟨w.1.trans (crash_freezes_intSync cfg o _ _ w.1.2.2.2), trivial⟩

theorem crash_freezes_writeFile (o : Oracle) (k : K) (a : Nat) (d : Bytes) (h : k.crashed = true) :
    Frozen k (writeFile o k a d).1 := by
  unfold writeFile
  simp only
  have r := crash_freezes_open o k h
  rw [r.2]
  exact r.1

/-- every crash point of every schedule: what is visible after recovery and `CleanUpTmp` is, through both readers,
exactly one payload offered for that address — never partial, never foreign bytes -/
theorem crash_safe (cfg : Cfg) (hc : cfg.Fixed) (hg : cfg.generic = false) (o : Oracle) (evs : List Ev)
    (hv : ∀ ev ∈ evs, ValidEv ev) (dec : Bytes → Option Bytes) (a : Nat)
    (hvis : «exists» (cleanUpTmp (recover (runEv cfg o {} evs))) a = true) :
    ∃ d, Offered evs a d ∧
      get dec (cleanUpTmp (recover (runEv cfg o {} evs))) a = decompress dec d ∧
      getStream cfg dec (cleanUpTmp (recover (runEv cfg o {} evs))) a = decompress dec d := by
  exact visible_of_kinv cfg hc.2.2 (cleanUpTmp (recover (runEv cfg o {} evs)))
    (faults_fail_cleanly cfg hc hg o evs hv).kinv dec a hvis

/-- in particular for the oracle that stops the process at call `n` (after `p` bytes of a write in progress) -/
theorem crash_safe_at (cfg : Cfg) (hc : cfg.Fixed) (hg : cfg.generic = false) (n p : Nat) (evs : List Ev)
    (hv : ∀ ev ∈ evs, ValidEv ev) (dec : Bytes → Option Bytes) (a : Nat)
    (hvis : «exists» (cleanUpTmp (recover (runEv cfg (crashAt n p) {} evs))) a = true) :
    ∃ d, Offered evs a d ∧ get dec (cleanUpTmp (recover (runEv cfg (crashAt n p) {} evs))) a = decompress dec d :=
  let ⟨d, h1, h2, _⟩ := crash_safe cfg hc hg (crashAt n p) evs hv dec a hvis
  ⟨d, h1, h2⟩

/-- ACKNOWLEDGED WRITES SURVIVE: what was readable before stays readable with identical bytes through any further
schedule under any oracle (so through any crash point of a later write) and through recovery, unless that very address is deleted -/
theorem acked_survive {P} (cfg : Cfg) (hc : cfg.Fixed) (hg : cfg.generic = false) (o : Oracle) (evs : List Ev) :
    ∀ (k : K), (∀ ev ∈ evs, ValidEv ev) → (∀ ev ∈ evs, ∀ a d, Offers ev a d → P a d) → SInv P k →
    ∀ (x : Nat) (e : Bytes), (∀ ev ∈ evs, ev ≠ .del x) → ReadsK k.inodes k.dir x e →
    ReadsK (cleanUpTmp (recover (runEv cfg o k evs))).inodes (cleanUpTmp (recover (runEv cfg o k evs))).dir x e := by
  intro k hv hp hs x e hx h
  refine readsK_run _ evs x e (fun k' ev hev hs' => ?_) k hs h
  have st := step_safe (P := P) cfg hc hg o k' ev (hv ev hev) (hp ev hev) hs'
  exact ⟨st.1, st.2.2 x e fun a ha hxa => hx ev hev (by rw [ha, hxa])⟩

/-! ## one process, several calls, a stop at ANY system call of the whole sequence

`runApi` keeps one running system-call index over `Put` / `PutBatch` / `Delete` calls made one after the other, so the
oracle `crashAt n` is a process kill at the `n`-th system call — also between two calls of one API call that no hook
point of the code separates (for instance between the two calls a writer would need to replace an existing name).
The theorems hold for EVERY oracle. -/

/-- every kill point of every call sequence: what is visible after reopening is exactly one offered payload -/
theorem api_crash_safe (cfg : Cfg) (hc : cfg.Fixed) (hg : cfg.generic = false) (o : Oracle) (ops : List Api)
    (hv : ∀ op ∈ ops, ValidApi op) (dec : Bytes → Option Bytes) (a : Nat)
    (hvis : «exists» (cleanUpTmp (recover (runApi cfg o {} ops))) a = true) :
    ∃ d, ApiOffered ops a d ∧
      get dec (cleanUpTmp (recover (runApi cfg o {} ops))) a = decompress dec d ∧
      getStream cfg dec (cleanUpTmp (recover (runApi cfg o {} ops))) a = decompress dec d := by
  have init : SInv (ApiOffered ops) ({} : K) := ⟨fun _ _ h => (by cases h), fun _ h => (by cases h), rfl, rfl⟩
  have hs := api_run_inv (P := ApiOffered ops) cfg hc hg o ops {} hv (fun op hop a d ho => ⟨op, hop, ho⟩) init
  exact visible_of_kinv cfg hc.2.2 (cleanUpTmp (recover (runApi cfg o {} ops))) hs.kinv dec a hvis

/-- ACKNOWLEDGED OBJECTS SURVIVE EVERY LATER CALL, WHEREVER IT IS KILLED: what was readable stays readable with identical
bytes through any further calls (puts of the same address included) under any oracle and through recovery, unless that
very address is deleted -/
theorem api_acked_survive {P} (cfg : Cfg) (hc : cfg.Fixed) (hg : cfg.generic = false) (o : Oracle) (ops : List Api) :
    ∀ (k : K), (∀ op ∈ ops, ValidApi op) → (∀ op ∈ ops, ∀ a d, ApiOffers op a d → P a d) → SInv P k →
    ∀ (x : Nat) (e : Bytes), (∀ op ∈ ops, op ≠ .del x) → ReadsK k.inodes k.dir x e →
    ReadsK (cleanUpTmp (recover (runApi cfg o k ops))).inodes (cleanUpTmp (recover (runApi cfg o k ops))).dir x e := by
  intro k hv hp hs x e hx h
  refine readsK_run _ ops x e (fun k' op hop hs' => ?_) k hs h
  have st := api_step_safe (P := P) cfg hc hg o k' op (hv op hop) (hp op hop) hs'
  exact ⟨st.1, st.2 x e fun a ha hxa => hx op hop (by rw [ha, hxa])⟩

/-- in particular: putting an object that is already stored, interrupted at any system call, never takes it away -/
theorem reput_keeps_object {P} (cfg : Cfg) (hc : cfg.Fixed) (hg : cfg.generic = false) (o : Oracle) (k : K) (a : Nat)
    (d e : Bytes) (hs : SInv P k) (ha : IdOK a) (hd : ValidData d) (hp : P a d) (h : ReadsK k.inodes k.dir a e) :
    ReadsK (cleanUpTmp (recover (put cfg o k a d).1)).inodes (cleanUpTmp (recover (put cfg o k a d).1)).dir a e :=
  api_acked_survive (P := P) cfg hc hg o [.put a d] k (fun op hop => by simp at hop; subst hop; exact ⟨ha, hd⟩)
    (fun op hop x y ho => by simp at hop; subst hop; obtain ⟨rfl, rfl⟩ := ho; exact hp) hs a e
    (fun op hop => by simp at hop; subst hop; simp) h

/-- every image of `crashImages` (the model side of the kill-at-every-system-call run) is safe -/
theorem crash_images_safe (cfg : Cfg) (hc : cfg.Fixed) (hg : cfg.generic = false) (ops : List Api)
    (hv : ∀ op ∈ ops, ValidApi op) (dec : Bytes → Option Bytes) (k' : K) (hk : k' ∈ crashImages cfg {} ops) (a : Nat)
    (hvis : «exists» k' a = true) : ∃ d, ApiOffered ops a d ∧ get dec k' a = decompress dec d := by
  unfold crashImages at hk
  obtain ⟨n, _, rfl⟩ := List.mem_map.mp hk
  obtain ⟨d, h1, h2, _⟩ := api_crash_safe cfg hc hg (crashAt n 0) ops hv dec a hvis
  exact ⟨d, h1, h2⟩

/-! ## concurrent callers of the portable writer: every interleaving of their system calls, every stop point -/

/-- WHAT ANY INTERLEAVING OF ANY NUMBER OF CALLERS LEAVES, under any oracle, after any prefix of the schedule (a prefix is
a schedule) and recovery: every visible address reads, through both readers, exactly one payload offered for it — a
temporary file is renamed only by the caller that created it (`O_EXCL`) and only when it holds the whole payload; the
address of a caller that returned success is visible; objects of addresses nobody writes read the same; no visible
address disappears -/
theorem generic_writers_safe {P} (cfg : Cfg) (hc : cfg.Fixed) (o : Oracle) (sched : List Nat) (k : K) (ws : List GW)
    (hk : KInv P k.inodes k.dir) (hw : ∀ w ∈ ws, w.ph = .atOpen 0 ∧ IdOK w.a ∧ ValidData w.d ∧ P w.a w.d)
    (dec : Bytes → Option Bytes) :
    (∀ a, «exists» (cleanUpTmp (recover (gsched o k ws sched).1)) a = true →
      ∃ d, P a d ∧ get dec (cleanUpTmp (recover (gsched o k ws sched).1)) a = decompress dec d ∧
        getStream cfg dec (cleanUpTmp (recover (gsched o k ws sched).1)) a = decompress dec d) ∧
    (∀ (n : Nat) (w : GW), (gsched o k ws sched).2[n]? = some w → w.ph = .done true →
      «exists» (cleanUpTmp (recover (gsched o k ws sched).1)) w.a = true) ∧
    (∀ x e, (∀ w ∈ ws, w.a ≠ x) → ReadsK k.inodes k.dir x e →
      ReadsK (cleanUpTmp (recover (gsched o k ws sched).1)).inodes (cleanUpTmp (recover (gsched o k ws sched).1)).dir x e) ∧
    (∀ x, «exists» k x = true → «exists» (cleanUpTmp (recover (gsched o k ws sched).1)) x = true) ∧
    (∀ (m : Nat) (v : GW), (gsched o k ws sched).2[m]? = some v → ∃ v0 : GW, ws[m]? = some v0 ∧ v0.a = v.a) := by
  obtain ⟨gi, gf, gm, gn⟩ := gsched_inv (P := P) o sched (k, ws) (ginv_init k ws hk hw)
  refine ⟨?_, ?_, ?_, ?_, gn⟩
  · intro a hvis
    exact visible_of_kinv cfg hc.2.2 (cleanUpTmp (recover (gsched o k ws sched).1)) gi.kinv dec a hvis
  · intro n w hw' hph
    exact gi.acked n w hw' hph
  · intro x e hx hr
    exact gf x e (fun n w h => hx w (List.mem_of_getElem? h)) hr
  · intro x hx
    exact gm x hx

/-- TWO CALLERS PUTTING ONE ADDRESS (a client's put racing with the replicator's): whatever the interleaving and wherever
the process stops, the address is either not there yet or reads exactly one of the two stored forms, complete; once one
of them has returned success it is there -/
theorem two_writers_one_address (cfg : Cfg) (hc : cfg.Fixed) (o : Oracle) (sched : List Nat) (a : Nat) (d1 d2 : Bytes)
    (ha : IdOK a) (h1 : ValidData d1) (h2 : ValidData d2) (dec : Bytes → Option Bytes) :
    («exists» (cleanUpTmp (recover (gsched o {} [{ a := a, d := d1 }, { a := a, d := d2 }] sched).1)) a = true →
      get dec (cleanUpTmp (recover (gsched o {} [{ a := a, d := d1 }, { a := a, d := d2 }] sched).1)) a = decompress dec d1 ∨
      get dec (cleanUpTmp (recover (gsched o {} [{ a := a, d := d1 }, { a := a, d := d2 }] sched).1)) a = decompress dec d2) ∧
    (∀ (n : Nat) (w : GW), (gsched o {} [{ a := a, d := d1 }, { a := a, d := d2 }] sched).2[n]? = some w → w.ph = .done true →
      «exists» (cleanUpTmp (recover (gsched o {} [{ a := a, d := d1 }, { a := a, d := d2 }] sched).1)) a = true) := by
  have hw : ∀ w ∈ [({ a := a, d := d1 } : GW), { a := a, d := d2 }],
      w.ph = .atOpen 0 ∧ IdOK w.a ∧ ValidData w.d ∧ (fun x e => x = a ∧ (e = d1 ∨ e = d2)) w.a w.d := by
    intro w hw
    simp at hw
    rcases hw with rfl | rfl
    · exact ⟨rfl, ha, h1, rfl, Or.inl rfl⟩
    · exact ⟨rfl, ha, h2, rfl, Or.inr rfl⟩
  obtain ⟨g1, g2, _, _, g5⟩ := generic_writers_safe (P := fun x e => x = a ∧ (e = d1 ∨ e = d2)) cfg hc o sched {}
    [{ a := a, d := d1 }, { a := a, d := d2 }] (fun _ _ h => (by cases h)) hw dec
  refine ⟨?_, ?_⟩
  · intro hvis
    obtain ⟨d, ⟨_, hd⟩, hg, _⟩ := g1 a hvis
    rcases hd with rfl | rfl
    · exact Or.inl hg
    · exact Or.inr hg
  · intro n w hw' hph
    obtain ⟨v0, hv0, hav⟩ := g5 n w hw'
    have hv0a : v0.a = a := by
      have := List.mem_of_getElem? hv0
      simp at this
      rcases this with rfl | rfl <;> rfl
    have := g2 n w hw' hph
    rw [← hav, hv0a] at this
    exact this

/-- THE PORTABLE WRITER REPLACES, IT NEVER TAKES AWAY: a `Put` (of any address, also one that is stored already) under any
oracle — so killed at any of its system calls — keeps every name pointing to a complete offered payload of its address and
leaves every visible address visible -/
theorem generic_put_keeps_visible {P} (cfg : Cfg) (hg : cfg.generic = true) (o : Oracle) (k : K) (a : Nat) (d : Bytes)
    (hk : KInv P k.inodes k.dir) (ha : IdOK a) (hd : ValidData d) (hp : P a d) :
    KInv P (put cfg o k a d).1.inodes (put cfg o k a d).1.dir ∧
    (∀ x, (k.dir.lookup x).isSome → ((put cfg o k a d).1.dir.lookup x).isSome) ∧
    (∀ x e, x ≠ a → ReadsK k.inodes k.dir x e → ReadsK (put cfg o k a d).1.inodes (put cfg o k a d).1.dir x e) := by
  have hm := (put_generic_is_machine cfg hg o k a d hd.1.1).1
  have hs := gsched_single o a d 12 k (.atOpen 0)
  obtain ⟨gi, gf, gmono, _⟩ := gsched_inv (P := P) o (List.replicate 12 0) (k, [{ a := a, d := d }])
    (ginv_init k _ hk (fun w hw => by simp at hw; subst hw; exact ⟨rfl, ha, hd, hp⟩))
  simp only [gsched] at hs
  rw [hs] at gi gf gmono
  rw [hm]
  refine ⟨gi.kinv, gmono, ?_⟩
  intro x e hx hr
  apply gf x e _ hr
  intro n w hw
  cases n with
  | zero => simp at hw; subst hw; exact fun h => hx h.symm
  | succ n => simp at hw

/-- non-vacuity, the interleaving of the writer's own comment: caller 0 opens `p#0` and writes, caller 1 finds `p#0`
taken (`EEXIST`), caller 0 closes and renames and returns success, the process stops: the object reads caller 0's bytes -/
example :
    let r := gsched noFault {} [{ a := 1, d := [5, 6] }, { a := 1, d := [5, 6] }] [0, 0, 1, 0, 0]
    get (fun _ => none) (cleanUpTmp (recover r.1)) 1 = .ok [5, 6] ∧
    r.2.map (·.ph) = [.done true, .atOpen 1] := by
  decide +kernel

/-- and both callers running to their ends in any order leave the object -/
example :
    let r := gsched noFault {} [{ a := 1, d := [5, 6] }, { a := 1, d := [5, 6] }] ([1, 0, 0, 1, 1] ++ gfinishSched 2)
    get (fun _ => none) (cleanUpTmp (recover r.1)) 1 = .ok [5, 6] ∧ r.2.map (·.ph) = [.done true, .done true] := by
  decide +kernel

/-- non-vacuity for the call sequences: an object is put, put again and the process is killed at the second call's
`linkat` (call 6: open, writev, linkat, close | open, writev, linkat): the object is still there -/
example :
    let k := cleanUpTmp (recover (runApi {} (crashAt 6 0) {} [Api.put 1 [5, 6], Api.put 1 [5, 6]]))
    get (fun _ => none) k 1 = .ok [5, 6] := by
  decide +kernel

/-- LEFTOVER TEMPORARY FILES NEVER SHOW UP: no reader looks at the `p#i` names, and `CleanUpTmp` changes no read -/
theorem tmp_invisible (dec : Bytes → Option Bytes) (cfg : Cfg) (k : K) (t : List ((Nat × Nat) × Nat)) (a : Nat) :
    get dec { k with tmps := t } a = get dec k a ∧ getStream cfg dec { k with tmps := t } a = getStream cfg dec k a ∧
    iterate dec { k with tmps := t } = iterate dec k ∧ «exists» { k with tmps := t } a = «exists» k a :=
  ⟨rfl, rfl, rfl, rfl⟩

/-- a crash inside a delete: the name is either still there with its bytes or gone -/
theorem delete_crash_atomic (o : Oracle) (k : K) (a : Nat) :
    (delete o k a).1.dir = k.dir ∨ (delete o k a).1.dir = eraseKey a k.dir := by
  obtain ⟨k', r, he, -, -, h⟩ := delete_cases o k a
  rw [he]; exact h

/-- non-vacuity: stopping a two-member batch right after the first `linkat` (call 3: open, writev, linkat) leaves
exactly the first member readable, with its bytes -/
example :
    let k := cleanUpTmp (recover (runEv {} (crashAt 3 0) {} [Ev.batch [(1, [5, 6]), (2, [7])]]))
    get (fun _ => none) k 1 = .ok [5, 6] ∧ get (fun _ => none) k 2 = .error .notFound := by
  decide +kernel

/-- and stopping inside the second `writev` after 20 bytes leaves a torn record behind the first member: still invisible -/
example :
    let k := cleanUpTmp (recover (runEv {} (crashAt 3 20) {} [Ev.batch [(1, [5, 6]), (2, [7])]]))
    get (fun _ => none) k 1 = .ok [5, 6] ∧ get (fun _ => none) k 2 = .error .notFound ∧
    (k.inodes.getD 0 []).length = 40 + 20 := by
  decide +kernel

end NeoFS.FSTree
