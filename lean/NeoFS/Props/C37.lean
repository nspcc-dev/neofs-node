import NeoFS.Lemmas.IRContainer
/-
C37 — the inner ring approves container changes only when the owner authorised them.

`approve` (Model/IRContainer.lean) is the decision of the container processor: `true` iff
`NotarySignAndInvokeTX` is reached.  `OwnerAuthorised` (Lemmas/IRContainer.lean) is the
declarative specification.  All theorems quantify over EVERY signature scheme `Crypto σ`,
configuration, epoch/time, alphabet flag and request.
-/
namespace NeoFS.IRContainer

variable {σ : Type}

/-- `verifySignature` accepts only what `TokenAuthorised` describes (all token kinds). -/
theorem verifySignature_token_authorised (C : Crypto σ) (env : Env) (a : Auth σ)
    (h : verifySignature C env a = true) : TokenAuthorised C env a := by
  obtain ⟨owner, kind, idSet, target, tok, vs, sig⟩ := a
  cases tok with
  | none => exact authDirect_sound C _ h
  | garbage => cases h
  | v1 t => exact verifySessionV1_sound C env _ t h
  | v2 ch => exact verifySessionV2_sound C env _ ch h

/-- without a V2 token, `verifySignature` accepts only owner-authorised requests. -/
theorem verifySignature_owner_authorised_partial (C : Crypto σ) (env : Env) (a : Auth σ)
    (h : verifySignature C env a = true) (hv2 : a.tok.isV2 = false) : OwnerAuthorised C env a := by
  have ht := verifySignature_token_authorised C env a h
  obtain ⟨owner, kind, idSet, target, tok, vs, sig⟩ := a
  cases tok with
  | v2 ch => cases hv2
  | _ => exact ht

/-- every approved request passed `verifySignature` on each witness it carries -/
theorem approve_verifies (C : Crypto σ) (cfg : Cfg) (env : Env) (al : Bool) (r : Req σ)
    (h : approve C cfg env al r = true) : ∀ a ∈ r.auths, verifySignature C env a = true := by
  cases r with
  | put dec p a nid e =>
    obtain ⟨-, -, ⟨-, ha, -⟩, he⟩ := approve_put_iff.mp h
    cases e with
    | none => exact List.forall_mem_singleton.mpr ha
    | some pe =>
      exact List.forall_mem_cons.mpr
        ⟨ha, List.forall_mem_singleton.mpr (checkSetEACL_iff.mp (he pe.1 pe.2 rfl).2.2).2.2⟩
  | delete idOk found a => exact List.forall_mem_singleton.mpr (approve_delete_iff.mp h).2.2.2
  | eacl found e a =>
    exact List.forall_mem_singleton.mpr (checkSetEACL_iff.mp (approve_eacl_iff.mp h).2.2.2.2).2.2
  | attr idOk nz ne found a => exact List.forall_mem_singleton.mpr (approve_attr_iff.mp h).2.2.2.2.2

/-- For all requests and all token kinds: approval implies that every witness of the request is
    the owner's own signature or an owner-rooted, unexpired token (chain) for exactly this verb
    and container — for V2 tokens without any statement about who signed the payload. -/
theorem approve_implies_token_authorised (C : Crypto σ) (cfg : Cfg) (env : Env) (al : Bool)
    (r : Req σ) (h : approve C cfg env al r = true) :
    ∀ a ∈ r.auths, TokenAuthorised C env a :=
  fun a ha => verifySignature_token_authorised C env a (approve_verifies C cfg env al r h a ha)

/-- The proved part of the full statement: for requests without V2 tokens approval implies
    `OwnerAuthorised`. -/
theorem approve_implies_authorised_partial (C : Crypto σ) (cfg : Cfg) (env : Env) (al : Bool)
    (r : Req σ) (h : approve C cfg env al r = true) :
    ∀ a ∈ r.auths, a.tok.isV2 = false → OwnerAuthorised C env a :=
  fun a ha hv => verifySignature_owner_authorised_partial C env a
    (approve_verifies C cfg env al r h a ha) hv

/-- the full statement of the property -/
def C37_full : Prop :=
  ∀ (σ : Type) (C : Crypto σ) (cfg : Cfg) (env : Env) (al : Bool) (r : Req σ),
    approve C cfg env al r = true → ∀ a ∈ r.auths, OwnerAuthorised C env a

/-! #### the witness: a V2 token of the owner (key 1) for SetEACL on container 5 naming user 2,
used by a stranger (key 3) whose "signature" does not even verify -/

def cexToken : TokV2 DSig :=
  { version := 0, issuer := 1, subjects := [2], ctxs := [⟨5, [10]⟩], life := some (10, 10, 100),
    final := false, sig := .ecdsa (some 1) ⟨1, true, false⟩ }

def cexAuth : Auth DSig :=
  { owner := 1, kind := .setEACL, idSet := true, target := 5, tok := .v2 [cexToken],
    vs := .key 3, sig := ⟨3, false, false⟩ }

def cexReq : Req DSig :=
  .eacl true { tableOk := true, tableCid := 5, records := [], extendable := true } cexAuth

/-- the full statement is FALSE for the current code: with a V2 token nobody checks who signed
    the request payload (`invocScript`/`verifScript`/`signedData` are unused by
    `verifySessionV2`). -/
theorem C37_counterexample : ¬ C37_full := by
  intro hfull
  have h := hfull DSig driverCrypto ⟨false, false⟩ ⟨0, 50⟩ true cexReq (by decide) cexAuth
    (by simp [cexReq, Req.auths, Req.auth])
  simp only [OwnerAuthorised, cexAuth] at h
  obtain ⟨_, t, r, _, k, _, hver, _⟩ := h
  simp [driverCrypto] at hver

/-! #### the other checks of the statement -/

/-- a non-alphabet node approves nothing -/
theorem approve_requires_alphabet (C : Crypto σ) (cfg : Cfg) (env : Env) (r : Req σ) :
    approve C cfg env false r = false := by
  cases r <;> simp [approve]

/-- creation: the container decodes, only permitted system attributes are present (the
    metadata one only when enabled), EC rules only when allowed and never mixed with REP, the
    SDK's policy check passed, name/zone of a named request equal the container's; an eACL table
    set in the same transaction is for the new container, touches no system role and the basic
    ACL is extendable -/
theorem approve_put_checks (C : Crypto σ) (cfg : Cfg) (env : Env) (al dec : Bool) (p : PutBody)
    (a : Auth σ) (nid : Cid) (e : Option (EaclBody × Auth σ))
    (h : approve C cfg env al (.put dec p a nid e) = true) :
    dec = true ∧
    (∀ k ∈ p.attrs, hasSysPrefix k = true →
      k ∈ allowedSystemAttributes ∧ (k = sysAttrChainMeta → cfg.metaEnabled = true)) ∧
    (p.ecRules > 0 → cfg.allowEC = true ∧ p.reps = 0) ∧
    p.policyOk = true ∧
    (p.reqZone ≠ "" → p.reqName = p.cnrName ∧ p.reqZone = p.cnrZone) ∧
    (∀ eb ea, e = some (eb, ea) → eb.tableOk = true ∧ eb.tableCid = nid ∧ eb.extendable = true ∧
      ∀ r ∈ eb.records, ∀ role ∈ r.roles, role ≠ roleSystem) := by
  obtain ⟨-, hdec, ⟨hstatic, -, hpol, hnns⟩, he⟩ := approve_put_iff.mp h
  simp only [putStaticOk, Bool.and_eq_true, Bool.or_eq_true, Bool.not_eq_true', beq_iff_eq,
    Bool.and_eq_false_iff, decide_eq_false_iff_not] at hstatic
  obtain ⟨⟨⟨hattrs, hec⟩, hmix⟩, -⟩ := hstatic
  refine ⟨hdec, fun k hk hpre => ?_, fun hpos => ⟨?_, ?_⟩, hpol, fun hz => ?_, fun eb ea hee => ?_⟩
  · have := List.all_eq_true.mp hattrs k hk
    simp only [hpre, if_true, Bool.and_eq_true, Bool.or_eq_true, bne_iff_ne, ne_eq,
      List.contains_iff_mem] at this
    exact ⟨this.1, fun hk' => this.2.resolve_left (fun hne => hne hk')⟩
  · exact hec.resolve_right (Nat.ne_of_gt hpos)
  · exact Nat.eq_zero_of_not_pos (hmix.resolve_left (fun hn => hn hpos))
  · simp only [nnsOk, Bool.or_eq_true, Bool.and_eq_true, beq_iff_eq] at hnns
    exact hnns.resolve_left hz
  · obtain ⟨htab, hcid, hset⟩ := he eb ea hee
    obtain ⟨hval, hext, -⟩ := checkSetEACL_iff.mp hset
    exact ⟨htab, hcid, hext, fun r hr => (validateEACL_iff.mp hval r hr).2.1⟩

/-- eACL change: the table decodes and names a container known to the contract, the basic ACL
    allows extension, no record targets the system role, filters are well-formed -/
theorem approve_eacl_checks (C : Crypto σ) (cfg : Cfg) (env : Env) (al found : Bool)
    (e : EaclBody) (a : Auth σ) (h : approve C cfg env al (.eacl found e a) = true) :
    e.tableOk = true ∧ e.tableCid ≠ 0 ∧ found = true ∧ e.extendable = true ∧
    (∀ r ∈ e.records, r.comment = 0 ∧ (∀ role ∈ r.roles, role ≠ roleSystem) ∧
      ∀ f ∈ r.filters, filterOk f = true) := by
  obtain ⟨-, htab, hcid, hfound, hset⟩ := approve_eacl_iff.mp h
  obtain ⟨hval, hext, -⟩ := checkSetEACL_iff.mp hset
  exact ⟨htab, hcid, hfound, hext, validateEACL_iff.mp hval⟩

/-- removal and attribute changes: the id decodes and the container is known to the contract;
    attribute requests additionally carry a non-zero id and are not past `ValidUntil` -/
theorem approve_target_checks (C : Crypto σ) (cfg : Cfg) (env : Env) (al : Bool) :
    (∀ idOk found a, approve C cfg env al (.delete idOk found a) = true → idOk = true ∧ found = true) ∧
    (∀ idOk nz ne found a, approve C cfg env al (.attr idOk nz ne found a) = true →
      idOk = true ∧ nz = true ∧ ne = true ∧ found = true) := by
  constructor
  · intro idOk found a h
    obtain ⟨-, h1, h2, -⟩ := approve_delete_iff.mp h
    exact ⟨h1, h2⟩
  · intro idOk nz ne found a h
    obtain ⟨-, h1, h2, h3, h4, -⟩ := approve_attr_iff.mp h
    exact ⟨h1, h2, h3, h4⟩

/-! #### non-vacuity: requests of every kind that ARE approved -/

def okSig (k : Nat) : DSig := ⟨k, true, false⟩
def okPut : PutBody :=
  { attrs := ["__NEOFS__NAME", "color"], ecRules := 0, reps := 2, hasInitial := false,
    policyOk := true, reqName := "", reqZone := "", cnrName := "n", cnrZone := "container" }
def v1For (k : Kind) (cnr : Cid) : TokV1 DSig :=
  { issuer := 1, sig := .ecdsa (some 1) (okSig 1), verb := k.v1, cnr := cnr, iat := 3, nbf := 3,
    exp := 9, authKey := some 2 }
def rootTok : TokV2 DSig :=
  { version := 0, issuer := 1, subjects := [2], ctxs := [⟨0, [8, 9]⟩, ⟨5, [9, 10]⟩],
    life := some (10, 10, 100), final := false, sig := .ecdsa (some 1) (okSig 1) }
def leafTok : TokV2 DSig :=
  { version := 0, issuer := 2, subjects := [3], ctxs := [⟨5, [9]⟩],
    life := some (20, 20, 90), final := true, sig := .ecdsa (some 2) (okSig 2) }

-- `+kernel`: the elaborator's own evaluation of the attribute names is slow
example : approve driverCrypto ⟨false, false⟩ ⟨5, 50⟩ true
    (.put true okPut ⟨1, .put, false, 0, .none, .key 1, okSig 1⟩ 7 none) = true := by decide +kernel
example : approve driverCrypto ⟨false, false⟩ ⟨5, 50⟩ true
    (.put true okPut ⟨1, .put, false, 0, .v2 [rootTok], .key 2, okSig 2⟩ 7 none) = true := by decide +kernel
example : approve driverCrypto ⟨false, false⟩ ⟨5, 50⟩ true
    (.delete true true ⟨1, .delete, true, 5, .v1 (v1For .delete 5), .key 2, okSig 2⟩) = true := by decide
example : approve driverCrypto ⟨false, false⟩ ⟨5, 50⟩ true
    (.delete true true ⟨1, .delete, true, 5, .v2 [leafTok, rootTok], .key 3, okSig 3⟩) = true := by decide
example : approve driverCrypto ⟨false, false⟩ ⟨5, 50⟩ true
    (.attr true true true true ⟨1, .setAttr, true, 5, .v1 (v1For .setAttr 0), .key 2, okSig 2⟩) = true := by decide
/-- and the delegated chain above does satisfy the specification's chain part -/
example : ChainFromOwner driverCrypto ⟨5, 50⟩
    ⟨1, .delete, true, 5, .v2 [leafTok, rootTok], .key 3, okSig 3⟩ [leafTok, rootTok] :=
  verifySessionV2_sound _ _ _ _ (by decide)

/-! #### what each check is for: dropping it admits a concrete unauthorised request -/

/-- BEFORE the repair `verifySessionV2` asserted the verb only when a container id was known:
    a token of the owner that grants nothing but OBJECT GET (verb 2) let its holder create
    containers on the owner's behalf. -/
theorem verb_unasserted_before_fix :
    let t : TokV2 DSig := { rootTok with ctxs := [⟨0, [2]⟩] }
    let a : Auth DSig := ⟨1, .put, false, 0, .v2 [t], .key 3, ⟨3, false, false⟩⟩
    verifySessionV2Old driverCrypto ⟨5, 50⟩ a [t] = true ∧
    verifySessionV2 driverCrypto ⟨5, 50⟩ a [t] = false ∧
    ¬ Grants t Kind.put.v2 0 := by
  refine ⟨by decide, by decide, ?_⟩
  intro ⟨c, hc, _, hv⟩
  simp at hc
  subst hc
  simp [Kind.v2] at hv

/-- each conjunct of the V1 branch is needed: a token for another verb, for another container,
    issued by a stranger, expired, or with the payload signed by a key the token does not name is
    rejected, while the same request with the field put right is accepted -/
theorem v1_checks_each_needed :
    let env : Env := ⟨5, 50⟩
    let mk (t : TokV1 DSig) (s : DSig) : Auth DSig := ⟨1, .delete, true, 5, .v1 t, .key 2, s⟩
    verifySignature driverCrypto env (mk (v1For .delete 5) (okSig 2)) = true ∧
    verifySignature driverCrypto env (mk (v1For .setEACL 5) (okSig 2)) = false ∧
    verifySignature driverCrypto env (mk (v1For .delete 6) (okSig 2)) = false ∧
    verifySignature driverCrypto env (mk { v1For .delete 5 with issuer := 4, sig := .ecdsa (some 4) (okSig 4) } (okSig 2)) = false ∧
    verifySignature driverCrypto env (mk { v1For .delete 5 with sig := .ecdsa (some 4) (okSig 4) } (okSig 2)) = false ∧
    verifySignature driverCrypto env (mk { v1For .delete 5 with exp := 4 } (okSig 2)) = false ∧
    verifySignature driverCrypto env (mk { v1For .delete 5 with nbf := 6 } (okSig 2)) = false ∧
    verifySignature driverCrypto env (mk (v1For .delete 5) (okSig 3)) = false ∧
    verifySignature driverCrypto env (mk (v1For .delete 5) ⟨2, false, false⟩) = false := by
  decide

/-- direct witness: the key must verify the payload AND derive the owner's id -/
theorem direct_checks_each_needed :
    let mk (vk : Nat) (s : DSig) : Auth DSig := ⟨1, .delete, true, 5, .none, .key vk, s⟩
    verifySignature driverCrypto ⟨5, 50⟩ (mk 1 (okSig 1)) = true ∧
    verifySignature driverCrypto ⟨5, 50⟩ (mk 3 (okSig 3)) = false ∧
    verifySignature driverCrypto ⟨5, 50⟩ (mk 1 (okSig 3)) = false ∧
    verifySignature driverCrypto ⟨5, 50⟩ (mk 1 ⟨1, false, false⟩) = false := by
  decide

end NeoFS.IRContainer
