import NeoFS.Lemmas.MetaWF
import NeoFS.Spec.MetaRef
/-!
# C01 — object visibility follows tombstone, garbage, expiry and lock rules in all views

`Meta.Cnr.status` is the status function every view of the metabase model goes through
(`exists_`, `get`, `dbExists`, `dbGet`).
`Meta.Ref.status` is the declarative statement of the rules (Spec/MetaRef.lean).
The theorems hold for every bucket state with unique, ordered keys (`Cnr.WF`, which every operation preserves)
— in particular for every state reachable by any history, at every epoch and for every address.
-/
namespace NeoFS.Meta
open Ref

theorem isExpired_of_find (c : Cnr) (id epoch : Nat) :
    c.isExpired id epoch = ownExpired c epoch id := by
  unfold Cnr.isExpired ownExpired expiredAt
  cases c.find? id with
  | none => rfl
  | some r =>
    simp only
    cases r.exp with
    | none => rfl
    | some s =>
      simp only [Option.bind_some]
      cases parseUint64 s <;> rfl

theorem isExpired_mem (c : Cnr) (h : c.WF) (r : Rec) (hr : r ∈ c.recs) (epoch : Nat) :
    c.isExpired r.id epoch = expiredAt r epoch := by
  rw [isExpired_of_find]
  unfold ownExpired
  have : c.find? r.id = some r := find_of_mem c.recs h.recs r hr
  rw [this]

theorem tombstoned_iff (c : Cnr) (id : Nat) :
    (c.assocTyped 0 id .tombstone).isSome = tombstoned c id := by
  unfold Cnr.assocTyped tombstoned
  rw [Option.isSome_map, List.isSome_find?]
  refine List.any_congr rfl fun r => ?_
  -- at epoch 0 expiration is not looked at
  rw [Bool.and_comm (r.assoc == id), show (decide (0 > 0) && c.isExpired r.id 0) = false from rfl, Bool.not_false,
    Bool.and_true]

theorem marked_iff (c : Cnr) (h : c.WF) (id : Nat) :
    marked c id = (c.garb.find? (·.1 == id)).any (fun g => !g.2) := any_key_eq_find? h.garb

theorem inGarbage_ref (c : Cnr) (h : c.WF) (id : Nat) :
    c.inGarbage id = if tombstoned c id then .tombstoned else if marked c id then .gcMarked else .available := by
  unfold Cnr.inGarbage
  rw [tombstoned_iff, marked_iff c h]
  cases tombstoned c id
  · cases c.garb.find? (·.1 == id) with
    | none => rfl
    | some g => obtain ⟨gid, red⟩ := g; cases red <;> rfl
  · rfl

theorem inGarbage_available (c : Cnr) (h : c.WF) (id : Nat) :
    (c.inGarbage id == .available) = (!tombstoned c id && !marked c id) := by
  rw [inGarbage_ref c h]
  cases tombstoned c id <;> cases marked c id <;> rfl

theorem objectLocked_ref (c : Cnr) (h : c.WF) (epoch id : Nat) :
    c.objectLocked epoch id = liveLock c epoch id := by
  unfold Cnr.objectLocked liveLock
  refine any_congr_of_mem fun r hr => ?_
  rw [isExpired_mem c h r hr, inGarbage_available c h, Bool.and_comm (r.assoc == id)]
  simp only [Bool.and_assoc]

theorem statusDirect_ref (c : Cnr) (h : c.WF) (epoch id : Nat) :
    c.statusDirect epoch id = ownStatus c epoch id := by
  unfold Cnr.statusDirect ownStatus
  rw [isExpired_of_find, objectLocked_ref c h, inGarbage_ref c h]
  cases ownExpired c epoch id <;> cases liveLock c epoch id <;> cases tombstoned c id <;> cases marked c id <;> simp

theorem find_filter_parent (l : List Rec) (p q : Rec → Bool) :
    ((l.filter p).find? q).elim 0 (·.parentId) = ((l.find? fun x => p x && q x).map (·.parentId)).getD 0 := by
  rw [List.find?_filter]
  simp only [Bool.decide_and, Bool.decide_eq_true]
  cases l.find? fun x => p x && q x <;> rfl

theorem findParent_ref (c : Cnr) (id : Nat) : c.findParent id = parentOf c id := by
  unfold Cnr.findParent parentOf
  simp only [find_filter_parent]
  cases c.find? id <;> rfl

/-- one level of `objectStatusNested`, in the words of `Ref.status` -/
theorem statusNested_succ (c : Cnr) (epoch fuel id : Nat) :
    c.statusNested epoch (fuel + 1) id =
      if c.statusDirect epoch id == .tombstoned || c.statusDirect epoch id == .expired || c.findParent id == 0 then
        c.statusDirect epoch id
      else worse (c.statusNested epoch fuel (c.findParent id)) (c.statusDirect epoch id) := by
  rw [Cnr.statusNested]
  dsimp only
  generalize c.statusDirect epoch id = s
  by_cases hp : c.findParent id = 0
  · cases s <;> simp [hp]
  · cases s <;> simp [hp, worse, Status.max]

/-- **Views agree with the reference rules**: the status every read path uses is exactly the declared one,
for every well-formed bucket, epoch and object id. -/
theorem status_eq_ref (c : Cnr) (h : c.WF) (epoch id : Nat) : c.status epoch id = Ref.status c epoch id := by
  unfold Cnr.status maxObjectNestingLevel Ref.status
  rw [statusNested_succ, statusNested_succ]
  simp only [Cnr.statusNested, statusDirect_ref c h, findParent_ref]

/-- An existence check answers exactly what the reference status says. -/
theorem exists_follows_ref (c : Cnr) (h : c.WF) (epoch id : Nat) (hg : c.gcMark = false) :
    (c.exists_ id epoch false) =
      match Ref.status c epoch id with
      | .gcMarked => (false, .notFound)
      | .tombstoned => (false, .alreadyRemoved)
      | .expired => (false, .expired)
      | .available => ((c.typeOf id).isSome, .ok) := by
  unfold Cnr.exists_
  rw [status_eq_ref c h, hg]
  cases Ref.status c epoch id <;> simp

/-- A header read answers exactly what the reference status says. -/
theorem get_follows_ref (c : Cnr) (h : c.WF) (epoch id : Nat) :
    (c.get id true false epoch) =
      match Ref.status c epoch id with
      | .gcMarked => (.notFound, none)
      | .tombstoned => (.alreadyRemoved, none)
      | .expired => (.expired, none)
      | .available => (match c.find? id with | some r => (.ok, some r) | none => (.notFound, none)) := by
  unfold Cnr.get
  simp only [if_true]
  rw [status_eq_ref c h]
  cases Ref.status c epoch id <;> simp
  cases c.find? id <;> rfl

/-- `objectLocked` (`IsLocked` in a live container) is exactly "some live lock exists". -/
theorem isLocked_iff_live_lock (c : Cnr) (h : c.WF) (epoch id : Nat) :
    c.objectLocked epoch id = liveLock c epoch id := objectLocked_ref c h epoch id

/-- **After any history** (every finite sequence of `Op`s from the empty metabase) every bucket is well-formed,
hence in every reachable state, at every epoch, every address has exactly the reference status in all views. -/
theorem views_agree_after_any_history (ops : List Op) (cn : Nat) (c : Cnr)
    (hc : getCnr? (run ops).db cn = some c) (epoch id : Nat) :
    c.status epoch id = Ref.status c epoch id ∧
      c.objectLocked epoch id = liveLock c epoch id := by
  obtain ⟨k, hk⟩ := getCnr_mem _ cn c hc
  have hwf : c.WF := run_wf ops (k, c) hk
  exact ⟨status_eq_ref c hwf epoch id, objectLocked_ref c hwf epoch id⟩

def exRec (id : Nat) (typ : OType) (assoc : Nat) : Rec :=
  ⟨id, typ, true, false, 0, 0, 0, 0, assoc, none, none⟩

/-- Non-vacuity; two locks, the first one removed — still locked. -/
example :
    let c : Cnr := { recs := [exRec 3 .regular 0, exRec 4 .lock 3, exRec 8 .lock 3], garb := [(3, false), (4, false)] }
    c.objectLocked 1 3 = true ∧ c.status 1 3 = .available := by decide

end NeoFS.Meta
