import NeoFS.Props.C22
import NeoFS.Model.Policer
import Mathlib.Data.List.Perm.Basic
import Mathlib.Data.List.Induction
/-!
# C22 (extension) — the node order USED by the policer when it re-creates a lost EC part

`Model/Policer.lean`, section `checkECParts / recreateECParts`: the pass over a local EC part checks the sibling
parts (`checkParts`: HEAD loop, payload loop, the "too many parts unavailable" bound) and hands every lost part to
the replicator (`recreatePart`).  Proved for EVERY script of node answers, every node list, every rule and every
local part: a re-created part is offered to the nodes in the part's own node order — a rearrangement of the node
list of the rule (every node exactly once) that starts at the node with the part's index when there are at least as
many nodes as parts — distinct re-created parts start at distinct nodes, exactly the lost parts are re-created,
each once, never the local one.
-/
namespace NeoFS.Policer
open NeoFS.EC

theorem filterMap_range_getElem? (l : List Nat) : (List.range l.length).filterMap (fun i => l[i]?) = l := by
  induction l using List.reverseRecOn with
  | nil => rfl
  | append_singleton l a ih =>
    rw [List.length_append, List.length_singleton, List.range_succ, List.filterMap_append]
    have h : (List.range l.length).filterMap (fun i => (l ++ [a])[i]?) = (List.range l.length).filterMap (fun i => l[i]?) := by
      apply List.filterMap_congr
      intro i hi
      rw [List.mem_range] at hi
      exact List.getElem?_append_left hi
    rw [h, ih]
    simp

/-- The order in which the nodes are offered part `pi` is a rearrangement of the node list of the rule: every node
is offered the part exactly once. -/
theorem partSeq_perm (nodes : List Nat) (pi total : Nat) (ht : 1 ≤ total) : (partSeq nodes pi total).Perm nodes := by
  unfold partSeq
  have h := (nodeSeq_perm pi total nodes.length ht).filterMap (fun i => nodes[i]?)
  rw [filterMap_range_getElem?] at h
  exact h

/-- With at least as many nodes as parts the order starts at the node with the part's own index. -/
theorem partSeq_head (nodes : List Nat) (pi total : Nat) (hp : pi < total) (hn : total ≤ nodes.length) :
    (partSeq nodes pi total).head? = nodes[pi]? := by
  unfold partSeq
  have h := nodeSeq_first pi total nodes.length hp hn
  cases hs : nodeSeq pi total nodes.length with
  | nil => rw [hs] at h; simp at h
  | cons a as =>
    rw [hs] at h
    simp only [List.head?_cons, Option.some.injEq] at h
    subst h
    have hlt : a < nodes.length := by omega
    simp [List.getElem?_eq_getElem hlt]

theorem headStep_missing (pe : PartsEnv) (nodes : List Nat) (total parity lp : Nat) (s : Chk) (p : Nat) :
    (headStep pe nodes total parity lp s p).missing = s.missing ∨
      (p ≠ lp ∧ (headStep pe nodes total parity lp s p).missing = s.missing ++ [p]) := by
  unfold headStep
  by_cases h : (s.abort || decide (p = lp)) = true
  · rw [if_pos h]; exact Or.inl rfl
  rw [if_neg h]
  have hne : p ≠ lp := fun e => h (by simp [e])
  generalize headPart (pe.stat p) (partSeq nodes p total) = r
  obtain ⟨asked, res⟩ := r
  cases res with
  | found => exact Or.inl rfl
  | skip =>
    dsimp only
    rw [apply_ite Chk.missing]
    exact Or.inl (ite_self _)
  | missing =>
    dsimp only
    by_cases hf : Chk.full { s with heads := s.heads ++ asked.map fun n => (p, n) } parity = true
    · rw [if_pos hf]; exact Or.inl rfl
    · rw [if_neg hf]; exact Or.inr ⟨hne, rfl⟩

theorem headLoop_missing (pe : PartsEnv) (nodes : List Nat) (total parity lp : Nat) (ps : List Nat) (s : Chk) :
    ∃ m, (ps.foldl (headStep pe nodes total parity lp) s).missing = s.missing ++ m ∧ m.Sublist ps ∧ lp ∉ m := by
  induction ps generalizing s with
  | nil => exact ⟨[], by simp, List.Sublist.refl _, by simp⟩
  | cons p ps ih =>
    simp only [List.foldl_cons]
    obtain ⟨m, hm, hs, hl⟩ := ih (headStep pe nodes total parity lp s p)
    rcases headStep_missing pe nodes total parity lp s p with h | ⟨hne, h⟩
    · exact ⟨m, by rw [hm, h], hs.cons _, hl⟩
    · refine ⟨p :: m, by rw [hm, h]; simp, hs.cons_cons _, ?_⟩
      simp only [List.mem_cons, not_or]
      exact ⟨fun e => hne e.symm, hl⟩

/-- no branch of the payload loop touches `missing` -/
theorem rangeStep_missing (pe : PartsEnv) (me : Nat) (nodes : List Nat) (total parity lp : Nat) (s : Chk) (p : Nat) :
    (rangeStep pe me nodes total parity lp s p).missing = s.missing := by
  unfold rangeStep
  simp only [apply_ite Chk.missing, ite_self]

theorem rangeLoop_missing (pe : PartsEnv) (me : Nat) (nodes : List Nat) (total parity lp : Nat) (ps : List Nat) (s : Chk) :
    (ps.foldl (rangeStep pe me nodes total parity lp) s).missing = s.missing := by
  induction ps generalizing s with
  | nil => rfl
  | cons p ps ih => simp only [List.foldl_cons]; rw [ih, rangeStep_missing]

/-- The parts `checkECParts` decides to re-create: distinct part indexes of the rule, never the local part. -/
theorem checkParts_missing (pe : PartsEnv) (me : Nat) (nodes : List Nat) (total parity lp : Nat) :
    (checkParts pe me nodes total parity lp).missing.Nodup ∧
      ∀ p ∈ (checkParts pe me nodes total parity lp).missing, p < total ∧ p ≠ lp := by
  obtain ⟨m, hm, hs, hl⟩ := headLoop_missing pe nodes total parity lp (List.range total) {}
  rw [show ({} : Chk).missing ++ m = m from rfl] at hm
  have good : m.Nodup ∧ ∀ p ∈ m, p < total ∧ p ≠ lp :=
    ⟨hs.nodup List.nodup_range, fun p hp => ⟨List.mem_range.mp (hs.subset hp), fun e => hl (e ▸ hp)⟩⟩
  have none : ([] : List Nat).Nodup ∧ ∀ p ∈ ([] : List Nat), p < total ∧ p ≠ lp := ⟨List.nodup_nil, nofun⟩
  unfold checkParts
  generalize (List.range total).foldl (headStep pe nodes total parity lp) {} = s at hm ⊢
  dsimp only
  by_cases h1 : (s.abort || s.missing.isEmpty) = true
  · rw [if_pos h1]; exact none
  rw [if_neg h1, apply_ite Chk.missing, rangeLoop_missing, hm]
  by_cases h2 : ((List.range total).foldl (rangeStep pe me nodes total parity lp) s).abort = true
  · rw [if_pos h2]; exact none
  · rw [if_neg h2]; exact good

/-- **C22 for re-created parts**: every task `recreateECParts` hands to the replicator is for a lost part of the rule
other than the local one, asks the nodes in that part's own node order, and reports what the replicator did with
exactly that order. -/
theorem recreate_tasks_follow_part_order (e : Env) (pe : PartsEnv) (nodes : List Nat) (total parity lp : Nat) :
    ∀ t ∈ (recreate e pe nodes total parity lp).2,
      t.part < total ∧ t.part ≠ lp ∧ t.nodes = partSeq nodes t.part total ∧
        t.done = handleTaskC e true 1 (partSeq nodes t.part total) := by
  intro t ht
  simp only [recreate, List.mem_map] at ht
  obtain ⟨p, hp, rfl⟩ := ht
  have := (checkParts_missing pe e.me nodes total parity lp).2 p hp
  exact ⟨this.1, this.2, rfl, rfl⟩

/-- … hence every node of the rule is offered the re-created part exactly once … -/
theorem recreated_part_offered_to_every_node_once (e : Env) (pe : PartsEnv) (nodes : List Nat) (total parity lp : Nat) :
    ∀ t ∈ (recreate e pe nodes total parity lp).2, t.nodes.Perm nodes := by
  intro t ht
  obtain ⟨h1, _, h3, _⟩ := recreate_tasks_follow_part_order e pe nodes total parity lp t ht
  rw [h3]
  exact partSeq_perm nodes t.part total (by omega)

/-- … starting, when there are at least as many nodes as parts, at the node with the part's own index … -/
theorem recreated_part_starts_at_own_node (e : Env) (pe : PartsEnv) (nodes : List Nat) (total parity lp : Nat)
    (hn : total ≤ nodes.length) :
    ∀ t ∈ (recreate e pe nodes total parity lp).2, t.nodes.head? = nodes[t.part]? := by
  intro t ht
  obtain ⟨h1, _, h3, _⟩ := recreate_tasks_follow_part_order e pe nodes total parity lp t ht
  rw [h3]
  exact partSeq_head nodes t.part total h1 hn

/-- … so distinct re-created parts start at distinct nodes (the nodes of a placement list are distinct). -/
theorem recreated_parts_start_at_distinct_nodes (e : Env) (pe : PartsEnv) (nodes : List Nat) (total parity lp : Nat)
    (hn : total ≤ nodes.length) (nd : nodes.Nodup) :
    ∀ t1 ∈ (recreate e pe nodes total parity lp).2, ∀ t2 ∈ (recreate e pe nodes total parity lp).2,
      t1.part ≠ t2.part → t1.nodes.head? ≠ t2.nodes.head? := by
  intro t1 h1 t2 h2 hne
  have a1 := recreate_tasks_follow_part_order e pe nodes total parity lp t1 h1
  have a2 := recreate_tasks_follow_part_order e pe nodes total parity lp t2 h2
  rw [recreated_part_starts_at_own_node e pe nodes total parity lp hn t1 h1,
    recreated_part_starts_at_own_node e pe nodes total parity lp hn t2 h2]
  have l1 : t1.part < nodes.length := by omega
  have l2 : t2.part < nodes.length := by omega
  rw [List.getElem?_eq_getElem l1, List.getElem?_eq_getElem l2]
  intro h
  exact hne ((List.Nodup.getElem_inj_iff nd).mp (Option.some.inj h))

/-- Every lost part is re-created exactly once. -/
theorem recreated_parts_once (e : Env) (pe : PartsEnv) (nodes : List Nat) (total parity lp : Nat) :
    ((recreate e pe nodes total parity lp).2.map (·.part)) = (checkParts pe e.me nodes total parity lp).missing ∧
      ((recreate e pe nodes total parity lp).2.map (·.part)).Nodup := by
  have h : ((recreate e pe nodes total parity lp).2.map (·.part)) = (checkParts pe e.me nodes total parity lp).missing := by
    simp [recreate, recreatePart, Function.comp_def]
  exact ⟨h, h ▸ (checkParts_missing pe e.me nodes total parity lp).1⟩

/-- Non-vacuity (the seeded scenario): rule 3/2 over ten nodes, the local node 3 holds part 2, parts 1 and 4 are
lost, everything else sits on its primary node: both parts are re-created, part 1 is offered to node 2 first and
part 4 to node 5 first (node numbers = position + 1), each in its own order. -/
example :
    let pe : PartsEnv := { stat := fun p n => if (p = 0 ∧ n = 1) ∨ (p = 2 ∧ n = 3) ∨ (p = 3 ∧ n = 4) then .holds else .notFound,
                           rfail := fun _ => false }
    let e : Env := { me := 3, inNetmap := true, flag := fun _ => false, ans := fun _ => .notFound, repl := fun _ => true }
    (recreate e pe [1, 2, 3, 4, 5, 6, 7, 8, 9, 10] 5 2 2).2 =
      [{ part := 1, nodes := [2, 7, 3, 8, 4, 9, 5, 10, 1, 6], done := [2] },
       { part := 4, nodes := [5, 10, 1, 6, 2, 7, 3, 8, 4, 9], done := [5] }] := by
  decide

end NeoFS.Policer
