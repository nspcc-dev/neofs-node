import NeoFS.Lemmas.WC
/-!
# C17 — the write-cache flushes everything and accounts its size exactly

Invariant over ALL sequences of puts (repeated, of the same and of different addresses), deletes, flush
steps with an arbitrary main-storage failure oracle, and reopens.
-/
namespace NeoFS.WC

theorem inv_init (m : Nat) : Inv { maxSize := m } := ⟨rfl, rfl, List.Pairwise.nil⟩

theorem put_inv (s : St) (a n : Nat) (h : Inv s) : Inv (put s a n).1 := by
  unfold put
  split
  · exact h
  · unfold ctrAdd
    refine ⟨?_, ?_, insertKV_sorted a n _ h.sorted⟩
    · show insertKV a n s.objMap = insertKV a n s.files
      rw [h.map]
    · show s.size - (lookup a s.objMap).getD 0 + n = total (insertKV a n s.files)
      have h1 := total_insertKV a n s.files h.sorted
      have h2 := lookup_le_total a s.files
      rw [h.map, h.size]
      omega

theorem delete_inv (s : St) (a : Nat) (h : Inv s) : Inv (delete s a).1 := by
  unfold delete
  split
  · exact h
  · unfold ctrDelete
    refine ⟨?_, ?_, erase_sorted a _ h.sorted⟩
    · show erase a s.objMap = erase a s.files
      rw [h.map]
    · show s.size - (lookup a s.objMap).getD 0 = total (erase a s.files)
      have h1 := total_erase a s.files h.sorted
      have h2 := lookup_le_total a s.files
      rw [h.map, h.size]
      omega

theorem flushSingle_inv (s : St) (a : Nat) (ok : Bool) (h : Inv s) : Inv (flushSingle s a ok).1 := by
  unfold flushSingle
  split
  · exact h
  · split
    · exact h
    · exact delete_inv _ a ⟨h.map, h.size, h.sorted⟩

theorem flushAll_inv (s : St) (ok : Bool) (h : Inv s) : Inv (flushAll s ok).1 := by
  refine List.foldlRecOn (motive := fun (acc : St × Err) => Inv acc.1) s.files _ h fun acc hacc f _ => ?_
  split
  · exact hacc
  · exact flushSingle_inv _ _ _ hacc

theorem reopen_inv (s : St) (h : Sorted s.files) : Inv (reopen s) := ⟨rfl, rfl, h⟩

/-- operations of a history; `flush a ok` is one flush step of object `a` whose main-storage write succeeds
iff `ok` -/
inductive Op
  | put (a n : Nat) | delete (a : Nat) | flush (a : Nat) (ok : Bool) | flushAll (ok : Bool) | reopen

def step (s : St) : Op → St
  | .put a n => (put s a n).1
  | .delete a => (delete s a).1
  | .flush a ok => (flushSingle s a ok).1
  | .flushAll ok => (flushAll s ok).1
  | .reopen => reopen s

theorem run_inv (m : Nat) (ops : List Op) : Inv (ops.foldl step { maxSize := m }) :=
  List.foldlRecOn ops _ (inv_init m) fun s h o _ => by
    cases o with
    | put a n => exact put_inv s a n h
    | delete a => exact delete_inv s a h
    | flush a ok => exact flushSingle_inv s a ok h
    | flushAll ok => exact flushAll_inv s ok h
    | reopen => exact reopen_inv s h.sorted

/-- **At every point of every history the reported size equals the total size of the objects the cache
actually holds.** -/
theorem size_exact (m : Nat) (ops : List Op) :
    let s := ops.foldl step { maxSize := m }
    s.size = total s.files ∧ s.objMap = s.files :=
  ⟨(run_inv m ops).size, (run_inv m ops).map⟩

/-- A failing flush changes nothing: the object stays in the cache to be retried. -/
theorem failed_flush_keeps (s : St) (a : Nat) : (flushSingle s a false).1 = s := by
  unfold flushSingle
  split <;> rfl

/-- **Once the main storage accepts writes, a flush leaves the cache empty** (whatever failed before: a
failed flush changes nothing, `failed_flush_keeps`), and the accounted size is zero. -/
theorem flush_empties (s : St) (h : Inv s) :
    (flushAll s true).1.files = [] ∧ (flushAll s true).1.size = 0 := by
  have hf : (flushAll s true).1.files = [] := by
    unfold flushAll
    rw [foldl_flush_ok, foldl_flush_files]
    exact foldl_erase_all s.files s.files fun x hx => ⟨x, hx, rfl⟩
  exact ⟨hf, by rw [(flushAll_inv s true h).size, hf]; rfl⟩

/-- …and every object it held is in the main storage with its size. -/
theorem flush_stores_all (s : St) (h : Inv s) (a n : Nat) (hf : (a, n) ∈ s.files) :
    lookup a (flushAll s true).1.main = some n := by
  unfold flushAll
  rw [foldl_flush_ok]
  exact foldl_flush_stores s.files s h.sorted (fun f hf => lookup_of_mem_sorted f.1 f.2 _ h.sorted hf) (a, n) hf

end NeoFS.WC
