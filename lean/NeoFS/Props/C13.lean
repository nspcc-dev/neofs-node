import NeoFS.Lemmas.FSTreeApi
import NeoFS.Lemmas.FSTreeGeneric
/-!
# C13 — a failing file-system call makes blob writes fail cleanly and never crashes

The writers of `Model/FSTree.lean` consult an oracle `Nat → Option Fault` at every system call.  A run of the
node is a schedule: a list of atomic steps — the lock-protected section of one `writeCombinedFile` caller, the
batch timer firing, one `writeFile`, one `PutBatch`, one `Delete`.  Concurrent `Put`s are interleavings of these
steps.  All theorems quantify over EVERY oracle (any number of faults, anywhere) and EVERY schedule.
-/
namespace NeoFS.FSTree

/-- atomic steps of a schedule -/
inductive Ev
  | write (a : Nat) (d : Bytes)        -- the section of `writeCombinedFile` under `batchLock` (small object)
  | tick                               -- the batch timer (`syncBatch.sync`), also `finalize`
  | file (a : Nat) (d : Bytes)         -- `writeFile` (object above the combined threshold)
  | batch (items : List (Nat × Bytes)) -- `PutBatch`
  | del (a : Nat)

/-- what the caller of a step learns -/
inductive EvRes | blocked | failed | pending (ino : Nat) | ok | none
  deriving DecidableEq, Repr

def stepEv (cfg : Cfg) (o : Oracle) (k : K) : Ev → K × EvRes
  | .write a d =>
    let r := writeCombined cfg o k a d
    (r.1, match r.2 with | .blocked => .blocked | .failed => .failed | .pending i => .pending i)
  | .tick => (tick cfg o k, .none)
  | .file a d => let r := writeFile o k a d; (r.1, if r.2 then .ok else .failed)
  | .batch items => let r := putBatch cfg o k items; (r.1, if r.2 = .ok then .ok else .failed)
  | .del a => let r := delete o k a; (r.1, if r.2 = .err then .failed else .ok)

def runEv (cfg : Cfg) (o : Oracle) (k : K) (evs : List Ev) : K := evs.foldl (fun k ev => (stepEv cfg o k ev).1) k

/-- `(a, d)` is a payload some step of the schedule offers for address `a` -/
def Offers : Ev → Nat → Bytes → Prop
  | .write a d, x, e => x = a ∧ e = d
  | .file a d, x, e => x = a ∧ e = d
  | .batch items, x, e => (x, e) ∈ items
  | _, _, _ => False

def Offered (evs : List Ev) (a : Nat) (d : Bytes) : Prop := ∃ ev ∈ evs, Offers ev a d

def ValidEv : Ev → Prop
  | .write a d => IdOK a ∧ DataOK d
  | .file a d => IdOK a ∧ ValidData d
  | .batch items => ∀ it ∈ items, IdOK it.1 ∧ (it.2 ≠ [] → ValidData it.2)
  | _ => True

/-- one step, for every oracle: the invariant is kept and nothing readable is lost or altered (a delete removes its own name only) -/
theorem step_safe {P} (cfg : Cfg) (hc : cfg.Fixed) (hg : cfg.generic = false) (o : Oracle) (k : K) (ev : Ev)
    (hv : ValidEv ev) (hp : ∀ a d, Offers ev a d → P a d) (hs : SInv P k) :
    SInv P (stepEv cfg o k ev).1 ∧ (stepEv cfg o k ev).2 ≠ .blocked ∧
    (∀ x e, (∀ a, ev = .del a → x ≠ a) → ReadsK k.inodes k.dir x e →
        ReadsK (stepEv cfg o k ev).1.inodes (stepEv cfg o k ev).1.dir x e) := by
  cases ev with
  | write a d =>
    obtain ⟨ws, we, wb, _⟩ := writeCombined_spec (P := P) cfg hc o k a d hs hv.1 hv.2 (hp a d ⟨rfl, rfl⟩)
    refine ⟨ws, ?_, fun x e _ h => we.frame x e h⟩
    simp only [stepEv]
    cases hr : (writeCombined cfg o k a d).2 with
    | blocked => exact absurd hr wb
    | failed => simp
    | pending i => simp
  | tick =>
    obtain ⟨ts, te, _⟩ := tick_spec (P := P) cfg o k hs
    exact ⟨ts, by simp [stepEv], fun x e _ h => te.frame x e h⟩
  | file a d =>
    obtain ⟨fe, fp, fb, -⟩ := writeFile_spec (P := P) o k a d hs.kinv hv.1 hv.2.1 hv.2.2 (hp a d ⟨rfl, rfl⟩)
    exact ⟨hs.of_frame fe.inv fp.1 fp.2.1 fp.2.2.1 fb, by simp only [stepEv]; split <;> simp, fun x e _ h => fe.frame x e h⟩
  | batch items =>
    obtain ⟨bs, bf⟩ := putBatch_safe cfg hg o k items hs hv fun it hit => hp it.1 it.2 hit
    exact ⟨bs, by simp only [stepEv]; split <;> simp, fun x e _ h => bf x e h⟩
  | del a =>
    obtain ⟨ds, df⟩ := delete_safe (P := P) o k a hs
    exact ⟨ds, by simp only [stepEv]; split <;> simp, fun x e hx h => df x e (hx a rfl) h⟩

/-- FAULTS FAIL CLEANLY.  For every oracle (any faults at any system calls, also a crash) and every schedule of
valid steps from the empty tree: the writer never panics, `batchLock` is free after every step, an open batch file is a
well-formed record sequence, and every name on disk points to a file that holds, for that address, exactly one of
the payloads offered for it. -/
theorem faults_fail_cleanly (cfg : Cfg) (hc : cfg.Fixed) (hg : cfg.generic = false) (o : Oracle) (evs : List Ev)
    (hv : ∀ ev ∈ evs, ValidEv ev) : SInv (Offered evs) (runEv cfg o {} evs) := by
  have init : SInv (Offered evs) ({} : K) := ⟨nofun, nofun, rfl, rfl⟩
  exact List.foldlRecOn evs _ init fun k hk ev hev =>
    (step_safe cfg hc hg o k ev (hv ev hev) (fun a d ho => ⟨ev, hev, ho⟩) hk).1

theorem visible_of_kinv {P} (cfg : Cfg) (ht : cfg.tailFixed = true) (k : K) (hk : KInv P k.inodes k.dir)
    (dec : Bytes → Option Bytes) (a : Nat) (hvis : «exists» k a = true) :
    ∃ d, P a d ∧ get dec k a = decompress dec d ∧ getStream cfg dec k a = decompress dec d := by
  obtain ⟨i, hl⟩ := Option.isSome_iff_exists.mp hvis
  obtain ⟨ha, d, hp, -, hh⟩ := hk a i hl
  exact ⟨d, hp, get_of_readsK dec ha ⟨i, hl, hh⟩, getStream_of_readsK cfg ht dec ha ⟨i, hl, hh⟩⟩

/-- what the invariant means for a reader: whatever is visible reads as exactly one offered payload of its address
(never partial, never foreign bytes), through both readers -/
theorem visible_is_exact {P} (cfg : Cfg) (hc : cfg.Fixed) (k : K) (hs : SInv P k) (dec : Bytes → Option Bytes) (a : Nat)
    (hvis : «exists» k a = true) :
    ∃ d, P a d ∧ get dec k a = decompress dec d ∧ getStream cfg dec k a = decompress dec d :=
  visible_of_kinv cfg hc.2.2 k hs.kinv dec a hvis

/-- NO CALLER HANGS: in every reachable state a `writeCombinedFile` caller gets past the lock, whatever it writes -/
theorem never_blocked (cfg : Cfg) (hc : cfg.Fixed) (hg : cfg.generic = false) (o : Oracle) (evs : List Ev)
    (hv : ∀ ev ∈ evs, ValidEv ev) (a : Nat) (d : Bytes) :
    (writeCombined cfg o (runEv cfg o {} evs) a d).2 ≠ .blocked :=
  writeCombined_not_blocked cfg o _ a d (faults_fail_cleanly cfg hc hg o evs hv).lock

/-- EARLIER OBJECTS STAY INTACT: a step never removes or alters a readable object (except the delete of that very address) -/
theorem earlier_objects_intact {P} (cfg : Cfg) (hc : cfg.Fixed) (hg : cfg.generic = false) (o : Oracle) (k : K) (ev : Ev)
    (hv : ValidEv ev) (hp : ∀ a d, Offers ev a d → P a d) (hs : SInv P k) (x : Nat) (e : Bytes)
    (hx : ∀ a, ev = .del a → x ≠ a) (h : ReadsK k.inodes k.dir x e) :
    ReadsK (stepEv cfg o k ev).1.inodes (stepEv cfg o k ev).1.dir x e :=
  (step_safe cfg hc hg o k ev hv hp hs).2.2 x e hx h

/-- NO FALSE SUCCESS: a `Put` that returns ok, under any oracle, leaves the address readable (with an offered payload,
by the invariant; with exactly the bytes just written when the address was not stored before and no batch was open) -/
theorem ok_means_readable {P} (cfg : Cfg) (hc : cfg.Fixed) (hg : cfg.generic = false) (o : Oracle) (k : K) (a : Nat) (d : Bytes)
    (hs : SInv P k) (ha : IdOK a) (hd : ValidData d) (hp : P a d) (hok : (put cfg o k a d).2 = .ok) :
    ∃ e, ReadsK (put cfg o k a d).1.inodes (put cfg o k a d).1.dir a e ∧ (Quiet k → k.dir.lookup a = none → e = d) :=
  (put_spec cfg hc hg o k a d hs ha hd hp).2.2.2.2 hok

/-- the same for a caller inside a schedule: once its section returned without error its object is readable,
whatever the batch's later `fdatasync`/`close` report -/
theorem pending_means_readable {P} (cfg : Cfg) (hc : cfg.Fixed) (o : Oracle) (k : K) (a : Nat) (d : Bytes)
    (hs : SInv P k) (ha : IdOK a) (hd : DataOK d) (hp : P a d) (i : Nat) (h : (writeCombined cfg o k a d).2 = .pending i) :
    ∃ e, ReadsK (writeCombined cfg o k a d).1.inodes (writeCombined cfg o k a d).1.dir a e := by
  obtain ⟨e, he, _⟩ := (writeCombined_spec (P := P) cfg hc o k a d hs ha hd hp).2.2.2 i h
  exact ⟨e, he⟩

/-- UNAFFECTED WRITES SUCCEED: once the oracle injects nothing any more, a `Put` in any reachable state returns ok
(whatever faults happened before) -/
theorem unaffected_succeed {P} (cfg : Cfg) (hg : cfg.generic = false) (o : Oracle) (k : K) (hs : SInv P k) (hcl : Clean o k)
    (a : Nat) (d : Bytes) (hd : d ≠ []) : (put cfg o k a d).2 = .ok :=
  (put_clean cfg hg hs hcl a d hd).1

/-- and so does a `PutBatch` -/
theorem unaffected_batch_succeeds (cfg : Cfg) (hg : cfg.generic = false) (o : Oracle) (k : K) (hcl : Clean o k)
    (items : List (Nat × Bytes)) : (putBatch cfg o k items).2 = .ok :=
  (putBatch_clean cfg hg hcl items).1

/-- THE PORTABLE WRITER (`p#i`, write, close, rename; used when O_TMPFILE is not available), for every oracle — faults
and crash points alike: a `Put` keeps every name pointing to exactly an offered payload of its address, leaves all other
addresses readable with the same bytes, either does not touch the name of `a` or makes it read exactly `d` (the rename
is the only step that changes a name, and it happens after the whole payload is in the temporary file), and when it
returns ok the address reads exactly the bytes just written (this writer replaces: last stored wins). -/
theorem generic_put_safe {P} (cfg : Cfg) (hg : cfg.generic = true) (o : Oracle) (k : K) (a : Nat) (d : Bytes)
    (hk : KInv P k.inodes k.dir) (ha : IdOK a) (hd : ValidData d) (hp : P a d) :
    KInv P (put cfg o k a d).1.inodes (put cfg o k a d).1.dir ∧
    (∀ x e, x ≠ a → ReadsK k.inodes k.dir x e → ReadsK (put cfg o k a d).1.inodes (put cfg o k a d).1.dir x e) ∧
    ((put cfg o k a d).1.dir = k.dir ∨ ReadsK (put cfg o k a d).1.inodes (put cfg o k a d).1.dir a d) ∧
    ((put cfg o k a d).2 = .ok → ReadsK (put cfg o k a d).1.inodes (put cfg o k a d).1.dir a d) := by
  obtain ⟨g1, g2, g3, g4, -⟩ := genericWrite_spec (P := P) o a d ha hd.1 hd.2 hp 5 0 k hk
  rw [put_generic cfg o k a hd.1.1 hg]
  exact ⟨g1, g2, g3, fun hok => g4 (ite_ok_iff.mp hok)⟩

/-! ## the two repaired defects, in the model of the code before the repair -/

/-- `linkat` fails on the write that crosses the size limit: the unparenthesised rotation test closes the batch a second time -/
theorem panic_before_fix :
    (put { precFixed := false, threshold := 100, countLimit := 100, sizeLimit := 10 }
      (fun i => if i = 2 then some (.err 0) else none) {} 1 [5]).1.panicked = true ∧
    (put { threshold := 100, countLimit := 100, sizeLimit := 10 }
      (fun i => if i = 2 then some (.err 0) else none) {} 1 [5]).1.panicked = false := by
  decide +kernel

/-- the batch file cannot be opened: the lock stays held and the next caller blocks -/
theorem hang_before_fix :
    (put { unlockFixed := false, threshold := 100 } noFault
      (put { unlockFixed := false, threshold := 100 } (fun i => if i = 0 then some (.err 0) else none) {} 1 [5]).1 2 [6]).2 = .blocked ∧
    (put { threshold := 100 } noFault
      (put { threshold := 100 } (fun i => if i = 0 then some (.err 0) else none) {} 1 [5]).1 2 [6]).2 = .ok := by
  decide +kernel

/-- non-vacuity: a schedule with two concurrent callers, the timer, a big object, a batch and a delete is valid -/
example : ∀ ev ∈ [Ev.write 1 [5], Ev.write 2 [6], Ev.tick, Ev.file 3 [7, 8], Ev.batch [(4, [9]), (5, [])], Ev.del 1], ValidEv ev := by
  intro ev hev
  simp at hev
  rcases hev with rfl | rfl | rfl | rfl | rfl | rfl
  · exact ⟨by unfold IdOK; decide, nofun, by decide⟩
  · exact ⟨by unfold IdOK; decide, nofun, by decide⟩
  · trivial
  · exact ⟨by unfold IdOK; decide, validData_short nofun (by decide)⟩
  · intro it hit
    simp at hit
    rcases hit with rfl | rfl
    · exact ⟨by unfold IdOK; decide, fun _ => validData_short nofun (by decide)⟩
    · exact ⟨by unfold IdOK; decide, fun h => absurd rfl h⟩
  · trivial

end NeoFS.FSTree
