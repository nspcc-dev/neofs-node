import NeoFS.Lemmas.FSTreeApi
/-!
# C10 — the file-tree storage behaves as a map from address to bytes

Low level: `Model/FSTree.lean` (inodes as byte strings, names, the writers as sequences of system calls, the readers
as byte scanners).  Abstract level: `Spec := address → Option bytes`.  `refines_map` shows, for EVERY history of
`Put` / `PutBatch` / `Delete` on the O_TMPFILE writer (no injected failures), that the disk state abstracts to the
map and `reads_follow_map` that every reader returns exactly what the map says.
-/
namespace NeoFS.FSTree

/-- one operation of a history -/
inductive Op
  | put (a : Nat) (d : Bytes)
  | batch (items : List (Nat × Bytes))
  | del (a : Nat)

/-- the abstract map: address ↦ stored bytes -/
abbrev Spec := Nat → Option Bytes

/-- storing under an address: the O_TMPFILE writer treats an existing name as success and keeps it
(`linkat` EEXIST, issue 2563); an address is the hash of its object, so the bytes are those of the same object -/
def specPut (m : Spec) (a : Nat) (d : Bytes) : Spec :=
  fun x => if x = a then (match m a with | some e => some e | none => some d) else m x

def specStep (m : Spec) : Op → Spec
  | .put a d => if d = [] then m else specPut m a d
  | .batch items => (items.filter (fun p => p.2 ≠ [])).foldl (fun m it => specPut m it.1 it.2) m
  | .del a => fun x => if x = a then none else m x

def implStep (cfg : Cfg) (k : K) : Op → K
  | .put a d => (put cfg noFault k a d).1
  | .batch items => (putBatch cfg noFault k items).1
  | .del a => (delete noFault k a).1

def ValidOp : Op → Prop
  | .put a d => IdOK a ∧ (d ≠ [] → ValidData d)
  | .batch items => ∀ it ∈ items, IdOK it.1 ∧ (it.2 ≠ [] → ValidData it.2)
  | .del _ => True

/-- the disk state `k` represents the map `m` -/
def Refines (k : K) (m : Spec) : Prop :=
  ∀ a, (∀ d, m a = some d → ReadsK k.inodes k.dir a d) ∧ (m a = none → k.dir.lookup a = none)

theorem specPut_other {m : Spec} {a x : Nat} {d : Bytes} (h : x ≠ a) : specPut m a d x = m x := by
  simp [specPut, h]

theorem specPut_self_some {m : Spec} {a : Nat} {d e : Bytes} (h : m a = some e) : specPut m a d a = some e := by
  simp [specPut, h]

theorem specPut_self_none {m : Spec} {a : Nat} {d : Bytes} (h : m a = none) : specPut m a d a = some d := by
  simp [specPut, h]

def PAny : Nat → Bytes → Prop := fun _ _ => True

/-- everything the refinement proof carries from op to op -/
structure Rel (k : K) (m : Spec) : Prop where
  ref : Refines k m
  sinv : SInv PAny k
  quiet : Quiet k
  clean : Clean noFault k
  nodup : (k.dir.map (·.1)).Nodup

theorem fold_specPut (items : List (Nat × Bytes)) (m : Spec) (x : Nat) :
    (items.foldl (fun m it => specPut m it.1 it.2) m) x = (m x).or (items.lookup x) := by
  induction items generalizing m with
  | nil => simp
  | cons it rest ih =>
    obtain ⟨a, d⟩ := it
    rw [List.foldl_cons, ih, List.lookup_cons]
    by_cases hx : x = a
    · subst hx
      cases hm : m x with
      | some e => rw [specPut_self_some hm]; rfl
      | none => rw [specPut_self_none hm]; simp
    · have : (x == a) = false := by simpa using hx
      rw [specPut_other hx, this]

/-- a put is the batch of one item: both cases of `rel_step` -/
theorem refines_items {k k' : K} {m : Spec} {items : List (Nat × Bytes)} (h : Refines k m)
    (e : Eff PAny k k' (items.map (·.1)))
    (hnew : ∀ it ∈ items, ∃ e, ReadsK k'.inodes k'.dir it.1 e ∧ (k.dir.lookup it.1 = none → items.lookup it.1 = some e)) :
    Refines k' (items.foldl (fun m it => specPut m it.1 it.2) m) := by
  intro x
  rw [fold_specPut]
  cases hm : m x with
  | some e0 => exact ⟨fun d hd => Option.some.inj hd ▸ e.frame x e0 ((h x).1 e0 hm), nofun⟩
  | none =>
    have hr := (h x).2 hm
    refine ⟨fun d hd => ?_, fun hn => (e.other x (lookup_none_not_mem hn)).trans hr⟩
    obtain ⟨e', he', hf'⟩ := hnew (x, d) (lookup_some_mem hd)
    cases (hf' hr).symm.trans hd
    exact he'

theorem rel_step (cfg : Cfg) (hc : cfg.Fixed) (hg : cfg.generic = false) (k : K) (m : Spec) (op : Op)
    (hv : ValidOp op) (h : Rel k m) : Rel (implStep cfg k op) (specStep m op) := by
  cases op with
  | put a d =>
    simp only [implStep, specStep]
    by_cases hd : d = []
    · rw [hd, if_pos rfl, show (put cfg noFault k a []).1 = k from rfl]; exact h
    · rw [if_neg hd]
      obtain ⟨ps, pe, -, pq, pok⟩ := put_spec (P := PAny) cfg hc hg noFault k a d h.sinv hv.1 (hv.2 hd) trivial
      obtain ⟨cok, cc⟩ := put_clean (P := PAny) cfg hg h.sinv h.clean a d hd
      refine ⟨refines_items (items := [(a, d)]) h.ref pe fun it hit => ?_, ps, pq h.quiet cok, cc, pe.nodup h.nodup⟩
      cases List.mem_singleton.mp hit
      obtain ⟨e, he, hf⟩ := pok cok
      exact ⟨e, he, fun hn => by rw [hf h.quiet hn, List.lookup_cons_self]⟩
  | batch items =>
    simp only [implStep, specStep]
    have hv' : ∀ it ∈ items, IdOK it.1 ∧ (it.2 ≠ [] → ValidData it.2 ∧ PAny it.1 it.2) :=
      fun it hit => ⟨(hv it hit).1, fun hne => ⟨(hv it hit).2 hne, trivial⟩⟩
    obtain ⟨bs, be, bq, bok⟩ := putBatch_spec (P := PAny) cfg hg noFault k items h.sinv hv'
    have cok := putBatch_clean cfg hg h.clean items
    exact ⟨refines_items h.ref be (bok cok.1), bs, bq h.quiet, cok.2, be.nodup h.nodup⟩
  | del a =>
    simp only [implStep, specStep]
    obtain ⟨-, -, dfr, doth, dp⟩ := delete_spec (P := PAny) noFault k a h.sinv.kinv
    obtain ⟨dn, dc, _⟩ := delete_clean h.clean a
    refine ⟨?_, delete_sinv noFault k a h.sinv, fun b hb => h.quiet b (by rw [← dp.2.2.1]; exact hb), dc, ?_⟩
    · intro x
      by_cases hx : x = a
      · subst hx; simp only [if_true]; exact ⟨fun _ hh => (by cases hh), fun _ => dn⟩
      · simp only [hx, if_false]
        exact ⟨fun e he => dfr x e hx ((h.ref x).1 e he), fun hn => (by rw [doth x hx]; exact (h.ref x).2 hn)⟩
    · -- names stay distinct
      obtain ⟨k', r, he, -, -, hdir | hdir⟩ := delete_cases noFault k a
      · rw [he]; exact hdir ▸ h.nodup
      · rw [he]; exact hdir ▸ (List.Sublist.map _ List.filter_sublist).nodup h.nodup

/-- REFINEMENT.  For every history of valid operations on the O_TMPFILE writer, starting from the empty tree, the
disk state represents exactly the abstract map obtained by applying the same operations to the empty map. -/
theorem refines_map (cfg : Cfg) (hc : cfg.Fixed) (hg : cfg.generic = false) (ops : List Op) (hv : ∀ op ∈ ops, ValidOp op) :
    Rel (ops.foldl (implStep cfg) {}) (ops.foldl specStep (fun _ => none)) := by
  have init : Rel ({} : K) (fun _ => none) :=
    ⟨fun _ => ⟨nofun, fun _ => rfl⟩, ⟨nofun, nofun, rfl, rfl⟩, nofun, ⟨rfl, fun _ _ => rfl⟩, .nil⟩
  exact List.foldl_rel (f := implStep cfg) (g := specStep) (r := Rel) init
    fun op hop k m h => rel_step cfg hc hg k m op (hv op hop) h

/-- READS.  In a state that represents `m`, every reader returns exactly what the map says: `Get`/`GetBytes` and
`GetStream`/`Head` return the stored bytes (decompressed) for a stored address and not-found otherwise, for every
header buffer length; `Exists` is membership. -/
theorem reads_follow_map (cfg : Cfg) (hc : cfg.Fixed) (dec : Bytes → Option Bytes) (k : K) (m : Spec)
    (h : Rel k m) (a : Nat) :
    get dec k a = (match m a with | some d => decompress dec d | none => .error .notFound) ∧
    getStream cfg dec k a = (match m a with | some d => decompress dec d | none => .error .notFound) ∧
    «exists» k a = (m a).isSome := by
  cases hm : m a with
  | none =>
    have hr := (h.ref a).2 hm
    exact ⟨by simp only [get, rawGet, fileOf, hr]; rfl, by simp only [getStream, fileOf, hr]; rfl,
      by simp only [«exists», hr]; rfl⟩
  | some d =>
    have hr := (h.ref a).1 d hm
    have ha := (readsK_ok h.sinv.kinv hr).1
    refine ⟨get_of_readsK dec ha hr, getStream_of_readsK cfg hc.2.2 dec ha hr, ?_⟩
    obtain ⟨i, hl, -⟩ := hr
    simp only [«exists», hl]; rfl

/-- ITERATION.  `Iterate` lists exactly the stored addresses, each once, each with its stored bytes (decompressed). -/
theorem iterate_each_once (dec : Bytes → Option Bytes) (k : K) (m : Spec) (h : Rel k m) :
    ((iterate dec k).map (·.1)).Nodup ∧
    (∀ a, a ∈ (iterate dec k).map (·.1) ↔ (m a).isSome = true) ∧
    (∀ a r, (a, r) ∈ iterate dec k → ∃ d, m a = some d ∧ r = decompress dec d) := by
  -- every name is a stored address and reads as its stored bytes
  have key : ∀ p ∈ k.dir, ∃ d, m p.1 = some d ∧ get dec k p.1 = decompress dec d := by
    intro p hp
    have hl := lookup_of_mem_nodup h.nodup (x := p.1) (e := p.2) hp
    cases hm : m p.1 with
    | none => rw [(h.ref p.1).2 hm] at hl; cases hl
    | some d =>
      have hr := (h.ref p.1).1 d hm
      exact ⟨d, rfl, get_of_readsK dec (readsK_ok h.sinv.kinv hr).1 hr⟩
  -- so nothing is filtered out
  have keep : iterate dec k = k.dir.map (fun p => (p.1, get dec k p.1)) := by
    unfold iterate
    apply List.filter_eq_self.mpr
    intro q hq
    obtain ⟨p, hp, rfl⟩ := List.mem_map.mp hq
    obtain ⟨d, _, hg⟩ := key p hp
    simp only [hg]
    cases hdc : decompress dec d with
    | ok v => rfl
    | error e =>
      cases e with
      | notFound => exact absurd hdc (decompress_ne_notFound dec d)
      | _ => rfl
  have keys : (iterate dec k).map (·.1) = k.dir.map (·.1) := by
    rw [keep, List.map_map]; rfl
  refine ⟨by rw [keys]; exact h.nodup, ?_, ?_⟩
  · intro a
    rw [keys]
    constructor
    · intro ha
      obtain ⟨p, hp, rfl⟩ := List.mem_map.mp ha
      obtain ⟨d, hd, _⟩ := key p hp
      rw [hd]; rfl
    · intro ha
      cases hm : m a with
      | none => rw [hm] at ha; cases ha
      | some d =>
        obtain ⟨i, hl, _⟩ := (h.ref a).1 d hm
        exact List.mem_map.mpr ⟨(a, i), lookup_some_mem hl, rfl⟩
  · intro a r har
    rw [keep] at har
    obtain ⟨p, hp, heq⟩ := List.mem_map.mp har
    cases heq
    exact key p hp

/-- KEY LEMMA restated: the combined-file record encoding round-trips for every payload and every position — a member
of a well-formed combined file, followed by anything, is found by both readers with exactly its bytes. -/
theorem combined_scan_finds_member (a : Nat) (ha : IdOK a) (rs : List (Nat × Bytes)) (junk : Bytes) (hrs : RecsOK rs)
    (d : Bytes) (h : rs.lookup a = some d) (bufLen : Nat) :
    extractRaw a (encodeRecs rs ++ junk) = .ok d ∧ streamRaw true bufLen a (encodeRecs rs ++ junk) = .ok d :=
  ⟨extractRaw_recs a ha rs junk hrs d h, streamRaw_recs bufLen a ha rs junk hrs d h⟩

/-- removing one name of a combined file leaves the other members readable -/
theorem delete_member_keeps_others (k : K) (m : Spec) (h : Rel k m) (a x : Nat) (hx : x ≠ a) (d : Bytes)
    (hm : m x = some d) : ReadsK (delete noFault k a).1.inodes (delete noFault k a).1.dir x d :=
  (delete_spec (P := PAny) noFault k a h.sinv.kinv).2.2.1 x d hx ((h.ref x).1 d hm)

/-- the repaired defect: before the repair, a member exactly `bufLen` bytes long was streamed together with
the records that follow it (here `bufLen = 2`) -/
theorem stream_tail_before_fix :
    streamRaw false 2 1 (encodeRecs [(1, [10, 11]), (2, [12])]) = .ok ([10, 11] ++ record 2 [12]) ∧
    streamRaw true 2 1 (encodeRecs [(1, [10, 11]), (2, [12])]) = .ok [10, 11] := by
  decide +kernel

/-- non-vacuity: a concrete history (batch of two, a put on an existing address, a delete) is valid and its final
map has a stored and a deleted address -/
example : (∀ op ∈ [Op.batch [(1, [10, 11]), (2, [12])], Op.put 1 [13], Op.del 2], ValidOp op) ∧
    ([Op.batch [(1, [10, 11]), (2, [12])], Op.put 1 [13], Op.del 2].foldl specStep (fun _ => none)) 1 = some [10, 11] ∧
    ([Op.batch [(1, [10, 11]), (2, [12])], Op.put 1 [13], Op.del 2].foldl specStep (fun _ => none)) 2 = none := by
  refine ⟨?_, by decide, by decide⟩
  intro op hop
  simp at hop
  rcases hop with rfl | rfl | rfl
  · intro it hit
    simp at hit
    rcases hit with rfl | rfl
    · exact ⟨by unfold IdOK; decide, fun _ => validData_short nofun (by decide)⟩
    · exact ⟨by unfold IdOK; decide, fun _ => validData_short nofun (by decide)⟩
  · exact ⟨by unfold IdOK; decide, fun _ => validData_short nofun (by decide)⟩
  · trivial

end NeoFS.FSTree
