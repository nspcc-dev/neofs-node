import NeoFS.Model.GC
import NeoFS.Lemmas.MetaWF
/-!
# C44 — garbage collection eventually removes everything that should be removed

What is proved about the model of `removeGarbage` (`Model/GC.lean`, built on the metabase model):

* `deleteMetadata` never adds anything: the bucket's records and garbage marks after it are sub-lists of the ones
  before (`deleteMetadata_shrinks`), for every id, every bucket, every recursion depth;
* deleting an id that is absent or stored physically removes its record and its garbage mark
  (`deleteMetadata_removes`), hence strictly decreases the bucket measure `|records| + |marks|` whenever the id was
  indexed or marked (`deleteMetadata_progress`);
* therefore a batch delete over any id list (`Shard.deleteObjs` → `DB.Delete`) never grows the bucket and shrinks
  it as soon as the FIRST listed id is absent-or-physical and was indexed or marked (`deleteAll_progress`): as long
  as the batch `GetGarbage` hands over begins with such an id, the pass makes progress, and the measure bounds the
  number of such passes.

The full liveness statement is FALSE for the current code: a garbage mark on a *virtual* (non-physical) parent
whose children carry no mark is never removed — `deleteMetadata` answers `errNonPhy` before it looks at the
mark — and with a remover batch of 1 it is returned by `GetGarbage` on every pass, so every later mark starves
(`C44_counterexample`, replayed on the real shard by the check; known finding `C44-virtual-parent-mark`).
-/
namespace NeoFS.GC
open NeoFS.Meta

/-- size of a bucket's index: records and removal marks -/
def size (c : Cnr) : Nat := c.recs.length + c.garb.length

/-- `c'` holds nothing that `c` did not hold -/
structure Shrinks (c' c : Cnr) : Prop where
  recs : c'.recs.Sublist c.recs
  garb : c'.garb.Sublist c.garb

namespace Shrinks

theorem refl (c : Cnr) : Shrinks c c := ⟨List.Sublist.refl _, List.Sublist.refl _⟩

theorem trans {a b c : Cnr} (h1 : Shrinks a b) (h2 : Shrinks b c) : Shrinks a c :=
  ⟨h1.recs.trans h2.recs, h1.garb.trans h2.garb⟩

theorem size_le {a b : Cnr} (h : Shrinks a b) : size a ≤ size b := by
  unfold size; have := h.recs.length_le; have := h.garb.length_le; omega

end Shrinks

theorem Shrinks.of_pruned {c' c : Cnr} (h : Pruned c' c) : Shrinks c' c := ⟨h.recs, h.garb⟩

/-- **`deleteMetadata` never adds a record or a mark.** -/
theorem deleteMetadata_shrinks : ∀ (fuel : Nat) (c : Cnr) (id : Nat) (isParent : Bool),
    Shrinks (c.deleteMetadata fuel id isParent).1 c := fun fuel c id isParent =>
  .of_pruned (deleteMetadata_pruned fuel c id isParent)

def indexed (c : Cnr) (id : Nat) : Bool := (c.recs.any (·.id == id)) || (c.garb.any (·.1 == id))

/-- the id can be deleted directly: it is not a stored virtual (non-physical) object -/
def deletable (c : Cnr) (id : Nat) : Bool :=
  match c.find? id with
  | none => true
  | some r => r.phy

theorem not_indexed_of_shrinks {a b : Cnr} (h : Shrinks a b) (id : Nat) (hb : indexed b id = false) : indexed a id = false := by
  unfold indexed at *
  simp only [Bool.or_eq_false_iff, List.any_eq_false] at *
  exact ⟨fun r hr => hb.1 r (h.recs.subset hr), fun g hg => hb.2 g (h.garb.subset hg)⟩

theorem dropId_not_indexed (c : Cnr) (id : Nat) : indexed (c.dropId id) id = false := by
  unfold indexed Cnr.dropId
  simp only [Bool.or_eq_false_iff, List.any_eq_false]
  constructor
  · intro r hr; rw [List.mem_filter] at hr; simpa using hr.2
  · intro g hg; rw [List.mem_filter] at hg; simpa using hg.2

/-- **Deleting an absent or physical id removes its record and its mark.** -/
theorem deleteMetadata_removes (fuel : Nat) (c : Cnr) (id : Nat) (hd : deletable c id = true) :
    indexed (c.deleteMetadata (fuel + 1) id false).1 id = false := by
  unfold deletable at hd
  unfold Cnr.deleteMetadata
  cases hf : c.find? id with
  | none =>
    -- no record: a mark, if there is one, is filtered out
    have hrecs : ∀ r ∈ c.recs, ¬(r.id == id) = true := List.find?_eq_none.mp hf
    dsimp only
    unfold indexed
    simp only [Bool.or_eq_false_iff, List.any_eq_false]
    by_cases hg : (c.garb.find? (·.1 == id)).isSome = true
    · rw [if_pos hg]
      exact ⟨hrecs, fun g hg => by simpa using (List.mem_filter.mp hg).2⟩
    · rw [if_neg hg]
      rw [Option.isSome_iff_ne_none, ne_eq, Decidable.not_not] at hg
      exact ⟨hrecs, List.find?_eq_none.mp hg⟩
  | some r =>
    rw [hf] at hd
    dsimp only at hd ⊢
    rw [hd, if_neg (by decide)]
    refine not_indexed_of_shrinks ?_ id (dropId_not_indexed c id)
    exact ite_rule (P := fun p : Cnr × Diff × Bool => Shrinks p.1 (c.dropId id))
      (deleteMetadata_shrinks fuel _ r.parentId true) fun _ => Shrinks.refl _

theorem size_lt_of_removed {a b : Cnr} (h : Shrinks a b) (id : Nat) (hb : indexed b id = true) (ha : indexed a id = false) :
    size a < size b := by
  rcases Nat.lt_or_ge (size a) (size b) with hlt | hge
  · exact hlt
  · exfalso
    unfold size at hge
    have h1 := h.recs.length_le
    have h2 := h.garb.length_le
    have e1 : a.recs = b.recs := h.recs.eq_of_length_le (by omega)
    have e2 : a.garb = b.garb := h.garb.eq_of_length_le (by omega)
    unfold indexed at ha hb
    rw [e1, e2, hb] at ha
    exact Bool.noConfusion ha

theorem deleteMetadata_progress (fuel : Nat) (c : Cnr) (id : Nat) (hd : deletable c id = true) (hi : indexed c id = true) :
    size (c.deleteMetadata (fuel + 1) id false).1 < size c :=
  size_lt_of_removed (deleteMetadata_shrinks _ c id false) id hi (deleteMetadata_removes fuel c id hd)

/-- the bucket after `DB.Delete`'s loop over the ids -/
def deleteAll (c : Cnr) (ids : List Nat) : Cnr := ids.foldl (fun cur id => (cur.deleteMetadata 4 id false).1) c

theorem deleteLoop_fst (c : Cnr) (ids : List Nat) : (deleteLoop c ids).1 = deleteAll c ids := by
  unfold deleteLoop deleteAll
  generalize ({} : Diff) = d0
  induction ids generalizing c d0 with
  | nil => rfl
  | cons id rest ih => exact ih _ _

theorem deleteAll_shrinks : ∀ (ids : List Nat) (c : Cnr), Shrinks (deleteAll c ids) c := fun ids c =>
  deleteLoop_fst c ids ▸ .of_pruned (deleteLoop_pruned c ids)

theorem dbDelete_bucket (c : Cnr) (ids : List Nat) :
    (ids.foldl (fun (acc : Cnr × Diff) id =>
      let (cur, dsum) := acc
      let (cur', d, _) := cur.deleteMetadata 4 id false
      (cur', dsum.add d)) (c, {})).1 = deleteAll c ids := deleteLoop_fst c ids

/-- **Progress of a batch**: the bucket never grows, and it shrinks strictly as soon as one id of the batch is
absent-or-physical at its turn and was indexed or marked. Stated for the first such id at the head of the batch
(`GetGarbage` returns ids in key order; earlier ids only shrink the bucket further). -/
theorem deleteAll_progress (c : Cnr) (id : Nat) (rest : List Nat) (hd : deletable c id = true) (hi : indexed c id = true) :
    size (deleteAll c (id :: rest)) < size c := by
  unfold deleteAll
  simp only [List.foldl_cons]
  have h1 : size (c.deleteMetadata 4 id false).1 < size c := deleteMetadata_progress 3 c id hd hi
  have h2 := (deleteAll_shrinks rest (c.deleteMetadata 4 id false).1).size_le
  unfold deleteAll at h2
  omega

theorem deleteAll_never_grows (c : Cnr) (ids : List Nat) : size (deleteAll c ids) ≤ size c :=
  (deleteAll_shrinks ids c).size_le

/-- nothing is left to collect in the metadata: no removal mark, no container marked for removal -/
def clean (s : St) : Bool := s.db.all fun b => b.2.garb.isEmpty && !b.2.gcMark

def passes (batch : Nat) : Nat → St → St
  | 0, s => s
  | n + 1, s => gcPass batch (passes batch n s)

/-- the liveness the property states (restricted here to the garbage phase): after any history, some number
of passes with any batch size ≥ 1 leaves no removal mark behind -/
def C44_full : Prop :=
  ∀ (ops : List Op) (batch : Nat), 0 < batch → ∃ n, clean (passes batch n { db := (run ops).db }) = true

def vparent : Hdr := { id := 9, typ := .regular, size := 40 }
def child : Hdr := { id := 5, typ := .regular, size := 7, parentId := 9, firstId := 1 }

def other : Hdr := { id := 2, typ := .regular, size := 3 }

/-- the stuck history: a removal mark is written for id 9 before anything is stored under it, then a child
carrying 9's header arrives (9 becomes a virtual object); with batch 1 every pass is handed `[9]` and
`deleteMetadata` leaves a stored non-physical object alone — mark included -/
def stuckOps : List Op := [.put 1 [other], .mark 1 [9] false, .put 1 [child, vparent]]

theorem stuck_is_fixpoint :
    let s : St := { db := (run stuckOps).db }
    (gcPass 1 s).db = s.db ∧ clean s = false := by decide

theorem C44_counterexample : ¬ C44_full := by
  intro h
  obtain ⟨n, hn⟩ := h stuckOps 1 (by decide)
  have hfix : ∀ n, passes 1 n { db := (run stuckOps).db } = { db := (run stuckOps).db } := by
    intro n
    induction n with
    | zero => rfl
    | succ k ih => simp only [passes]; rw [ih]; decide
  rw [hfix n] at hn
  revert hn
  decide

/-- non-vacuity of the progress theorem: a tombstoned, marked physical object is deletable and indexed -/
example :
    let c : Cnr := { recs := [⟨3, .regular, true, true, 5, 0, 0, 0, 0, none, none⟩], garb := [(3, false)] }
    deletable c 3 = true ∧ indexed c 3 = true ∧ size (deleteAll c [3]) = 0 := by decide

end NeoFS.GC
