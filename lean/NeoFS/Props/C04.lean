import NeoFS.Lemmas.SearchCursor
import Mathlib.Data.List.Perm.Subperm
/-!
# C04 — merged search over several shards or nodes equals one search over their union

Part 1 (`MergeSearchResults`): for ANY number of result sets of ANY lengths and ANY limit, if every set is strictly
sorted in the order the merge itself uses for the attribute kind (first attribute, then id), the comparison does not
fail on their items and equal ids mean equal items (copies of the same object), then the merge returns exactly the
first `lim` elements of THE strictly sorted, duplicate-free list of all items of the sets — no duplicates, no
omissions — and `more` is reported iff something is left.

Parts 2 and 3 are below; the three parts are not composed into a statement about `engineSearch`.
-/
namespace NeoFS.SearchMerge
open NeoFS.Int256

/-- what `more` must be: for one set the set's own continuation, for several sets "anything left or promised" -/
def moreSpec (lim nsets ulen : Nat) (anyMore : Bool) : Bool :=
  decide (0 < lim) &&
    (if nsets = 1 then decide (lim < ulen) || (decide (ulen = lim) && anyMore)
     else decide (0 < ulen) && (anyMore || decide (lim < ulen)))

theorem exists_not_mem_take {α : Type} {U : List α} (hU : U.Nodup) (n : Nat) : (∃ x, x ∈ U ∧ x ∉ U.take n) ↔ n < U.length := by
  constructor
  · rintro ⟨x, hx, hnx⟩
    by_contra hle
    rw [List.take_of_length_le (Nat.le_of_not_lt hle)] at hnx
    exact hnx hx
  · intro hn
    refine ⟨U[n], List.getElem_mem hn, ?_⟩
    intro hmem
    have hsplit : U = U.take n ++ U.drop n := (List.take_append_drop n U).symm
    have hd : U[n] ∈ U.drop n := by
      rw [List.mem_drop_iff_getElem]
      exact ⟨0, by simpa using hn, by simp⟩
    rw [hsplit] at hU
    exact (List.nodup_append.mp hU).2.2 _ hmem _ hd rfl

theorem merge_multi {k : MKind} {ord : Item → Item → Ordering} {P : Item → Prop} (hu : Univ k ord P)
    (lim : Nat) (hlim : 0 < lim) (anyMore : Bool) (sets : List (List Item)) (hok : SetsOK ord P sets)
    (U : List Item) (hU : SortedI ord U) (hUm : ∀ x, x ∈ U ↔ Mem x sets) :
    mergeLoop k (calcMax lim sets) anyMore (totalLen sets + 1) 0 sets =
      .ok (U.take lim, decide (0 < U.length) && (anyMore || decide (lim < U.length))) := by
  have hPU : ∀ x ∈ U, P x := fun x hx => by
    obtain ⟨s, hs, hxs⟩ := (hUm x).mp hx
    exact (hok s hs).2 x hxs
  have hcm := calcMax_spec hu lim sets hok U hU.nodup hUm
  by_cases h0 : U.length = 0
  · -- nothing at all: the first selection pass finds no head
    have hUnil : U = [] := List.eq_nil_of_length_eq_zero h0
    obtain ⟨res, hsel, hres⟩ := selectMin_spec hu sets 0 none (fun s hs => (hok s hs).2) (by simp)
    cases res with
    | none => simp [mergeLoop, hsel, hUnil]
    | some p =>
      obtain ⟨mi, m⟩ := p
      obtain ⟨_, hidx, _, _⟩ := hres
      rcases hidx with h | ⟨_, tl, h⟩
      · simp at h
      · have : Mem m sets := ⟨m :: tl, List.mem_of_getElem? h, by simp⟩
        rw [← hUm, hUnil] at this
        simp at this
  · have hUpos : 0 < U.length := Nat.pos_of_ne_zero h0
    have hpos : 0 < calcMax lim sets := by rw [hcm]; exact Nat.lt_min.mpr ⟨hlim, hUpos⟩
    obtain ⟨r, more, hrun, hspec⟩ :=
      loop_spec hu (calcMax lim sets) anyMore (totalLen sets + 1) 0 sets hok (Nat.lt_succ_self _) hpos
    have hlen : r.length ≤ calcMax lim sets := Nat.zero_add r.length ▸ hspec.len
    have hr : r = U.take lim := by
      rw [List.take_eq_take_min, ← hcm]
      refine take_of_spec hu.laws U (fun x hx y hy => hu.coherent x y (hPU x hx) (hPU y hy)) r _ hU hspec.sorted
        (fun x hx => (hUm x).mpr (hspec.src x hx)) (fun x hx => ?_) hlen
      exact (hspec.complete x ((hUm x).mp hx)).imp_right fun ⟨h1, h2⟩ => ⟨Nat.zero_add r.length ▸ h1, h2⟩
    have hrlen : 0 + r.length = calcMax lim sets := by
      rw [Nat.zero_add, hr, List.length_take, hcm]
    have hex : (∃ x, Mem x sets ∧ x ∉ r) ↔ lim < U.length := by
      rw [← exists_not_mem_take hU.nodup, hr]
      exact exists_congr fun x => and_congr_left' (hUm x).symm
    have hmore : more = (decide (0 < U.length) && (anyMore || decide (lim < U.length))) := by
      rw [Bool.eq_iff_iff, hspec.more_iff, hex]
      simp [hrlen, hUpos]
    rw [hrun, hr, hmore]

theorem merge_two_pages {k : MKind} {x y : Item} (hx : ValidK k x) (hy : ValidK k y) (hlt : ltI (ordK k) x y = true) :
    mergeLoop k 2 false 3 0 [[x], [y]] = .ok ([x, y], false) := by
  have hid := ltI_id_ne hlt
  have hmem : ∀ z, Mem z [[x], [y]] ↔ z = x ∨ z = y := by simp [Mem]
  have hu := univ_of_valid k (fun z => Mem z [[x], [y]])
    (fun z hz => by rcases (hmem z).mp hz with rfl | rfl <;> assumption)
    (fun z w hz hw e => by
      rcases (hmem z).mp hz with rfl | rfl <;> rcases (hmem w).mp hw with rfl | rfl
      · rfl
      · exact absurd e hid
      · exact absurd e.symm hid
      · rfl)
  have h := merge_multi hu 2 (by decide) false [[x], [y]]
    (fun s hs => ⟨by
      simp only [List.mem_cons, List.not_mem_nil, or_false] at hs
      rcases hs with rfl | rfl <;> exact List.pairwise_singleton _ _, fun z hz => ⟨s, hs, hz⟩⟩)
    [x, y] (List.pairwise_pair.mpr hlt) (fun z => by rw [hmem]; simp)
  rw [show calcMax 2 [[x], [y]] = 2 by simp [calcMax, calcSets, calcItems, ids, hid.symm]] at h
  exact h

/-- `MergeSearchResults(lim, firstAttr, cmpInt, sets, mores)` over result sets that are
strictly sorted in the merge's order for the attribute kind, whose items compare without error and agree on equal
ids: the result is the first `lim` elements of the sorted duplicate-free union `U`, and `more` is `moreSpec`.
For every number of sets, every length, every `lim`. -/
theorem merge_eq_union_search (lim : Nat) (firstAttr : String) (cmpInt : Bool) (sets : List (List Item)) (mores : List Bool)
    (hvalid : ∀ x, Mem x sets → ValidK (mergeKind firstAttr cmpInt) x)
    (hco : ∀ x y, Mem x sets → Mem y sets → x.id = y.id → x = y)
    (hsorted : ∀ s ∈ sets, SortedI (ordK (mergeKind firstAttr cmpInt)) s)
    (U : List Item) (hU : SortedI (ordK (mergeKind firstAttr cmpInt)) U) (hUm : ∀ x, x ∈ U ↔ Mem x sets) :
    mergeResults lim firstAttr cmpInt sets mores =
      .ok (U.take lim, moreSpec lim sets.length U.length (mores.contains true)) := by
  have hu := univ_of_valid (mergeKind firstAttr cmpInt) (fun x => Mem x sets) hvalid hco
  have hok : SetsOK (ordK (mergeKind firstAttr cmpInt)) (fun x => Mem x sets) sets :=
    fun s hs => ⟨hsorted s hs, fun x hx => ⟨s, hs, hx⟩⟩
  unfold mergeResults moreSpec
  by_cases hl : lim = 0
  · simp [hl]
  · have hlim : 0 < lim := Nat.pos_of_ne_zero hl
    cases sets with
    | nil =>
      have : U = [] := by
        cases U with
        | nil => rfl
        | cons u us => have := (hUm u).mp (by simp); obtain ⟨s, hs, _⟩ := this; simp at hs
      simp [this]
    | cons s rest =>
      cases rest with
      | nil =>
        -- one set: the union is the set itself
        have hUs : s = U := by
          refine sorted_unique hu.laws U s (fun x hx y hy => hco x y ((hUm x).mp hx) ((hUm y).mp hy)) hU (hsorted s (by simp)) ?_
          intro x
          rw [hUm]
          constructor
          · intro hx; exact ⟨s, by simp, hx⟩
          · rintro ⟨t, ht, hx⟩; simp at ht; subst ht; exact hx
        subst hUs
        simp [hl, hlim]
      | cons s2 rest2 =>
        have hm := merge_multi hu lim hlim (mores.contains true) (s :: s2 :: rest2) hok U hU hUm
        simp only [hl, List.isEmpty_cons, Bool.false_eq_true, or_self, if_false]
        rw [hm]
        simp [hlim]

/-- With realistic more-flags (a set that reports more is a full page, so the union has at least `lim` items) the
answer does not depend on the number of sets: `more` iff the union has more than `lim` items or a flag is set. -/
theorem merge_more_realistic (lim nsets ulen : Nat) (anyMore : Bool) (hlim : 0 < lim)
    (hfull : anyMore = true → lim ≤ ulen) : moreSpec lim nsets ulen anyMore = (decide (lim < ulen) || anyMore) := by
  unfold moreSpec
  cases anyMore with
  | false =>
    by_cases h1 : nsets = 1
    · simp [h1, hlim]
    · simp [h1, hlim]; omega
  | true =>
    have := hfull rfl
    by_cases h1 : nsets = 1
    · simp [h1, hlim]; omega
    · simp [h1, hlim]; omega

/-- the sorted duplicate-free union exists: the merge with a limit beyond all items produces it -/
theorem union_exists (k : MKind) (sets : List (List Item)) (hvalid : ∀ x, Mem x sets → ValidK k x)
    (hco : ∀ x y, Mem x sets → Mem y sets → x.id = y.id → x = y) (hsorted : ∀ s ∈ sets, SortedI (ordK k) s) :
    ∃ U, SortedI (ordK k) U ∧ ∀ x, x ∈ U ↔ Mem x sets := by
  have hu := univ_of_valid k (fun x => Mem x sets) hvalid hco
  have hok : SetsOK (ordK k) (fun x => Mem x sets) sets := fun s hs => ⟨hsorted s hs, fun x hx => ⟨s, hs, hx⟩⟩
  obtain ⟨r, more, _, hspec⟩ := loop_spec hu (totalLen sets + 1) false (totalLen sets + 1) 0 sets hok
    (Nat.lt_succ_self _) (Nat.succ_pos _)
  refine ⟨r, hspec.sorted, fun x => ⟨hspec.src x, fun hx => ?_⟩⟩
  rcases hspec.complete x hx with h | ⟨h1, _⟩
  · exact h
  · -- a strictly sorted list drawn from the sets cannot be longer than all sets together
    exfalso
    have hsub : r ⊆ sets.flatten := fun y hy => by
      obtain ⟨s, hs, hys⟩ := hspec.src y hy
      exact List.mem_flatten.mpr ⟨s, hs, hys⟩
    have hlen := (hspec.sorted.nodup.subperm hsub).length_le
    have : sets.flatten.length = totalLen sets := by simp [totalLen, List.length_flatten]
    omega

/-- the merged page does not depend on the order in which the shards or nodes answered (map iteration order of
`unsortedShards`, arrival order of the remote results) -/
theorem merge_order_independent (lim : Nat) (firstAttr : String) (cmpInt : Bool) (sets sets' : List (List Item))
    (mores mores' : List Bool) (hp : sets'.Perm sets) (hmp : mores'.Perm mores)
    (hvalid : ∀ x, Mem x sets → ValidK (mergeKind firstAttr cmpInt) x)
    (hco : ∀ x y, Mem x sets → Mem y sets → x.id = y.id → x = y)
    (hsorted : ∀ s ∈ sets, SortedI (ordK (mergeKind firstAttr cmpInt)) s) :
    mergeResults lim firstAttr cmpInt sets' mores' = mergeResults lim firstAttr cmpInt sets mores := by
  obtain ⟨U, hU, hUm⟩ := union_exists (mergeKind firstAttr cmpInt) sets hvalid hco hsorted
  have hmem : ∀ x, Mem x sets' ↔ Mem x sets := fun x =>
    ⟨fun ⟨s, hs, hx⟩ => ⟨s, hp.mem_iff.mp hs, hx⟩, fun ⟨s, hs, hx⟩ => ⟨s, hp.mem_iff.mpr hs, hx⟩⟩
  rw [merge_eq_union_search lim firstAttr cmpInt sets mores hvalid hco hsorted U hU hUm,
    merge_eq_union_search lim firstAttr cmpInt sets' mores' (fun x hx => hvalid x ((hmem x).mp hx))
      (fun x y hx hy => hco x y ((hmem x).mp hx) ((hmem y).mp hy)) (fun s hs => hsorted s (hp.mem_iff.mp hs)) U hU
      (fun x => (hUm x).trans (hmem x).symm)]
  have h2 : mores'.contains true = mores.contains true := by
    rw [Bool.eq_iff_iff]
    simp only [List.contains_eq_mem, decide_eq_true_eq]
    exact hmp.mem_iff
  rw [hp.length_eq, h2]

/-- non-vacuity: two overlapping sets of integer-attribute items, sorted numerically (not as strings: "9" < "10") -/
example : mergeResults 2 "N" true [[⟨3, some "-5".toList⟩, ⟨1, some "9".toList⟩], [⟨1, some "9".toList⟩, ⟨2, some "10".toList⟩]]
    [false, false] = .ok ([⟨3, some "-5".toList⟩, ⟨1, some "9".toList⟩], true) := by rfl
example : SortedI (ordK .int) [⟨3, some "-5".toList⟩, ⟨1, some "9".toList⟩, ⟨2, some "10".toList⟩] := by
  unfold SortedI; decide

/-! ## Part 2 — the order the merge uses is the order of the single-shard index

`itemOf q e` is the result item a shard returns for the index entry `e` (`restoreAttributeValue` /
`RestoreIntAttribute`).  `WFEnt q e` says what the index of the primary attribute `q` holds (what
`PutMetadataForObject` writes). -/

def itemOf (q : Query) (e : Ent) : Item := ⟨e.id, restoreAttr q e.raw⟩

/-- the filter `StorageEngine.Search` hands to `CalculateCursor` -/
def filtOf (q : Query) : Option (String × FOp) := q.attr.map fun a => (a, if q.isInt then FOp.int else FOp.other)

/-- what the engine passes to the merge -/
def kindOf (q : Query) : MKind := mergeKind (q.attr.getD "") (q.attr.getD "" != "" && q.isInt)

/-- ASSUMED law of the third-party Base58 codec (mr-tron/base58) for a stored value: decoding inverts encoding.
The concrete functions of the model satisfy it on the examples below; the correspondence run exercises the real
library on every owner / id value it generates. -/
def B58Law (r : List Nat) : Prop := b58Decode (b58Encode r) = some r

def specialAttrs : List String := ["", aOwner, aParent, aFirst, aAssociate, aChecksum, aHomo, aSplitID]

/-- well-formed index entries per primary attribute kind -/
def WFEnt (q : Query) (e : Ent) : Prop :=
  e.id < two256 ∧
  match q.attr with
  | none => e.raw = []
  | some a =>
    if q.isInt then (∃ z : I256, z.WF ∧ e.raw = encode z) ∧ a ∉ specialAttrs ∧ a ≠ "$Object:version" ∧ a ≠ "$Object:objectType"
    else if a = aOwner then e.raw.length = 25 ∧ e.raw.head? = some 0x35 ∧ B58Law e.raw
    else if a = aParent ∨ a = aFirst ∨ a = aAssociate then e.raw.length = 32 ∧ B58Law e.raw
    else if a = aChecksum then e.raw.length = 32 ∧ Bytes e.raw
    else if a = aSplitID then e.raw.length = 16 ∧ Bytes e.raw
    else a ∉ specialAttrs ∧ e.raw ≠ [] ∧ ∀ b ∈ e.raw, 0 < b ∧ b < 256

theorem not_mem_specialAttrs_iff (a : String) : a ∉ specialAttrs ↔
    (a ≠ "" ∧ a ≠ aOwner ∧ a ≠ aParent ∧ a ≠ aFirst ∧ a ≠ aAssociate ∧ a ≠ aChecksum ∧ a ≠ aHomo ∧ a ≠ aSplitID) := by
  simp [specialAttrs]

/-- evaluated once, for all the name tests below -/
theorem attrNames_ne :
    aOwner ≠ "" ∧ aOwner ≠ aParent ∧ aOwner ≠ aFirst ∧ aOwner ≠ aAssociate ∧
    aParent ≠ "" ∧ aParent ≠ aOwner ∧
    aFirst ≠ "" ∧ aFirst ≠ aOwner ∧ aFirst ≠ aParent ∧
    aAssociate ≠ "" ∧ aAssociate ≠ aOwner ∧ aAssociate ≠ aParent ∧ aAssociate ≠ aFirst ∧
    aChecksum ≠ "" ∧ aChecksum ≠ aOwner ∧ aChecksum ≠ aParent ∧ aChecksum ≠ aFirst ∧ aChecksum ≠ aAssociate ∧
    aChecksum ≠ aHomo ∧
    aSplitID ≠ "" ∧ aSplitID ≠ aOwner ∧ aSplitID ≠ aParent ∧ aSplitID ≠ aFirst ∧ aSplitID ≠ aAssociate ∧
    aSplitID ≠ aChecksum ∧ aSplitID ≠ aHomo := by
  decide +kernel

/-! ### the shapes of index

`WFEnt` has no entries, so the theorems below say nothing, for the homomorphic hash, for `$Object:version` /
`$Object:objectType` with an integer matcher, and for plain values that contain the delimiter byte 0x00. -/

inductive QShape : Query → Prop
  | byId (i : Bool) : QShape ⟨none, i⟩
  | int (a : String) (hsp : a ∉ specialAttrs) (hv : a ≠ "$Object:version") (ht : a ≠ "$Object:objectType") : QShape ⟨some a, true⟩
  | owner : QShape ⟨some aOwner, false⟩
  | oid (a : String) (h : a = aParent ∨ a = aFirst ∨ a = aAssociate) : QShape ⟨some a, false⟩
  | checksum : QShape ⟨some aChecksum, false⟩
  | splitID : QShape ⟨some aSplitID, false⟩
  | plain (a : String) (hsp : a ∉ specialAttrs) : QShape ⟨some a, false⟩

theorem wfEnt_int (a : String) (e : Ent) : WFEnt ⟨some a, true⟩ e ↔ e.id < two256 ∧
    (∃ z : I256, z.WF ∧ e.raw = encode z) ∧ a ∉ specialAttrs ∧ a ≠ "$Object:version" ∧ a ≠ "$Object:objectType" := by
  simp only [WFEnt, if_true]

theorem wfEnt_owner (e : Ent) : WFEnt ⟨some aOwner, false⟩ e ↔
    e.id < two256 ∧ e.raw.length = 25 ∧ e.raw.head? = some 0x35 ∧ B58Law e.raw := by
  simp only [WFEnt, Bool.false_eq_true, if_false, if_true]

theorem wfEnt_oid {a : String} (h : a = aParent ∨ a = aFirst ∨ a = aAssociate) (e : Ent) :
    WFEnt ⟨some a, false⟩ e ↔ e.id < two256 ∧ e.raw.length = 32 ∧ B58Law e.raw := by
  have hn : a ≠ aOwner := by rcases h with rfl | rfl | rfl <;> simp [attrNames_ne]
  simp only [WFEnt, Bool.false_eq_true, if_false, hn, h, if_true]

theorem wfEnt_checksum (e : Ent) : WFEnt ⟨some aChecksum, false⟩ e ↔ e.id < two256 ∧ e.raw.length = 32 ∧ Bytes e.raw := by
  simp [WFEnt, attrNames_ne]

theorem wfEnt_splitID (e : Ent) : WFEnt ⟨some aSplitID, false⟩ e ↔ e.id < two256 ∧ e.raw.length = 16 ∧ Bytes e.raw := by
  simp [WFEnt, attrNames_ne]

theorem wfEnt_plain {a : String} (hsp : a ∉ specialAttrs) (e : Ent) :
    WFEnt ⟨some a, false⟩ e ↔ e.id < two256 ∧ e.raw ≠ [] ∧ ∀ b ∈ e.raw, 0 < b ∧ b < 256 := by
  have h := (not_mem_specialAttrs_iff a).mp hsp
  simp only [WFEnt, Bool.false_eq_true, if_false, h, or_self, hsp, not_false_eq_true, true_and]

theorem WFEnt.shape {q : Query} {e : Ent} (w : WFEnt q e) : QShape q := by
  obtain ⟨attr, isInt⟩ := q
  cases attr with
  | none => exact .byId isInt
  | some a =>
    cases isInt with
    | true => obtain ⟨_, _, hsp, hv, ht⟩ := (wfEnt_int a e).mp w; exact .int a hsp hv ht
    | false =>
      by_cases h1 : a = aOwner
      · subst h1; exact .owner
      by_cases h2 : a = aParent ∨ a = aFirst ∨ a = aAssociate
      · exact .oid a h2
      by_cases h3 : a = aChecksum
      · subst h3; exact .checksum
      by_cases h4 : a = aSplitID
      · subst h4; exact .splitID
      · simp only [WFEnt, Bool.false_eq_true, if_false, h1, h2, h3, h4] at w
        exact .plain a w.2.1

theorem kindOf_byId (i : Bool) : kindOf ⟨none, i⟩ = .byId := by simp [kindOf, mergeKind]

theorem kindOf_int (a : String) (ha : a ≠ "") : kindOf ⟨some a, true⟩ = .int := by simp [kindOf, mergeKind, ha]

theorem kindOf_oid {a : String} (h : a = aParent ∨ a = aFirst ∨ a = aAssociate) : kindOf ⟨some a, false⟩ = .oid := by
  rcases h with rfl | rfl | rfl <;> simp [kindOf, mergeKind, attrNames_ne]

theorem kindOf_owner : kindOf ⟨some aOwner, false⟩ = .owner := by simp [kindOf, mergeKind, attrNames_ne]
theorem kindOf_checksum : kindOf ⟨some aChecksum, false⟩ = .str := by simp [kindOf, mergeKind, attrNames_ne]
theorem kindOf_splitID : kindOf ⟨some aSplitID, false⟩ = .str := by simp [kindOf, mergeKind, attrNames_ne]

theorem kindOf_plain (a : String) (hsp : a ∉ specialAttrs) : kindOf ⟨some a, false⟩ = .str := by
  have h := (not_mem_specialAttrs_iff a).mp hsp
  simp [kindOf, mergeKind, h]

theorem b58Attr_test {a : String} (h : a = aOwner ∨ a = aParent ∨ a = aFirst ∨ a = aAssociate) :
    (a == aOwner || a == aFirst || a == aParent || a == aAssociate) = true := by
  rcases h with rfl | rfl | rfl | rfl <;> simp

theorem checksum_test : (aChecksum == aOwner || aChecksum == aFirst || aChecksum == aParent || aChecksum == aAssociate) = false ∧
    (aChecksum == aHomo) = false := by
  simp [attrNames_ne]

theorem splitID_test : (aSplitID == aOwner || aSplitID == aFirst || aSplitID == aParent || aSplitID == aAssociate) = false ∧
    (aSplitID == aChecksum || aSplitID == aHomo) = false := by
  simp [attrNames_ne]

theorem itemOf_int (a : String) (e : Ent) (z : I256) (hz : z.WF) (hraw : e.raw = encode z) :
    itemOf ⟨some a, true⟩ e = ⟨e.id, some (toDec z)⟩ := by
  simp [itemOf, restoreAttr, hraw, decode_encode z hz]

theorem itemOf_b58 (a : String) (e : Ent) (ha : a = aOwner ∨ a = aParent ∨ a = aFirst ∨ a = aAssociate) :
    itemOf ⟨some a, false⟩ e = ⟨e.id, some (b58Encode e.raw)⟩ := by
  simp [itemOf, restoreAttr, b58Attr_test ha]

theorem itemOf_checksum (e : Ent) : itemOf ⟨some aChecksum, false⟩ e = ⟨e.id, some (hexEnc e.raw)⟩ := by
  simp [itemOf, restoreAttr, checksum_test]

theorem itemOf_splitID (e : Ent) (hl : e.raw.length = 16) : itemOf ⟨some aSplitID, false⟩ e = ⟨e.id, some (uuidStr e.raw)⟩ := by
  simp [itemOf, restoreAttr, splitID_test, hl]

theorem itemOf_plain (a : String) (e : Ent) (hsp : a ∉ specialAttrs) : itemOf ⟨some a, false⟩ e = ⟨e.id, some (bytesStr e.raw)⟩ := by
  have h := (not_mem_specialAttrs_iff a).mp hsp
  simp [itemOf, restoreAttr, h]

/-- what a shard returns for a well-formed entry, and that the merge can compare it -/
theorem itemOf_valid (q : Query) (e : Ent) (w : WFEnt q e) : ValidK (kindOf q) (itemOf q e) := by
  cases w.shape with
  | byId i => rw [kindOf_byId]; trivial
  | int a hsp _ _ =>
    obtain ⟨_, ⟨z, hz, hraw⟩, _⟩ := (wfEnt_int a e).mp w
    obtain ⟨⟨p, hp⟩, _⟩ := intKey_toDec e.id z hz
    rw [kindOf_int a ((not_mem_specialAttrs_iff a).mp hsp).1, itemOf_int a e z hz hraw]
    exact ⟨toDec z, p, rfl, hp⟩
  | owner =>
    obtain ⟨_, l, p, b⟩ := (wfEnt_owner e).mp w
    rw [kindOf_owner, itemOf_b58 aOwner e (.inl rfl)]
    exact ⟨_, e.raw, rfl, decodeOwner_b58 l p b⟩
  | oid a h =>
    obtain ⟨_, l, b⟩ := (wfEnt_oid h e).mp w
    rw [kindOf_oid h, itemOf_b58 a e (.inr h)]
    exact ⟨_, e.raw, rfl, decodeOID_b58 l b⟩
  | checksum => rw [kindOf_checksum, itemOf_checksum]; exact ⟨_, rfl⟩
  | splitID =>
    rw [kindOf_splitID, itemOf_splitID e ((wfEnt_splitID e).mp w).2.1]
    exact ⟨_, rfl⟩
  | plain a hsp => rw [kindOf_plain a hsp, itemOf_plain a e hsp]; exact ⟨_, rfl⟩

/-- the merge compares what the index stores -/
theorem ordK_eq_stored (q : Query) (e1 e2 : Ent) (w1 : WFEnt q e1) (w2 : WFEnt q e2) :
    ordK (kindOf q) (itemOf q e1) (itemOf q e2) = lexCmp e1.raw e2.raw := by
  cases w1.shape with
  | byId i =>
    have r1 : e1.raw = [] := w1.2
    have r2 : e2.raw = [] := w2.2
    rw [kindOf_byId, r1, r2]; rfl
  | int a hsp _ _ =>
    obtain ⟨_, ⟨z1, hz1, r1⟩, _⟩ := (wfEnt_int a e1).mp w1
    obtain ⟨_, ⟨z2, hz2, r2⟩, _⟩ := (wfEnt_int a e2).mp w2
    rw [kindOf_int a ((not_mem_specialAttrs_iff a).mp hsp).1, itemOf_int a e1 z1 hz1 r1, itemOf_int a e2 z2 hz2 r2, r1, r2]
    exact ordK_int_toDec hz1 hz2
  | owner =>
    obtain ⟨_, l1, p1, b1⟩ := (wfEnt_owner e1).mp w1
    obtain ⟨_, l2, p2, b2⟩ := (wfEnt_owner e2).mp w2
    rw [kindOf_owner, itemOf_b58 aOwner e1 (.inl rfl), itemOf_b58 aOwner e2 (.inl rfl)]
    exact ordK_owner_b58 l1 l2 p1 p2 b1 b2
  | oid a h =>
    obtain ⟨_, l1, b1⟩ := (wfEnt_oid h e1).mp w1
    obtain ⟨_, l2, b2⟩ := (wfEnt_oid h e2).mp w2
    rw [kindOf_oid h, itemOf_b58 a e1 (.inr h), itemOf_b58 a e2 (.inr h)]
    exact ordK_oid_b58 l1 l2 b1 b2
  | checksum =>
    rw [kindOf_checksum, itemOf_checksum, itemOf_checksum, ordK_str]
    exact hexEnc_order _ _ ((wfEnt_checksum e1).mp w1).2.2 ((wfEnt_checksum e2).mp w2).2.2
  | splitID =>
    obtain ⟨_, l1, b1⟩ := (wfEnt_splitID e1).mp w1
    obtain ⟨_, l2, b2⟩ := (wfEnt_splitID e2).mp w2
    rw [kindOf_splitID, itemOf_splitID e1 l1, itemOf_splitID e2 l2, ordK_str]
    exact uuidStr_order _ _ b1 b2 l1 l2
  | plain a hsp =>
    rw [kindOf_plain a hsp, itemOf_plain a e1 hsp, itemOf_plain a e2 hsp, ordK_str]
    exact lexCmpChars_bytesStr (bytes_of_pos ((wfEnt_plain hsp e1).mp w1).2.2) (bytes_of_pos ((wfEnt_plain hsp e2).mp w2).2.2)

theorem indexKey_order (q : Query) (e1 e2 : Ent) (w1 : WFEnt q e1) (w2 : WFEnt q e2) :
    lexCmp (indexKey q e1) (indexKey q e2) = (lexCmp e1.raw e2.raw).then (ordNat e1.id e2.id) := by
  have i1 := w1.1
  have i2 := w2.1
  cases w1.shape with
  | byId i =>
    have r1 : e1.raw = [] := w1.2
    have r2 : e2.raw = [] := w2.2
    rw [r1, r2]
    exact (lexCmp_cons_same 0 _ _).trans (idBytes_order i1 i2)
  | int a _ _ _ =>
    obtain ⟨_, ⟨z1, _, r1⟩, _⟩ := (wfEnt_int a e1).mp w1
    obtain ⟨_, ⟨z2, _, r2⟩, _⟩ := (wfEnt_int a e2).mp w2
    exact intIndexKey_order (by rw [r1, r2, encode_length, encode_length]) i1 i2
  | owner =>
    exact plainKey_order_fixed (by rw [((wfEnt_owner e1).mp w1).2.1, ((wfEnt_owner e2).mp w2).2.1]) i1 i2
  | oid a h =>
    exact plainKey_order_fixed (by rw [((wfEnt_oid h e1).mp w1).2.1, ((wfEnt_oid h e2).mp w2).2.1]) i1 i2
  | checksum =>
    exact plainKey_order_fixed (by rw [((wfEnt_checksum e1).mp w1).2.1, ((wfEnt_checksum e2).mp w2).2.1]) i1 i2
  | splitID =>
    exact plainKey_order_fixed (by rw [((wfEnt_splitID e1).mp w1).2.1, ((wfEnt_splitID e2).mp w2).2.1]) i1 i2
  | plain a hsp =>
    exact plainKey_order_nozero (fun b hb => Nat.ne_of_gt (((wfEnt_plain hsp e1).mp w1).2.2 b hb).1)
      (fun b hb => Nat.ne_of_gt (((wfEnt_plain hsp e2).mp w2).2.2 b hb).1) i1 i2

/-- For every primary attribute kind that has well-formed entries (`QShape`) and any two well-formed index entries of
different objects: the item of the first lies before the item of the second in the order
`MergeSearchResults` selects by iff its index key is the smaller one.  Uses C05 (`encode_order`,
`compare_strings_numeric`) for integers; hex and the canonical UUID string are shown order preserving; Base58 values
are DECODED by the merge (for the associated object only since the fix), under the assumed codec law. -/
theorem merge_order_eq_index_order (q : Query) (e1 e2 : Ent) (w1 : WFEnt q e1) (w2 : WFEnt q e2) (hne : e1.id ≠ e2.id) :
    ltI (ordK (kindOf q)) (itemOf q e1) (itemOf q e2) = true ↔ lexCmp (indexKey q e1) (indexKey q e2) = .lt :=
  ltI_iff_key ((indexKey_order q e1 e2 w1 w2).trans (by rw [ordK_eq_stored q e1 e2 w1 w2]; rfl)) hne

/-! ## Part 3 — the recomputed cursor is the index key of the last item -/

/-- the key is not longer than an object header may be (cursors above `MaxHeaderLen` are rejected);
34: two delimiters and 32 id bytes (one more than the integer layout needs) -/
def KeyFits (q : Query) (e : Ent) : Prop :=
  match q.attr with
  | none => True
  | some a => (strBytes a.toList).length + e.raw.length + 34 ≤ maxHeaderLen

def seekPrefix (q : Query) : List Nat :=
  match q.attr with
  | none => [0]
  | some a => (if q.isInt then 1 else 2) :: strBytes a.toList ++ [0]

theorem decodeCursor_plainKey (a : String) (e : Ent) (hv : e.raw ≠ []) (hf : KeyFits ⟨some a, false⟩ e) :
    decodeCursor (some a) false ((indexKey ⟨some a, false⟩ e).drop 1) =
      .ok ⟨indexKey ⟨some a, false⟩ e, seekPrefix ⟨some a, false⟩⟩ := by
  rw [plainKey_eq]
  exact decodeCursor_plain a e.raw e.id hv hf

/-- For every primary attribute kind that has well-formed entries (`QShape`) and every such entry: the cursor
`CalculateCursor` rebuilds from the result item is exactly the entry's index key (without the prefix byte, as a shard
itself returns it), and `PreprocessSearchQuery` accepts it and seeks to that very key (`shardSearch` then resumes
strictly after it). -/
theorem cursor_roundtrip (q : Query) (e : Ent) (w : WFEnt q e) (hf : KeyFits q e) :
    calcCursor (filtOf q) (itemOf q e) = .ok ((indexKey q e).drop 1) ∧
      decodeCursor q.attr q.isInt ((indexKey q e).drop 1) = .ok ⟨indexKey q e, seekPrefix q⟩ := by
  cases w.shape with
  | byId i => exact ⟨rfl, decodeCursor_id e.id⟩
  | int a hsp hv ht =>
    obtain ⟨_, ⟨z, hz, hraw⟩, _⟩ := (wfEnt_int a e).mp w
    have h := (not_mem_specialAttrs_iff a).mp hsp
    have hk : (indexKey ⟨some a, true⟩ e).drop 1 = strBytes a.toList ++ 0 :: encode z ++ idBytes e.id := by
      simp [indexKey, hraw]
    rw [hk, itemOf_int a e z hz hraw]
    refine ⟨?_, ?_⟩
    · simp [filtOf, calcCursor, h, hv, ht, parse_toDec z hz]
    · have := decodeCursor_int a (encode z) e.id (encode_length z) (encode_head_le z)
        (by simp only [KeyFits] at hf; rw [hraw, encode_length] at hf; simp only [encodedLen] at hf; omega)
      rw [this]
      simp [indexKey, seekPrefix, hraw]
  | owner =>
    obtain ⟨_, l, _, b⟩ := (wfEnt_owner e).mp w
    refine ⟨?_, decodeCursor_plainKey _ e (List.ne_nil_of_length_eq_add_one l) hf⟩
    rw [itemOf_b58 aOwner e (.inl rfl), plainKey_eq]
    simp [filtOf, calcCursor, show b58Decode (b58Encode e.raw) = some e.raw from b]
  | oid a h =>
    obtain ⟨_, l, b⟩ := (wfEnt_oid h e).mp w
    refine ⟨?_, decodeCursor_plainKey _ e (List.ne_nil_of_length_eq_add_one l) hf⟩
    rw [itemOf_b58 a e (.inr h), plainKey_eq]
    simp [filtOf, calcCursor, b58Attr_test (.inr h), show b58Decode (b58Encode e.raw) = some e.raw from b]
  | checksum =>
    obtain ⟨_, l, b⟩ := (wfEnt_checksum e).mp w
    refine ⟨?_, decodeCursor_plainKey _ e (List.ne_nil_of_length_eq_add_one l) hf⟩
    rw [itemOf_checksum, plainKey_eq]
    simp [filtOf, calcCursor, checksum_test, hexEnc_length, l, hexDec_hexEnc e.raw b]
  | splitID =>
    obtain ⟨_, l, b⟩ := (wfEnt_splitID e).mp w
    refine ⟨?_, decodeCursor_plainKey _ e (List.ne_nil_of_length_eq_add_one l) hf⟩
    rw [itemOf_splitID e l, plainKey_eq]
    simp [filtOf, calcCursor, splitID_test, uuidParse_uuidStr e.raw b l]
  | plain a hsp =>
    obtain ⟨_, hv, hb⟩ := (wfEnt_plain hsp e).mp w
    refine ⟨?_, decodeCursor_plainKey _ e hv hf⟩
    have h := (not_mem_specialAttrs_iff a).mp hsp
    have hs := strBytes_bytesStr e.raw (bytes_of_pos hb)
    rw [itemOf_plain a e hsp, plainKey_eq]
    simp [filtOf, calcCursor, h, hs]

/-! ### non-vacuity of the hypotheses -/

theorem b58Encode_57 : b58Encode (idBytes 57) = List.replicate 31 '1' ++ ['z'] := by
  rw [b58Encode_eq]; decide +kernel

theorem b58Encode_58 : b58Encode (idBytes 58) = List.replicate 31 '1' ++ ['2', '1'] := by
  rw [b58Encode_eq]; decide +kernel

theorem b58Law_57 : B58Law (idBytes 57) := by
  rw [B58Law, b58Encode_57, b58Decode_eq]; decide +kernel

theorem b58Law_58 : B58Law (idBytes 58) := by
  rw [B58Law, b58Encode_58, b58Decode_eq]; decide +kernel

/-- the Base58 law holds for the concrete codec of the model on short-number ids, a full-width id and an owner -/
example : B58Law (idBytes 57) ∧ B58Law (idBytes 58) ∧ B58Law (idBytes (2 ^ 255 + 12345)) ∧
    B58Law (0x35 :: List.replicate 20 7 ++ [1, 2, 3, 4]) := by
  refine ⟨b58Law_57, b58Law_58, ?_, ?_⟩
  · rw [B58Law, b58Encode_eq, b58Decode_eq]; decide +kernel
  · rw [B58Law, b58Encode_eq, b58Decode_eq]; decide +kernel

/-- well-formed entries exist for five of the seven shapes -/
example : WFEnt ⟨some aAssociate, false⟩ ⟨101, idBytes 57⟩ ∧ WFEnt ⟨some aChecksum, false⟩ ⟨101, List.replicate 32 1⟩ ∧
    WFEnt ⟨some "N", true⟩ ⟨7, encode ⟨true, 10⟩⟩ ∧ WFEnt ⟨none, false⟩ ⟨7, []⟩ ∧ WFEnt ⟨some "S", false⟩ ⟨7, [97, 98]⟩ := by
  refine ⟨(wfEnt_oid (.inr (.inr rfl)) _).mpr ⟨by decide, by decide, b58Law_57⟩,
    (wfEnt_checksum _).mpr ⟨by decide, by decide, ?_⟩,
    (wfEnt_int _ _).mpr ⟨by decide, ⟨⟨true, 10⟩, by decide, rfl⟩, by decide +kernel, by decide +kernel, by decide +kernel⟩,
    ⟨by decide, rfl⟩, (wfEnt_plain (by decide +kernel) _).mpr ⟨by decide, by simp, ?_⟩⟩
  · intro b hb; simp at hb; omega
  · intro b hb; simp at hb; omega

theorem shardSearch_items (q : Query) (ents : List Ent) (sk : Seek) (count : Nat) :
    (shardSearch q ents sk count).items =
      ((((sortedIndex q ents).filter fun p => lexCmp p.1 sk.key == .gt && isPrefixOf sk.pfx p.1).take count).map (·.2)).map
        (itemOf q) := by
  rw [List.map_map]; rfl

/-! ## The behaviour before the fixes (replayed on the real engine, see corpus/smerge/boundary.ops)

`e57`, `e58`: two objects whose associated-object ids are 57 and 58.  As bytes 57 < 58, so the index of every shard
lists object 101 first; as Base58 strings "1…1z" > "1…121", so the old merge put object 102 first: the merged page
was out of order.  (With pages of one item the engine then never returned 101: replayed, not stated below.) -/

def qAssoc : Query := ⟨some aAssociate, false⟩
def e57 : Ent := ⟨101, idBytes 57⟩
def e58 : Ent := ⟨102, idBytes 58⟩

theorem wfEnt_e57 : WFEnt qAssoc e57 := (wfEnt_oid (.inr (.inr rfl)) _).mpr ⟨by decide, by decide, b58Law_57⟩
theorem wfEnt_e58 : WFEnt qAssoc e58 := (wfEnt_oid (.inr (.inr rfl)) _).mpr ⟨by decide, by decide, b58Law_58⟩

theorem itemOf_e57 : itemOf qAssoc e57 = ⟨101, some (List.replicate 31 '1' ++ ['z'])⟩ :=
  (itemOf_b58 aAssociate e57 (.inr (.inr (.inr rfl)))).trans (by rw [e57, b58Encode_57])

theorem itemOf_e58 : itemOf qAssoc e58 = ⟨102, some (List.replicate 31 '1' ++ ['2', '1'])⟩ :=
  (itemOf_b58 aAssociate e58 (.inr (.inr (.inr rfl)))).trans (by rw [e58, b58Encode_58])

theorem indexKey_e57_lt : lexCmp (indexKey qAssoc e57) (indexKey qAssoc e58) = .lt := by decide +kernel

/-- the index orders 101 before 102, the OLD merge order the opposite way; the repaired one agrees with the index -/
theorem old_merge_order_counterexample :
    lexCmp (indexKey qAssoc e57) (indexKey qAssoc e58) = .lt ∧
      ltI (ordK (mergeKindOld aAssociate false)) (itemOf qAssoc e58) (itemOf qAssoc e57) = true ∧
      ltI (ordK (mergeKind aAssociate false)) (itemOf qAssoc e57) (itemOf qAssoc e58) = true := by
  refine ⟨indexKey_e57_lt, ?_, (merge_order_eq_index_order qAssoc e57 e58 wfEnt_e57 wfEnt_e58 (by decide)).mpr indexKey_e57_lt⟩
  rw [itemOf_e57, itemOf_e58]
  decide +kernel

/-- … so merging the two one-item pages of two shards gave 102, 101 where a single search over the union gives
101, 102, as the repaired merge does -/
theorem old_merge_result_counterexample :
    mergeLoop (mergeKindOld aAssociate false) 2 false 3 0 [[itemOf qAssoc e57], [itemOf qAssoc e58]] =
        .ok ([itemOf qAssoc e58, itemOf qAssoc e57], false) ∧
      (shardSearch qAssoc [e57, e58] ⟨2 :: strBytes aAssociate.toList ++ [0], 2 :: strBytes aAssociate.toList ++ [0]⟩ 2).items =
        [itemOf qAssoc e57, itemOf qAssoc e58] ∧
      mergeLoop (mergeKind aAssociate false) 2 false 3 0 [[itemOf qAssoc e57], [itemOf qAssoc e58]] =
        .ok ([itemOf qAssoc e57, itemOf qAssoc e58], false) := by
  refine ⟨?_, ?_, ?_⟩
  · rw [itemOf_e57, itemOf_e58]; decide +kernel
  · exact (shardSearch_items _ _ _ _).trans <| congrArg (List.map (itemOf qAssoc)) (by decide +kernel :
      ((((sortedIndex qAssoc [e57, e58]).filter fun p =>
        lexCmp p.1 (2 :: strBytes aAssociate.toList ++ [0]) == .gt && isPrefixOf (2 :: strBytes aAssociate.toList ++ [0]) p.1).take 2).map
          (·.2)) = [e57, e58])
  · exact merge_two_pages (k := mergeKind aAssociate false) (itemOf_valid qAssoc e57 wfEnt_e57) (itemOf_valid qAssoc e58 wfEnt_e58)
      old_merge_order_counterexample.2.2

/-- the OLD cursor for the associated object was built from the Base58 string: not the index key -/
theorem old_associate_cursor_counterexample :
    associateCursorOld (b58Encode (idBytes 57)) 101 ≠ (indexKey qAssoc e57).drop 1 ∧
      calcCursor (filtOf qAssoc) (itemOf qAssoc e57) = .ok ((indexKey qAssoc e57).drop 1) := by
  refine ⟨?_, (cursor_roundtrip qAssoc e57 wfEnt_e57 (show _ + _ + 34 ≤ maxHeaderLen by decide +kernel)).1⟩
  rw [b58Encode_57]
  decide +kernel

def qCk : Query := ⟨some aChecksum, false⟩
def eCk : Ent := ⟨101, List.replicate 32 1⟩

/-- the OLD cursor for the payload checksum had the id copied over the hash: it is not the index key and the next
request rejects it (the byte before the last 32 is the id's last byte, not the delimiter); the repaired one is the
key and is accepted -/
theorem old_checksum_cursor_counterexample :
    checksumCursorOld eCk.raw eCk.id ≠ (indexKey qCk eCk).drop 1 ∧
      decodeCursor (some aChecksum) false (checksumCursorOld eCk.raw eCk.id) = .error .valOidDelim ∧
      calcCursor (filtOf qCk) (itemOf qCk eCk) = .ok ((indexKey qCk eCk).drop 1) ∧
      decodeCursor (some aChecksum) false ((indexKey qCk eCk).drop 1) = .ok ⟨indexKey qCk eCk, seekPrefix qCk⟩ := by
  decide +kernel

end NeoFS.SearchMerge
