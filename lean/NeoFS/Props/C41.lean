import NeoFS.Lemmas.WireCanon
/-!
# C41 — fast header parsing agrees with full object decoding

Model: `NeoFS/Model/Wire.lean` (byte level; varints, tags, the SDK seekers/parsers, the scans of
`internal/object/wire.go`, and the reference decoder = protobuf-go's top-level message loop).

* varints: decode ∘ encode = id for every value below 2^64, decoded values are below 2^64 and read 1..10 bytes
  inside the buffer;
* safety, for EVERY byte string: each fast path either fails or returns bounds/offsets inside the buffer
  (`from ≤ valueFrom ≤ to ≤ len`; the model's form of "never panics": every slice expression of the Go code and
  of its callers is in range), and the loops never exhaust their fuel;
* refinement, for EVERY byte string the full decoder's wire stage accepts: `GetNonPayloadFieldBounds` returns
  exactly what the abstract scan over the decoded field list returns (so it refuses precisely: the empty
  message, fields 1..3 out of strictly ascending order before the scan's stop, a field 1..3 of non-LEN type);
* agreement: when it answers and no LEN field 1..3 stands after the stop point, each reported field is the one
  and only occurrence the full decoder sees (or missing when there is none); a late field breaks this
  (`late_header_disagrees`, replayed on the real code by corpus/wire/late.ops);
* canonical encodings (ascending, each field at most once, any contents): both succeed and agree.
-/
namespace NeoFS.Wire

theorem varint_roundtrip (n : Nat) (rest : Bytes) (h : n < 2 ^ 64) :
    consumeVarint (encodeVarint n ++ rest) = .ok (n, (encodeVarint n).length) :=
  consumeVarint_encode n rest h

theorem varint_decode_bounds (b : Bytes) (v n : Nat) (h : consumeVarint b = .ok (v, n)) :
    v < 2 ^ 64 ∧ 1 ≤ n ∧ n ≤ 10 ∧ n ≤ b.length :=
  consumeVarint_bounds h

theorem varint_encode_length (n : Nat) (h : n < 2 ^ 64) :
    1 ≤ (encodeVarint n).length ∧ (encodeVarint n).length ≤ 10 := by
  have := consumeVarint_bounds (varint_roundtrip n [] h)
  omega

example : consumeVarint [0xac, 0x02, 0x07] = .ok (300, 2) := by decide
example : consumeVarint [0x80, 0x80, 0x00] = .ok (0, 3) := by decide        -- over-long encodings are accepted
example : consumeVarint [0xff, 0xff, 0xff, 0xff, 0xff, 0xff, 0xff, 0xff, 0xff, 0x02] = .error .overflow := by decide

theorem gnpfb_safe (b : Bytes) :
    getNonPayloadFieldBounds b ≠ .error .fuel ∧
    ∀ i s h, getNonPayloadFieldBounds b = .ok (i, s, h) → InR i b.length ∧ InR s b.length ∧ InR h b.length := by
  refine AllInR.elim ?_
  unfold getNonPayloadFieldBounds
  split
  · exact nofun
  · exact boundsLoop_safe (Nat.le_refl _) (InR.zero _) (InR.zero _) (by decide) (by decide)

theorem parent_safe (b : Bytes) :
    getParentNonPayloadFieldBounds b ≠ .error .fuel ∧
    ∀ i s h, getParentNonPayloadFieldBounds b = .ok (i, s, h) → InR i b.length ∧ InR s b.length ∧ InR h b.length := by
  refine AllInR.elim ?_
  unfold getParentNonPayloadFieldBounds
  split
  · exact nofun
  split
  · exact getLENFieldBounds_safe.of_error ‹_›
  split
  · exact ⟨InR.zero _, InR.zero _, InR.zero _⟩
  · exact getParentIn_safe

theorem parent_header_safe (b : Bytes) :
    getParentNonPayloadFieldBoundsHeader b ≠ .error .fuel ∧
    ∀ i s h, getParentNonPayloadFieldBoundsHeader b = .ok (i, s, h) →
      InR i b.length ∧ InR s b.length ∧ InR h b.length := by
  refine AllInR.elim ?_
  unfold getParentNonPayloadFieldBoundsHeader
  split
  · exact nofun
  · exact getParentIn_safe

theorem ehp_safe (b : Bytes) (unm : Nat → Nat → Nat → Bool) :
    extractHeaderAndPayload b unm ≠ .error .fuel ∧
    ∀ r, extractHeaderAndPayload b unm = .ok r → r.poff ≤ b.length ∧ r.InR b.length := by
  refine Ensures.elim ?_
  unfold extractHeaderAndPayload
  split
  · exact nofun
  · exact ehpLoop_safe (Nat.zero_le _) (Nat.le_refl _) ⟨nofun, nofun, nofun⟩

theorem header_getters_total (b : Bytes) :
    getPayloadLengthHeader b ≠ .error .fuel ∧ getTypeHeader b ≠ .error .fuel :=
  ⟨getUint64Field_safe.elim.1, getEnumField_safe.elim.1⟩

example : getNonPayloadFieldBounds [0x0a, 0x01, 0x07, 0x1a, 0x00, 0x22, 0xff] = .ok (⟨0, 2, 3⟩, {}, ⟨3, 5, 5⟩) := by decide
example : getNonPayloadFieldBounds [0x1a, 0x05, 0x00] = .error .field := by decide     -- length beyond the buffer

/-- for every byte string accepted by the full decoder's wire stage the fast path computes the abstract scan of
the decoded field list -/
theorem gnpfb_refines (b : Bytes) (fs : List Field) (href : refParse b = some fs) (hne : b ≠ [])
    (hlen : b.length < 2 ^ 63) :
    getNonPayloadFieldBounds b = (scanSpec 3 objSlot fs 0 none none).map unopt := by
  rw [getNonPayloadFieldBounds, if_neg hne]
  exact boundsLoop_refines hlen none none href
    (List.length_pos_iff.mpr hne) (by decide) (by decide)

/-- the class of non-empty inputs that the full decoder accepts and the fast path refuses, read off `scanSpec` (the
empty message is refused with `empty`): the first fields up to the stop point are not strictly ascending
(`unordered`, `repeated`) or a field numbered ≤ 3 among them is not of LEN type (`wtype`) — never `tag`/`field` -/
theorem gnpfb_refusal_class (b : Bytes) (fs : List Field) (href : refParse b = some fs) (hne : b ≠ [])
    (hlen : b.length < 2 ^ 63) (e : Err) (h : getNonPayloadFieldBounds b = .error e) :
    e = .unordered ∨ e = .repeated ∨ e = .wtype := by
  rw [gnpfb_refines b fs href hne hlen] at h
  exact scanSpec_error (Except.map_eq_error h)

/-- agreement with the full decoder: if the fast path answers and no LEN field 1..3 stands after its stop
point, each reported field is missing exactly when the full decoder sees no occurrence, and otherwise is the
bounds of the only occurrence -/
theorem gnpfb_agrees (b : Bytes) (fs : List Field) (i s h : FB) (href : refParse b = some fs)
    (hlen : b.length < 2 ^ 63) (hfast : getNonPayloadFieldBounds b = .ok (i, s, h)) (hlate : lateFree fs = true) :
    ∃ io so ho : Option FB, i = io.getD {} ∧ s = so.getD {} ∧ h = ho.getD {} ∧
      occ 1 fs = io.toList ∧ occ 2 fs = so.toList ∧ occ 3 fs = ho.toList := by
  have hne : b ≠ [] := by
    rintro rfl
    nomatch hfast
  rw [gnpfb_refines b fs href hne hlen] at hfast
  obtain ⟨⟨io, so, ho⟩, hsc, hr⟩ := Except.map_eq_ok hfast
  cases hr
  exact ⟨io, so, ho, rfl, rfl, rfl, scan_agrees hsc hlate (fun _ => rfl) (fun _ => rfl)⟩

/-- the hypothesis on late fields is needed: an (empty) header followed by a second header. The full decoder
merges both occurrences, the fast path reports the first only. -/
theorem late_header_disagrees :
    getNonPayloadFieldBounds [0x1a, 0x00, 0x1a, 0x02, 0x28, 0x01] = .ok ({}, {}, ⟨0, 2, 2⟩) ∧
    (refParse [0x1a, 0x00, 0x1a, 0x02, 0x28, 0x01]).map (occ 3) = some [⟨0, 2, 2⟩, ⟨2, 4, 6⟩] := by
  decide

/-- `canonical_agrees` for any ascending message of LEN fields numbered up to 15 -/
theorem encOpts_agrees (l : Msg) (hasc : Asc 0 l) (hne : encOpts l ≠ [])
    (hlen : (encOpts l).length < 2 ^ 63) :
    ∃ io so ho : Option FB, refParse (encOpts l) = some (fieldsAt 0 l) ∧
      getNonPayloadFieldBounds (encOpts l) = .ok (io.getD {}, so.getD {}, ho.getD {}) ∧
      occ 1 (fieldsAt 0 l) = io.toList ∧ occ 2 (fieldsAt 0 l) = so.toList ∧ occ 3 (fieldsAt 0 l) = ho.toList := by
  have href : refParse (encOpts l) = some (fieldsAt 0 l) :=
    refLoop_encOpts l hasc _ 0 (by omega) (Nat.lt_succ_self _)
  obtain ⟨⟨io, so, ho⟩, hsc⟩ := scanSpec_fieldsAt (last := 3) (slot := objSlot) l hasc 0 none none
  refine ⟨io, so, ho, href, ?_,
    scan_agrees hsc (lateFree_fieldsAt l hasc 0) (fun _ => rfl) (fun _ => rfl)⟩
  rw [gnpfb_refines _ _ href hne hlen, hsc]
  rfl

/-- every canonical object encoding (any id / signature / header / payload contents, each present or absent, not
all absent): the full decoder's wire stage and the fast path both succeed, and the fast path reports for each
of id, signature, header exactly the single occurrence the full decoder sees — missing iff it was not encoded -/
theorem canonical_agrees (o : Obj) (hne : encodeObj o ≠ []) (hlen : (encodeObj o).length < 2 ^ 63) :
    ∃ (fs : List Field) (io so ho : Option FB),
      refParse (encodeObj o) = some fs ∧
      getNonPayloadFieldBounds (encodeObj o) = .ok (io.getD {}, so.getD {}, ho.getD {}) ∧
      occ 1 fs = io.toList ∧ occ 2 fs = so.toList ∧ occ 3 fs = ho.toList ∧
      io.isSome = o.id.isSome ∧ so.isSome = o.sig.isSome ∧ ho.isSome = o.hdr.isSome := by
  rw [encodeObj_eq] at hne hlen ⊢
  obtain ⟨io, so, ho, href, hfast, h1, h2, h3⟩ := encOpts_agrees _ (asc_objOpts o) hne hlen
  obtain ⟨id, sig, hdr, pl⟩ := o
  refine ⟨_, io, so, ho, href, hfast, h1, h2, h3, ?_, ?_, ?_⟩
  · rw [isSome_of_toList h1, occ_fieldsAt_nonempty_eq_any]
    cases id <;> rfl
  · rw [isSome_of_toList h2, occ_fieldsAt_nonempty_eq_any]
    cases sig <;> rfl
  · rw [isSome_of_toList h3, occ_fieldsAt_nonempty_eq_any]
    cases hdr <;> rfl

example : encodeObj { id := some [7], hdr := some [], payload := some [0xff] } = [0x0a, 0x01, 0x07, 0x1a, 0x00, 0x22, 0x01, 0xff] := by
  simp [encodeObj, encOpt, encLEN, encodeVarint, fObjID, fObjHdr, fObjPayload]

end NeoFS.Wire
