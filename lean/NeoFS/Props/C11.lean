import NeoFS.Model.Range
import NeoFS.Spec.Range
import Mathlib.Tactic.SplitIfs
/-!
# C11 — payload range reads return exactly the requested bytes or out-of-range

`Gen.resolve` is regenerated from `PayloadRange.Resolve` on every run; the theorems below are therefore
re-proved against the code's current expression tree.  All quantifiers are over every 64-bit value.
-/
namespace NeoFS.Range
open NeoFS.Spec
namespace Model
export NeoFS.Range (shiftStream limited readRange readParts)
end Model

def u64 (x : Nat) : Prop := x < 18446744073709551616

/-- `Resolve` returns exactly the slice the request denotes, and out-of-range exactly when the slice is
unsatisfiable — for all payload lengths and all range values below 2^64, including `off+ln` overflow. -/
theorem resolve_spec (mode first second n : Nat) (hm : mode ≤ 4)
    (h1 : u64 first) (h2 : u64 second) (h3 : u64 n) :
    Gen.resolve first mode second n =
      match rangeSlice mode first second n with
      | some (o, l) => .ok ((o : Int), (l : Int))
      | none => .error "ErrObjectOutOfRange" := by
  obtain rfl | rfl | rfl | rfl | rfl : mode = 0 ∨ mode = 1 ∨ mode = 2 ∨ mode = 3 ∨ mode = 4 := by omega
  /- The branch of the mode is selected first, whatever the order of the tests; the rest looks only at the
  arithmetic, so a rewrite of `Resolve` that computes the same (it is translated anew on every run) raises no alarm. -/
  all_goals
    simp only [Gen.resolve, rangeSlice, Int.cast_ofNat_Int, Int.reduceEq, decide_false, decide_true,
      Bool.false_eq_true, if_false, if_true, Bool.and_eq_true, Bool.or_eq_true, decide_eq_true_eq, ge_iff_le,
      gt_iff_lt, Int.natCast_eq_zero]
    unfold u64 at *
    split_ifs <;> simp_all <;> omega

theorem rangeSlice_some_bounds {mode first second n o l : Nat} (h : rangeSlice mode first second n = some (o, l)) :
    o + l ≤ n ∧ (l = 0 → n = 0 ∧ o = 0) := by
  unfold rangeSlice at h
  split at h <;> (try split_ifs at h) <;> cases h <;> omega

theorem slice_in_bounds (mode first second n o l : Nat)
    (h : rangeSlice mode first second n = some (o, l)) : o + l ≤ n := (rangeSlice_some_bounds h).1

theorem slice_zero_len (mode first second n o : Nat)
    (h : rangeSlice mode first second n = some (o, 0)) : n = 0 ∧ o = 0 := (rangeSlice_some_bounds h).2 rfl

/-- `IsFull` holds only for requests that denote the whole payload, whatever its length. -/
theorem isFull_whole (mode first second n : Nat) (h : Gen.isFull first mode second = true) :
    rangeSlice mode first second n = some (0, n) := by
  have hc : (mode = 1 ∧ first = 0 ∧ second = 0) ∨ (mode = 3 ∧ first = 0) := by
    simp only [Gen.isFull, decide_eq_true_eq] at h
    split_ifs at h <;> simp only [Bool.and_eq_true, decide_eq_true_eq] at h <;> omega
  obtain ⟨rfl, rfl, rfl⟩ | ⟨rfl, rfl⟩ := hc <;> rfl

theorem checkTooBig_ok (off ln : Nat) (h1 : off ≤ 9223372036854775807) (h2 : ln ≤ 9223372036854775807) :
    Gen.checkTooBigRange off ln = .ok () := by
  simp only [Gen.checkTooBigRange, decide_eq_true_eq, Bool.or_eq_true, gt_iff_lt]
  split_ifs with h
  · omega
  · rfl

/-- The reader returned by `shiftPayloadRangeStream` yields exactly `payload[off, off+ln)`, for every
split of the payload between the header buffer and the file stream. -/
theorem shift_stream_spec (pre rest : List Nat) (hasStream : Bool) (off ln : Nat)
    (hin : off + ln ≤ (pre ++ rest).length) (hz : ln = 0 → off = 0)
    (hs : hasStream = false → rest = [])
    (hbig : (pre ++ rest).length ≤ 9223372036854775807) :
    Model.shiftStream pre rest hasStream off ln =
      .ok (sliceBytes (pre ++ rest) off (if ln = 0 then (pre ++ rest).length else ln)) := by
  have hlen : (pre ++ rest).length = pre.length + rest.length := List.length_append
  have hck := checkTooBig_ok off ln (by omega) (by omega)
  unfold Model.shiftStream sliceBytes Model.limited
  cases hasStream with
  | false =>
    have hr := hs rfl
    subst hr
    simp only [Bool.not_false, List.length_nil, ne_eq, not_true_eq_false, decide_false, Bool.and_false,
      Bool.false_eq_true, if_false, List.append_nil] at *
    by_cases h0 : off = 0
    · subst h0
      by_cases hl : ln = 0
      · simp [hl]
      · simp only [hl, if_false, List.drop_zero]
        have : ln ≤ pre.length := by omega
        simp [this]
    · have hl : ln ≠ 0 := fun e => h0 (hz e)
      simp [h0, hl]
  | true =>
    simp only [Bool.not_true, Bool.false_and, Bool.false_eq_true, if_false]
    rw [hck]
    by_cases h0 : off = 0
    · subst h0
      simp only [if_true, List.drop_zero]
      by_cases hl : ln = 0
      · simp only [hl, if_true]
        rw [List.take_length]
      · simp only [hl, if_false]
        by_cases hp : ln ≤ pre.length
        · simp [hp, List.take_append_of_le_length hp]
        · simp only [hp, if_false]
          by_cases he : pre.length = 0
          · have : pre = [] := List.eq_nil_of_length_eq_zero he
            subst this; simp
          · simp only [he, if_false]
            rw [List.take_append]
            have : List.take ln pre = pre := List.take_of_length_le (by omega)
            rw [this]
    · have hl : ln ≠ 0 := fun e => h0 (hz e)
      simp only [h0, hl, if_false, ge_iff_le]
      by_cases hp : pre.length ≤ off
      · simp only [hp, if_true]
        rw [List.drop_append]
        have : List.drop off pre = [] := List.drop_of_length_le hp
        rw [this]; simp
      · simp only [hp, if_false]
        have hd : List.drop off (pre ++ rest) = List.drop off pre ++ rest := by
          rw [List.drop_append]
          have : off - pre.length = 0 := by omega
          rw [this]; simp
        rw [hd]
        by_cases hq : ln ≤ (List.drop off pre).length
        · rw [if_pos hq, List.take_append_of_le_length hq]
        · simp only [hq, if_false]
          rw [List.take_append]
          have : List.take ln (List.drop off pre) = List.drop off pre := List.take_of_length_le (by omega)
          rw [this]

/-- Range reads return exactly the bytes of the denoted slice, or out-of-range exactly when the slice is
unsatisfiable: for every payload (below 2^63 bytes), every buffering split and every request. -/
theorem read_spec (payload : List Nat) (split mode first second : Nat) (hm : mode ≤ 4)
    (h1 : u64 first) (h2 : u64 second) (hn : payload.length ≤ 9223372036854775807) :
    Model.readRange payload split mode first second =
      match rangeSlice mode first second payload.length with
      | some (o, l) => .ok (sliceBytes payload o l)
      | none => .error "ErrObjectOutOfRange" := by
  unfold Model.readRange
  rw [resolve_spec mode first second payload.length hm h1 h2 (by unfold u64; omega)]
  cases hsl : rangeSlice mode first second payload.length with
  | none => rfl
  | some p =>
    obtain ⟨o, l⟩ := p
    obtain ⟨hb, hz⟩ := rangeSlice_some_bounds hsl
    simp only [Int.toNat_natCast]
    have hcat : List.take split payload ++ List.drop split payload = payload := List.take_append_drop _ _
    rw [shift_stream_spec _ _ true o l (by rw [hcat]; exact hb) (fun e => (hz e).2) (by simp)
      (by rw [hcat]; exact hn), hcat]
    by_cases hl : l = 0
    · simp [hl, (hz hl).1]
    · simp [hl]

/-- `ReadObjectParts` and the range-stream readers give the same answer for every request. -/
theorem readers_agree (payload : List Nat) (split mode first second : Nat) (hm : mode ≤ 4)
    (h1 : u64 first) (h2 : u64 second) (hn : payload.length ≤ 9223372036854775807) :
    Model.readParts payload split mode first second = Model.readRange payload split mode first second := by
  unfold Model.readParts
  by_cases hw : (mode = 0 || Gen.isFull first mode second) = true
  · have hsl : rangeSlice mode first second payload.length = some (0, payload.length) := by
      simp only [Bool.or_eq_true, decide_eq_true_eq] at hw
      rcases hw with rfl | hf
      · rfl
      · exact isFull_whole _ _ _ _ hf
    rw [if_pos hw, read_spec payload split mode first second hm h1 h2 hn, hsl]
    simp only [sliceBytes, List.drop_zero, List.take_length]
  · rw [if_neg hw]

example : rangeSlice 2 3 100 10 = some (3, 7) ∧ rangeSlice 1 8 3 10 = none ∧
    rangeSlice 1 18446744073709551615 2 10 = none := by decide

end NeoFS.Range
