import NeoFS.Props.C01
/-!
# C07 — a live lock protects its object

Admission rules of `handleObjectWithAssociation` (`putKind`), the status rules and the expired-object
iteration, for every bucket state with unique ordered keys (every reachable state, `run_wf`), every epoch and
every object id.  "Live lock" is the reference notion `Ref.liveLock`: SOME stored lock object that has not
expired and is not itself removed.
-/
namespace NeoFS.Meta
open Ref

/-- While a live lock exists, a tombstone targeting the object is rejected (nothing is written). -/
theorem locked_rejects_tombstone (c : Cnr) (hwf : c.WF) (epoch level : Nat) (h : Hdr) (b : Bool) (e : Err)
    (ht : h.typ = .tombstone) (hl : liveLock c epoch h.assoc = true) :
    (putKind c epoch level h b e).1 = none :=
  putKind_tombstone_of_locked ht (objectLocked_ref c hwf epoch h.assoc ▸ hl)

/-- …and through `putSelf`: the bucket of before the call is returned, with an error. -/
theorem locked_rejects_tombstone_put (c0 c : Cnr) (hwf : c.WF) (epoch level : Nat) (h : Hdr) (b : Bool) (e : Err)
    (ht : h.typ = .tombstone) (hl : liveLock c epoch h.assoc = true) :
    (putSelf c0 c epoch level h b e).1 = c0 ∧ (putSelf c0 c epoch level h b e).2.2 ≠ .ok := by
  have hr := locked_rejects_tombstone c hwf epoch level h b e ht hl
  have he := putKind_isSome c epoch level h b e
  rw [putSelf_refused hr]
  rw [hr] at he
  exact ⟨rfl, fun hok => by rw [hok] at he; cases he⟩

/-- While a live lock exists the object itself is never reported as expired, removed or marked. -/
theorem locked_never_expired_or_removed (c : Cnr) (epoch id : Nat) (hl : liveLock c epoch id = true) :
    ownStatus c epoch id = .available := by
  unfold ownStatus
  simp [hl]

/-- …so with no parent above it, every view reports it available. -/
theorem locked_available_without_parent (c : Cnr) (hwf : c.WF) (epoch id : Nat)
    (hl : liveLock c epoch id = true) (hp : parentOf c id = 0) : c.status epoch id = .available := by
  rw [status_eq_ref c hwf]
  unfold Ref.status
  simp [locked_never_expired_or_removed c epoch id hl, hp]

/-- A lock is rejected for an object that is already tombstoned. -/
theorem lock_rejected_for_tombstoned (c : Cnr) (hwf : c.WF) (epoch level : Nat) (h : Hdr) (b : Bool) (e : Err)
    (ht : h.typ = .lock) (htomb : tombstoned c h.assoc = true) :
    (putKind c epoch level h b e).1 = none := by
  have hg : c.inGarbage h.assoc = .tombstoned := by rw [inGarbage_ref c hwf, htomb]; rfl
  exact putKind_lock_of_tombstoned ht hg

/-- A lock object cannot itself be tombstoned. -/
theorem lock_not_tombstonable (c : Cnr) (epoch level : Nat) (h : Hdr) (b : Bool) (e : Err)
    (ht : h.typ = .tombstone) (hlock : c.typeOf h.assoc = some .lock) :
    (putKind c epoch level h b e).1 = none :=
  putKind_tombstone_of_lock ht hlock

/-- Expiry handling never receives a locked object: the expired-object iteration skips every object with a
live lock. -/
theorem expired_iteration_skips_locked (c : Cnr) (hwf : c.WF) (epoch : Nat) :
    ∀ x ∈ c.expired epoch, liveLock c epoch x.1 = false := by
  intro x hx
  unfold Cnr.expired at hx
  split at hx
  · cases hx
  · simp only [List.mem_map, List.mem_filter] at hx
    obtain ⟨y, ⟨_, hy⟩, rfl⟩ := hx
    rw [objectLocked_ref c hwf] at hy
    simpa using hy

/-- Non-vacuity: a bucket with a live lock on object 3. -/
example :
    let c : Cnr := { recs := [exRec 3 .regular 0, exRec 4 .lock 3] }
    liveLock c 5 3 = true ∧ (putKind c 5 0 { id := 9, typ := .tombstone, assoc := 3 } false .ok).1 = none := by decide

end NeoFS.Meta
