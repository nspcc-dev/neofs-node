import NeoFS.Model.Skel
import NeoFS.Lemmas.IRIndexer
import NeoFS.Gen.IRHandlers
/-!
# C35 — inner ring nodes outside the alphabet never act with alphabet authority

Part 1 (programs): a soundness theorem for the skeleton checker, and the checker evaluated by the
kernel on EVERY entry point regenerated from the source (`NeoFS.Gen.irHandlers`).
Part 2 (inputs): the index arithmetic behind `IsAlphabet` and the guards written as integer
conditions, for all keys, lists and indexes.
Part 3 (the indexer's cache): which key lists a guard evaluation is answered from, for every node life.
-/
namespace NeoFS.IRSkel

-- the only equation of `chk` a proof rewrites with; elsewhere `chk` unfolds by itself
theorem chk_seq (a b : Prog) : chk (.seq a b) =
    if (chk a).fall then
      ⟨(chk a).ok && (chk b).ok, (chk b).fall, (chk a).brk || (chk b).brk, (chk a).ret || (chk b).ret⟩
    else chk a := rfl

/-- every exit the semantics can take (non-alphabet world) is one the checker reports -/
theorem exec_exit_allowed {p : Prog} {es : List String} {x : Exit} (h : Exec false p es x) :
    (chk p).allows x = true := by
  induction h with
  | skip => rfl
  | effect t => rfl
  | ret => rfl
  | brk => rfl
  | @seqFall a b es1 es2 x _ _ iha ihb =>
    have hf : (chk a).fall = true := iha
    rw [chk_seq, if_pos hf]
    cases x with
    | fall => exact ihb
    | brk => exact Bool.or_eq_true_iff.mpr (.inr ihb)
    | ret => exact Bool.or_eq_true_iff.mpr (.inr ihb)
  | @seqExit a b es x _ hne iha =>
    rw [chk_seq]
    split
    · cases x with
      | fall => exact absurd rfl hne
      | brk => exact Bool.or_eq_true_iff.mpr (.inl iha)
      | ret => exact Bool.or_eq_true_iff.mpr (.inl iha)
    · exact iha
  | @branchL a b es x _ ih =>
    cases x <;> exact Bool.or_eq_true_iff.mpr (.inl ih)
  | @branchR a b es x _ ih =>
    cases x <;> exact Bool.or_eq_true_iff.mpr (.inr ih)
  | loopDone => rfl
  | loopStep _ _ _ _ ih2 => exact ih2
  | loopBrk _ _ => rfl
  | loopRet _ ih => exact ih
  | scopeRet _ ih => exact Bool.or_eq_true_iff.mpr (.inr ih)
  | @scopeOther b es x _ hne ih =>
    cases x with
    | fall => exact Bool.or_eq_true_iff.mpr (.inl ih)
    | brk => exact ih
    | ret => exact absurd rfl hne
  | ifT h _ _ => cases h
  | ifF _ _ ih => exact ih

/-- **Soundness of the checker.** If `chk p` says ok, no run of `p` in the non-alphabet world
performs a chain-mutating call, whatever the uninterpreted branches and loop counts do. -/
theorem chk_sound {p : Prog} {es : List String} {x : Exit} (h : Exec false p es x) (hok : (chk p).ok = true) :
    es = [] := by
  induction h with
  | skip => rfl
  | effect t => cases hok
  | ret => rfl
  | brk => rfl
  | @seqFall a b es1 es2 x ha _ iha ihb =>
    have hf : (chk a).fall = true := exec_exit_allowed ha
    rw [chk_seq, if_pos hf] at hok
    obtain ⟨h1, h2⟩ := Bool.and_eq_true_iff.mp hok
    rw [iha h1, ihb h2]; rfl
  | @seqExit a b es x _ _ iha =>
    rw [chk_seq] at hok
    split at hok
    · exact iha (Bool.and_eq_true_iff.mp hok).1
    · exact iha hok
  | branchL _ ih => exact ih (Bool.and_eq_true_iff.mp hok).1
  | branchR _ ih => exact ih (Bool.and_eq_true_iff.mp hok).2
  | loopDone => rfl
  | @loopStep b es1 es2 x y _ _ _ ih1 ih2 => rw [ih1 hok, ih2 hok]; rfl
  | loopBrk _ ih => exact ih hok
  | loopRet _ ih => exact ih hok
  | scopeRet _ ih => exact ih hok
  | scopeOther _ _ ih => exact ih hok
  | ifT h _ _ => cases h
  | ifF _ _ ih => exact ih hok

open NeoFS.Gen

/-- The checker accepts every entry point the translator emitted from the current source (by its naming
rule: the `handle*` / `process*` methods of the processors, the startup validator vote, the control request). -/
theorem all_entries_guarded_eval : irHandlers.all (fun e => guarded e.body) = true := by decide

theorem all_entries_guarded : ∀ e ∈ irHandlers, guarded e.body = true :=
  fun e he => List.all_eq_true.mp all_entries_guarded_eval e he

/-- **C35 (programs).** For every regenerated entry point, every run in the non-alphabet world
performs no chain-mutating morph client call. -/
theorem no_effect_outside_alphabet :
    ∀ e ∈ irHandlers, ∀ (es : List String) (x : Exit), Exec false e.body es x → es = [] :=
  fun e he _ _ h => chk_sound h (all_entries_guarded e he)

/-- `Server.IsAlphabet()` is literally `AlphabetIndex() >= 0` in the source -/
theorem server_isAlphabet_is_index_test : irServerIsAlphabetIsIndexTest = true := by decide

/-- the translator found the whole set of entry points (a vanishing handler list would make the
theorems above vacuous) -/
theorem entry_points_present : 40 ≤ irHandlers.length := by decide

/-- shape of the validator vote before the repair (`if index >= len(alphabet) { return }` is not an
alphabet test): rejected by the checker -/
example : guarded (.seq (.branch .ret .skip) (.loop (.effect "NotaryInvoke"))) = false := by decide

/-- the same shape with the repaired guard is accepted, and an alphabet member does reach the effect -/
example : guarded (.seq (.ifAlpha (.branch .ret .skip) .ret) (.loop (.effect "NotaryInvoke"))) = true := by decide

example : Exec true (.seq (.ifAlpha .skip .ret) (.effect "e")) ["e"] .fall :=
  .seqFall (.ifT rfl .skip) (.effect "e")

end NeoFS.IRSkel

namespace NeoFS.IRAuth

theorem keyPosition_ge_neg_one (key : Nat) (l : List Nat) : -1 ≤ keyPosition key l := by
  rcases keyPosition_spec key l with ⟨h, _⟩ | ⟨i, h, _⟩
  · omega
  · omega

theorem keyPosition_neg_iff (key : Nat) (l : List Nat) : keyPosition key l < 0 ↔ key ∉ l := by
  rcases keyPosition_spec key l with ⟨h, hn⟩ | ⟨i, h, hi⟩
  · exact ⟨fun _ => hn, fun _ => by omega⟩
  · exact ⟨fun hlt => by omega, fun hn => absurd (List.mem_of_getElem? hi) hn⟩

theorem keyPosition_lt_length (key : Nat) (l : List Nat) : keyPosition key l < l.length := by
  rcases keyPosition_spec key l with ⟨h, _⟩ | ⟨i, h, hi⟩
  · omega
  · have := (List.getElem?_eq_some_iff.mp hi).1
    omega

/-- **`IsAlphabet` is alphabet membership.** For every key, committee list and fetch outcome:
the node reports alphabet status exactly when the lists could be fetched and its key is in the
current committee (so index `-1` — absent key or failed lookup — is never alphabet). -/
theorem isAlphabet_iff_member (fails : Bool) (key : Nat) (committee : List Nat) :
    isAlphabet (alphabetIndex fails key committee) = true ↔ fails = false ∧ key ∈ committee := by
  cases fails with
  | true => exact ⟨fun h => Bool.noConfusion (h : false = true), fun h => Bool.noConfusion h.1⟩
  | false =>
    have hiff := keyPosition_neg_iff key committee
    show decide (keyPosition key committee ≥ 0) = true ↔ _
    rw [decide_eq_true_iff, ge_iff_le, ← Int.not_lt, hiff, Decidable.not_not]
    exact (and_iff_right rfl).symm

/-- the repaired vote guard: any vote invocation implies a valid alphabet index, for all indexes
(including every negative one) -/
theorem vote_requires_alphabet (aidx : Int) (n nval : Nat) (v : Bool) (h : 0 < voteInvokes aidx n nval v) :
    0 ≤ aidx ∧ aidx < n := by
  by_cases hc : aidx < 0 ∨ aidx ≥ n
  · rw [voteInvokes, if_pos hc] at h; cases h
  · exact ⟨Int.not_lt.mp fun h1 => hc (.inl h1), Int.not_le.mp fun h2 => hc (.inr h2)⟩

theorem vote_requires_membership (fails : Bool) (key : Nat) (committee : List Nat) (n nval : Nat) (v : Bool)
    (h : 0 < voteInvokes (alphabetIndex fails key committee) n nval v) : fails = false ∧ key ∈ committee := by
  have := (vote_requires_alphabet _ _ _ _ h).1
  exact (isAlphabet_iff_member fails key committee).mp (by simpa [isAlphabet] using this)

/-- the guard before the repair let index `-1` through (replayed on the real code: `ir vote
iridx=-1 aidx=-1 n=4 nval=1 voted=0 ferr=0` sent four vote requests) -/
theorem vote_unfixed_counterexample : ¬ (∀ (iridx : Int) (n nval : Nat) (v : Bool), 0 < voteInvokesUnfixed iridx n nval v → 0 ≤ iridx) := by
  intro h
  have := h (-1) 4 1 false (by decide)
  omega

theorem epoch_requires_alphabet (alpha changed : Bool) (cnrs : Nat) (h : 0 < epochEffects alpha changed cnrs) : alpha = true := by
  cases alpha with
  | true => rfl
  | false => rw [epochEffects, Bool.and_false, if_neg Bool.false_ne_true] at h; cases h

theorem epoch_unfixed_counterexample : ¬ (∀ alpha changed cnrs, 0 < epochEffectsUnfixed alpha changed cnrs → alpha = true) := by
  intro h
  have := h false true 2 (by decide)
  cases this

theorem tick_requires_alphabet (alpha : Bool) (h : 0 < tickEffects alpha) : alpha = true := by
  cases alpha with
  | true => rfl
  | false => cases h

theorem emit_requires_alphabet (aidx : Int) (n nodes em : Nat) (h : 0 < emitEffects aidx n nodes em) : 0 ≤ aidx ∧ aidx < n := by
  by_cases h1 : aidx < 0
  · rw [emitEffects, if_pos h1] at h; cases h
  by_cases h2 : aidx ≥ n
  · rw [emitEffects, if_neg h1, if_pos h2] at h; cases h
  exact ⟨Int.not_lt.mp h1, Int.not_le.mp h2⟩

/-- non-vacuity: an alphabet member at a valid index does vote / emit -/
example : voteInvokes 2 4 1 false = 4 := by decide
example : emitEffects 1 4 3 9 = 4 := by decide
example : isAlphabet (alphabetIndex false 0 [5, 0, 7]) = true := by decide

end NeoFS.IRAuth

/-!
Part 3 (the indexer's cache): which key lists a guard evaluation is answered from, for every node
life — every sequence of process starts, key-list changes, failing and recovering lookups, waits,
RPC reconnections and guard evaluations (`NeoFS.IRIndexer.Op`).
-/
namespace NeoFS.IRIndexer
open NeoFS.IRAuth

theorem keyPosition_getElem (key : Nat) (l : List Nat) (h : 0 ≤ keyPosition key l) :
    l[(keyPosition key l).toNat]? = some key := by
  rcases keyPosition_spec key l with ⟨h', _⟩ | ⟨i, h', hi⟩
  · rw [h'] at h; exact absurd h (by decide)
  · rw [h']; exact hi

/-- The cache invariant: whenever the cache is fresh, no lookup failed and the cache was not dropped
since the last complete successful lookup, and the cached indexes are exactly the positions of the
key in the two lists THAT lookup read. -/
def Inv (key : Nat) (s : St) : Prop :=
  fresh s = true →
    s.dirty = false ∧ ∃ g, s.good = some g ∧ s.ind = indOf key g.irL g.commL ∧ s.last = some g.readAt

theorem inv_init (key : Nat) : Inv key {} := by
  intro h; cases h

theorem update_inv (key : Nat) (s : St) (h : Inv key s) : Inv key (update key s).1 := by
  cases hf : fresh s with
  | true => rw [update_fresh key hf]; exact h
  | false =>
    rcases update_stale key hf with ⟨-, -, -, hstale⟩ | ⟨-, -, he⟩
    · exact fun hf' => Bool.noConfusion (hstale.symm.trans hf')
    · rw [he]
      exact fun _ => ⟨rfl, ⟨s.irList, s.commList, s.now⟩, rfl, rfl, rfl⟩

theorem step_inv (key : Nat) (s : St) (op : Op) (h : Inv key s) : Inv key (step key s op) := by
  cases op with
  | start t => intro hf; cases hf
  | chain i c => exact h
  | fail a b => exact h
  | wait d => exact fun hf => h (fresh_of_fresh_later s d hf)
  | reset => intro hf; cases hf
  | eval => exact update_inv key s h

theorem run_inv (key : Nat) (ops : List Op) (s : St) (h : Inv key s) : Inv key (run key s ops) := by
  induction ops generalizing s with
  | nil => exact h
  | cons o os ih => exact ih _ (step_inv key s o h)

/-- a failed lookup raises the ghost flag (a dropped cache too: `reset_marks`) -/
theorem failed_lookup_marks (key : Nat) (s : St) (h : (update key s).2.ind = none) :
    (update key s).1.dirty = true ∧ fresh (update key s).1 = false := by
  cases hf : fresh s with
  | true => rw [update_fresh key hf] at h; cases h
  | false =>
    rcases update_stale key hf with ⟨-, -, hd, hstale⟩ | ⟨-, -, he⟩
    · exact ⟨hd, hstale⟩
    · rw [he] at h; cases h

theorem reset_marks (s : St) : (reset s).dirty = true ∧ fresh (reset s) = false := ⟨rfl, rfl⟩

/-- a complete successful lookup clears the flag and records the lists it read -/
theorem success_records (key : Nat) (s : St) (hf : fresh s = false) (i : Ind) (h : (update key s).2.ind = some i) :
    (update key s).1.good = some ⟨s.irList, s.commList, s.now⟩ ∧ (update key s).1.dirty = false ∧
    i = indOf key s.irList s.commList ∧ s.failIR = 0 ∧ s.failComm = 0 := by
  rcases update_stale key hf with ⟨hnone, -⟩ | ⟨h1, h2, he⟩
  · rw [hnone] at h; cases h
  · rw [he] at h ⊢
    exact ⟨rfl, rfl, (Option.some.inj h).symm, h1, h2⟩

/-! the cache results, for any state that satisfies the invariant -/

theorem served_of_inv {key : Nat} {s : St} (hinv : Inv key s) (i : Ind) (h : (update key s).2.ind = some i) :
    (update key s).1.dirty = false ∧
    ∃ g, (update key s).1.good = some g ∧ i = indOf key g.irL g.commL ∧
      (s.now - g.readAt < s.timeout ∨ (g.readAt = s.now ∧ g.irL = s.irList ∧ g.commL = s.commList)) := by
  cases hf : fresh s
  · obtain ⟨hg, hd, hi, _, _⟩ := success_records key s hf i h
    exact ⟨hd, ⟨s.irList, s.commList, s.now⟩, hg, hi, Or.inr ⟨rfl, rfl, rfl⟩⟩
  · obtain ⟨hd, g, hg, hind, hlast⟩ := hinv hf
    rw [update_fresh key hf] at h ⊢
    simp only [Option.some.injEq] at h
    refine ⟨hd, g, hg, ?_, Or.inl ?_⟩
    · rw [← h]; exact hind
    · unfold fresh at hf
      rw [hlast] at hf
      simpa using hf

theorem dirty_forces_lookup_of_inv {key : Nat} {s : St} (hinv : Inv key s) (h : s.dirty = true) :
    fresh s = false ∧ (update key s).2.rpcIR = 1 := by
  have hff : fresh s = false := by
    cases hc : fresh s
    · rfl
    · have := (hinv hc).1; rw [h] at this; cases this
  refine ⟨hff, ?_⟩
  rcases update_stale key hff with ⟨-, hrpc, -⟩ | ⟨-, -, he⟩
  · exact hrpc
  · rw [he]

theorem guard_pass_of_inv {key : Nat} {s : St} (hinv : Inv key s) (h : 0 ≤ alphabetIndexOf (update key s).2) :
    (update key s).1.dirty = false ∧
    ∃ g, (update key s).1.good = some g ∧ g.commL[(alphabetIndexOf (update key s).2).toNat]? = some key := by
  unfold alphabetIndexOf at h ⊢
  cases hr : (update key s).2.ind with
  | none => rw [hr] at h; simp at h
  | some i =>
    rw [hr] at h
    obtain ⟨hd, g, hg, hi, _⟩ := served_of_inv hinv i hr
    refine ⟨hd, g, hg, ?_⟩
    simp only at h ⊢
    have ha : i.aIdx = keyPosition key g.commL := by rw [hi]; rfl
    rw [ha] at h ⊢
    exact keyPosition_getElem key g.commL h

/-- **C35 (cache).** In every node life, whatever a guard evaluation is answered with comes from the most
recent complete SUCCESSFUL lookup: no lookup failed and the cache was not dropped since, the indexes
are the key's positions in the lists that lookup read, and the lookup is younger than the cache
timeout or was made by this very evaluation (then it read the chain's current lists). -/
theorem served_from_last_successful_lookup (key : Nat) (ops : List Op) (i : Ind)
    (h : (update key (run key {} ops)).2.ind = some i) :
    (update key (run key {} ops)).1.dirty = false ∧
    ∃ g, (update key (run key {} ops)).1.good = some g ∧ i = indOf key g.irL g.commL ∧
      ((run key {} ops).now - g.readAt < (run key {} ops).timeout ∨
       (g.readAt = (run key {} ops).now ∧ g.irL = (run key {} ops).irList ∧ g.commL = (run key {} ops).commList)) :=
  served_of_inv (run_inv key ops {} (inv_init key)) i h

/-- after a failed lookup or a reconnection nothing is served from the cache: as long as the flag is
up, every guard evaluation goes to the chain -/
theorem dirty_forces_lookup (key : Nat) (ops : List Op) (h : (run key {} ops).dirty = true) :
    fresh (run key {} ops) = false ∧ (update key (run key {} ops)).2.rpcIR = 1 :=
  dirty_forces_lookup_of_inv (run_inv key ops {} (inv_init key)) h

/-- a guard passes (non-negative alphabet index) only if the node's key is AT THAT POSITION of the
committee read by the most recent successful lookup -/
theorem guard_pass_requires_position (key : Nat) (ops : List Op)
    (h : 0 ≤ alphabetIndexOf (update key (run key {} ops)).2) :
    (update key (run key {} ops)).1.dirty = false ∧
    ∃ g, (update key (run key {} ops)).1.good = some g ∧
      g.commL[(alphabetIndexOf (update key (run key {} ops)).2).toNat]? = some key :=
  guard_pass_of_inv (run_inv key ops {} (inv_init key)) h

/-- every modelled alphabet action (validator vote, gas emission, epoch tick) taken on the answer of a
guard evaluation requires that position -/
theorem acts_only_on_last_successful_lookup (key : Nat) (ops : List Op) (n nval nodes em : Nat) (v : Bool)
    (h : 0 < voteInvokes (alphabetIndexOf (update key (run key {} ops)).2) n nval v ∨
         0 < emitEffects (alphabetIndexOf (update key (run key {} ops)).2) n nodes em ∨
         0 < tickEffects (isAlphabet (alphabetIndexOf (update key (run key {} ops)).2))) :
    (update key (run key {} ops)).1.dirty = false ∧
    ∃ g, (update key (run key {} ops)).1.good = some g ∧
      g.commL[(alphabetIndexOf (update key (run key {} ops)).2).toNat]? = some key := by
  apply guard_pass_requires_position
  rcases h with h | h | h
  · exact (vote_requires_alphabet _ _ _ _ h).1
  · exact (emit_requires_alphabet _ _ _ _ h).1
  · have := tick_requires_alphabet _ h
    simpa [isAlphabet] using this

/-- node lives over the variant that stamps the cache before the lookups -/
def runStampFirst (key : Nat) (s : St) (ops : List Op) : St :=
  ops.foldl (fun s o => match o with | .eval => (updateStampFirst key s).1 | o => step key s o) s

/-- stamping `lastAccess` before the lookups breaks the statement: a node outside the committee whose
first committee lookup fails is then served the zero-valued index 0 from the "fresh" cache -/
theorem stamp_first_counterexample :
    ¬ (∀ (ops : List Op), 0 ≤ alphabetIndexOf (updateStampFirst 0 (runStampFirst 0 {} ops)).2 →
        (updateStampFirst 0 (runStampFirst 0 {} ops)).1.dirty = false) := by
  intro h
  have := h [.chain [0, 1, 2, 3] [1, 2, 3], .fail 0 1, .eval] (by decide)
  revert this
  decide

/-- non-vacuity: a member is served its position from the cache, a dismissed member is not after a reconnection -/
example : alphabetIndexOf (update 0 (run 0 {} [.chain [0, 1] [1, 0, 2], .eval, .wait 9])).2 = 1 := by decide
example : (update 0 (run 0 {} [.chain [0, 1] [1, 0, 2], .eval, .wait 9])).2.rpcIR = 0 := by decide
example : alphabetIndexOf (update 0 (run 0 {} [.chain [0, 1] [1, 0, 2], .eval, .chain [0, 1] [1, 2], .reset, .fail 0 1, .eval])).2 = -1 := by decide

end NeoFS.IRIndexer
