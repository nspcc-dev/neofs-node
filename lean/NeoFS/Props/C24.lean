import NeoFS.Model.Validate
import NeoFS.Lemmas.GuardChain
/-!
# C24 (partial) — the node hands to storage only self-consistent, authenticated objects

Theorems over `Model/Validate.lean` (`validatingTarget`) for every header, every payload, EVERY chunking of the
payload writes, every hash function and every position of a failing downstream write. The format validator is
abstracted to one boolean per check with an ideal signature scheme, so `consistent`/`authenticated` below are
conjunctions of those booleans: what is proved is that the streaming state machine lets nothing through that
fails one of them, that the bytes handed on are exactly the streamed bytes with the declared length and
checksum, and that a failed downstream write always surfaces.
-/
namespace NeoFS.Validate

variable {D : Type} [DecidableEq D]

/-- the header describes itself and the payload `p` -/
def consistent (H : List Nat → D) (h : Hdr D) (p : List Nat) : Prop :=
  h.versionOk = true ∧ h.cidSet = true ∧ h.cnrKnown = true ∧ h.attrsOk = true ∧ h.expOk = true ∧
    h.idSet = true ∧ h.idMatches = true ∧ p.length = h.size ∧ h.csum = some (H p)

/-- the signature authenticates the owner (or session issuer) -/
def authenticated (h : Hdr D) : Prop := h.ownerSet = true ∧ h.sigOk = true ∧ h.ownerIsSigner = true

theorem ite_error_eq_ok {ε α : Type} {p : Prop} [Decidable p] {e : ε} {x : Except ε α} {a : α} :
    (if p then .error e else x) = .ok a ↔ ¬p ∧ x = .ok a := ite_eq_iff_of_ne nofun

theorem ite_some_eq_none {α : Type} {p : Prop} [Decidable p] {a : α} {x : Option α} :
    (if p then some a else x) = none ↔ ¬p ∧ x = none := ite_eq_iff_of_ne nofun

theorem write_ok (c : Cfg) (h : Hdr D) (failAt : Nat) (s s' : St) (p : List Nat) (hw : write c h failAt s p = .ok s') :
    s'.down = s.down ++ p ∧ s'.written = s.written + p.length ∧ s'.writes = s.writes + 1 ∧
      (c.unprep = false → s'.hashed = s.hashed ++ p) ∧ failAt ≠ s.writes + 1 := by
  unfold write at hw
  rw [ite_error_eq_ok] at hw
  obtain ⟨-, hw⟩ := hw
  by_cases h2 : failAt = s.writes + 1
  · rw [if_pos h2, ite_error_eq_ok] at hw
    cases hw.2
  · simp only [if_neg h2, ite_error_eq_ok, Except.ok.injEq] at hw
    obtain ⟨-, rfl⟩ := hw
    exact ⟨rfl, rfl, rfl, fun hu => by simp [hu], h2⟩

theorem writes_ok (c : Cfg) (h : Hdr D) (failAt : Nat) : ∀ (ps : List (List Nat)) (k : Nat) (s s' : St),
    writes c h failAt ps k s = .ok s' →
    s'.down = s.down ++ ps.flatten ∧ s'.written = s.written + ps.flatten.length ∧ s'.writes = s.writes + ps.length ∧
      (c.unprep = false → s'.hashed = s.hashed ++ ps.flatten) ∧ (failAt ≤ s.writes ∨ s'.writes < failAt) := by
  intro ps
  induction ps with
  | nil =>
    intro k s s' hw
    cases hw
    exact ⟨(List.append_nil _).symm, rfl, rfl, fun _ => (List.append_nil _).symm, (Nat.lt_or_ge _ _).symm⟩
  | cons p ps ih =>
    intro k s s' hw
    rw [writes] at hw
    split at hw
    · cases hw
    · next s1 hw1 =>
      obtain ⟨a1, a2, a3, a4, a5⟩ := write_ok c h failAt s s1 p hw1
      obtain ⟨b1, b2, b3, b4, b5⟩ := ih (k + 1) s1 s' hw
      rw [a1] at b1; rw [a2] at b2; rw [a3] at b3 b5
      simp only [List.flatten_cons, List.length_append, List.length_cons, ← List.append_assoc, ← Nat.add_assoc]
      exact ⟨b1, b2, b3.trans (Nat.add_right_comm _ _ _), fun hu => by rw [b4 hu, a4 hu],
        b5.imp_left fun hle => Nat.le_of_lt_succ (Nat.lt_of_le_of_ne hle a5)⟩

theorem writes_ok_init {c : Cfg} {h : Hdr D} {failAt k : Nat} {chunks : List (List Nat)} {s : St}
    (hw : writes c h failAt chunks k {} = .ok s) :
    s.down = chunks.flatten ∧ s.written = chunks.flatten.length ∧ s.writes = chunks.length ∧
      (c.unprep = false → s.hashed = chunks.flatten) ∧ (failAt = 0 ∨ s.writes < failAt) := by
  simpa using writes_ok c h failAt chunks k {} s hw

omit [DecidableEq D] in
theorem writeHeader_ok {c : Cfg} {h : Hdr D} {s0 : St} (hh : writeHeader c h = .ok s0) :
    s0 = {} ∧ fmtAccept c.unprep h = true ∧ quotaOk c h.size = true ∧ (c.unprep = false → h.size ≤ c.maxSz) := by
  simp only [writeHeader, ite_error_eq_ok, Except.ok.injEq] at hh
  obtain ⟨g1, -, g3, g4, rfl⟩ := hh
  refine ⟨rfl, by simpa using g3, by simpa using g4, fun hu => ?_⟩
  simpa [hu] using g1

theorem close_ok {c : Cfg} {H : List Nat → D} {h : Hdr D} {s s' : St} (hc : close c H h s = .ok s') :
    s' = s ∧ (c.unprep = false → s.written = h.size ∧ h.csum = some (H s.hashed)) := by
  unfold close at hc
  by_cases hu : c.unprep = true
  · rw [if_pos hu] at hc
    cases hc
    exact ⟨rfl, fun h => by rw [h] at hu; cases hu⟩
  · rw [if_neg hu, ite_error_eq_ok, ite_error_eq_ok] at hc
    obtain ⟨c1, c2, hc⟩ := hc
    cases hc
    exact ⟨rfl, fun _ => ⟨(Decidable.not_not.mp c1).symm, (Decidable.not_not.mp c2).symm⟩⟩

theorem stream_ok {c : Cfg} {H : List Nat → D} {h : Hdr D} {failAt : Nat} {chunks : List (List Nat)} {s : St}
    (hs : stream c H h failAt chunks = .ok s) :
    writeHeader c h = .ok {} ∧ writes c h failAt chunks 1 {} = .ok s ∧ close c H h s = .ok s := by
  unfold stream at hs
  split at hs
  next => cases hs
  next s0 hh =>
    split at hs
    next => cases hs
    next s1 hw =>
      split at hs
      next => cases hs
      next s2 hc =>
        cases hs
        obtain rfl := (writeHeader_ok hh).1
        obtain rfl := (close_ok hc).1
        exact ⟨hh, hw, hc⟩

/-- **Prepared objects.** If the whole stream is accepted then the format checks all held, the size is within
the limit and the quota, and the next target received exactly the streamed bytes, whose length and hash are
the declared ones — for every chunking. -/
theorem stored_implies_valid (c : Cfg) (H : List Nat → D) (h : Hdr D) (failAt : Nat) (chunks : List (List Nat)) (s : St)
    (hp : c.unprep = false) (hs : stream c H h failAt chunks = .ok s) :
    consistent H h chunks.flatten ∧ authenticated h ∧ s.down = chunks.flatten ∧ h.size ≤ c.maxSz ∧
      quotaOk c h.size = true := by
  obtain ⟨hh, hw, hc⟩ := stream_ok hs
  obtain ⟨-, hfmt, hq, hmax⟩ := writeHeader_ok hh
  obtain ⟨hdown, hwritten, -, hhashed, -⟩ := writes_ok_init hw
  obtain ⟨hsize, hcsum⟩ := (close_ok hc).2 hp
  simp only [hp, fmtAccept, Bool.false_or, Bool.and_eq_true] at hfmt
  obtain ⟨⟨⟨⟨⟨⟨f1, f2⟩, f3⟩, f4⟩, f5⟩, f6⟩, ⟨⟨f7, f8⟩, f9⟩, f10⟩ := hfmt
  exact ⟨⟨f1, f2, f4, f5, f6, f7, f8, hwritten ▸ hsize, hhashed hp ▸ hcsum⟩, ⟨f3, f9, f10⟩, hdown, hmax hp, hq⟩

/-- **Unprepared objects** (the node slices and signs): an accepted stream hands on exactly the streamed
bytes, and the user-settable header fields passed the format checks. -/
theorem unprepared_stored_is_streamed (c : Cfg) (H : List Nat → D) (h : Hdr D) (failAt : Nat) (chunks : List (List Nat))
    (s : St) (hp : c.unprep = true) (hs : stream c H h failAt chunks = .ok s) :
    s.down = chunks.flatten ∧ fmtAccept true h = true := by
  obtain ⟨hh, hw, -⟩ := stream_ok hs
  exact ⟨(writes_ok_init hw).1, hp ▸ (writeHeader_ok hh).2.1⟩

/-- **A failed downstream write always surfaces**: if the next target fails one of the writes of the stream,
the stream is not accepted (prepared or not, whatever the chunking). -/
theorem downstream_error_surfaces (c : Cfg) (H : List Nat → D) (h : Hdr D) (failAt : Nat) (chunks : List (List Nat))
    (h1 : 1 ≤ failAt) (h2 : failAt ≤ chunks.length) : ∀ s, stream c H h failAt chunks ≠ .ok s := by
  intro s hs
  obtain ⟨-, -, hn, -, hf⟩ := writes_ok_init (stream_ok hs).2.1
  omega

/-- **Chunking is irrelevant** for what is handed on: two accepted streams of the same bytes hand on the same bytes. -/
theorem chunking_irrelevant (c : Cfg) (H : List Nat → D) (h : Hdr D) (f1 f2 : Nat) (ch1 ch2 : List (List Nat)) (s1 s2 : St)
    (he : ch1.flatten = ch2.flatten) (hp : c.unprep = false)
    (h1 : stream c H h f1 ch1 = .ok s1) (h2 : stream c H h f2 ch2 = .ok s2) : s1.down = s2.down := by
  rw [(stored_implies_valid c H h f1 ch1 s1 hp h1).2.2.1, (stored_implies_valid c H h f2 ch2 s2 hp h2).2.2.1, he]

/-! ### Authentication does not depend on what the node validated before (shared session-token cache) -/

/-- every cached verdict is the verdict of the token it is cached for -/
def CacheOK (T : Nat → Tok) (c : Cache) : Prop := ∀ e ∈ c, e.2 = (T e.1).sigValid

theorem CacheOK.nil {T : Nat → Tok} : CacheOK T [] := by intro e he; cases he

theorem CacheOK.cons {T : Nat → Tok} {k : Nat} {v : Bool} {c : Cache} (hv : v = (T k).sigValid) (h : CacheOK T c) :
    CacheOK T ((k, v) :: c) := List.forall_mem_cons.mpr ⟨hv, h⟩

/-- the memoised token check answers exactly what the token check would answer, whatever is cached, for every
capacity (eviction included), and keeps the cache truthful -/
theorem cacheAuth_sound (T : Nat → Tok) (cap : Nat) (c : Cache) (k : Nat) (h : CacheOK T c) :
    (cacheAuth cap c k (T k).sigValid).2 = (T k).sigValid ∧ CacheOK T (cacheAuth cap c k (T k).sigValid).1 := by
  unfold cacheAuth
  cases hl : c.lookup k with
  | some v =>
    obtain ⟨l₁, l₂, rfl, -⟩ := List.lookup_eq_some_iff.mp hl
    have hv : v = (T k).sigValid := h (k, v) (List.mem_append_right _ List.mem_cons_self)
    exact ⟨hv, CacheOK.cons hv fun e he => h e (List.mem_filter.mp he).1⟩
  | none => exact ⟨rfl, fun e he => CacheOK.cons rfl h e (List.mem_of_mem_take he)⟩

/-- **One object.** With a truthful cache the verdict of `AuthenticateObject` is the verdict a node that has never
seen any token would give, and the cache stays truthful. -/
theorem auth_verdict_cache_independent (T : Nat → Tok) (cap : Nat) (c : Cache) (o : AObj) (h : CacheOK T c) :
    (authenticate T cap c o).2 = (authenticate T 0 [] o).2 ∧ CacheOK T (authenticate T cap c o).1 := by
  unfold authenticate
  cases o.tok with
  | none =>
    simp only [apply_ite Prod.snd, apply_ite Prod.fst, ite_self]
    exact ⟨trivial, h⟩
  | some k =>
    obtain ⟨h1, h2⟩ := cacheAuth_sound T cap c k h
    simp only [apply_ite Prod.snd, apply_ite Prod.fst, ite_self, h1, (cacheAuth_sound T 0 [] k CacheOK.nil).1]
    exact ⟨trivial, by split <;> assumption⟩

/-- **Sequences.** Whatever objects (with whatever tokens, V1 or V2, authentic or not, for whatever owners) one
validator with one shared cache of any capacity has validated before, the verdict of every object of a sequence
is the verdict it gets from a fresh validator: validation has no memory. -/
theorem authSeq_history_independent (T : Nat → Tok) (cap : Nat) : ∀ (objs : List AObj) (c : Cache), CacheOK T c →
    authSeq T cap c objs = objs.map fun o => (authenticate T 0 [] o).2 := by
  intro objs
  induction objs with
  | nil => intro c _; rfl
  | cons o os ih =>
    intro c h
    obtain ⟨h1, h2⟩ := auth_verdict_cache_independent T cap c o h
    rw [authSeq, h1, ih _ h2, List.map_cons]

theorem auth_last_verdict_history_independent (T : Nat → Tok) (cap : Nat) (hist : List AObj) (o : AObj) :
    authSeq T cap [] (hist ++ [o]) = authSeq T cap [] hist ++ [(authenticate T 0 [] o).2] := by
  simp only [authSeq_history_independent T cap _ [] CacheOK.nil, List.map_append, List.map_singleton]

/-- **An accepted object is bound to its owner**, after any history: its signature verifies, and either the owner
signed it, or it carries an authentic session token issued BY THE OWNER for the signing key. -/
theorem authenticated_owner_bound (T : Nat → Tok) (cap : Nat) (hist : List AObj) (o : AObj)
    (h : (authSeq T cap [] (hist ++ [o])).getLast? = some none) :
    o.sigOk = true ∧
      match o.tok with
      | none => o.signer = o.owner
      | some k => (T k).sigValid = true ∧ (T k).subject = o.signer ∧ (T k).issuer = o.owner := by
  rw [auth_last_verdict_history_independent, List.getLast?_append, List.getLast?_singleton, Option.some_or,
    Option.some.injEq, authenticate] at h
  generalize o.tok = t at h ⊢
  cases t with
  | none => simpa [apply_ite Prod.snd, ite_some_eq_none] using h
  | some k =>
    simp only [apply_ite Prod.snd, cacheAuth, List.lookup_nil, ite_some_eq_none, and_true, Bool.not_eq_true,
      Bool.not_eq_false', bne_iff_ne, ne_eq, Decidable.not_not] at h
    exact ⟨h.2.2.2, h.2.1, h.1, h.2.2.1⟩

/-! ### Nothing with an invalid format (header or content) reaches a node's local storage -/

theorem putChecks_inContainer (localOnly : Bool) (o : EObj) : putChecks true localOnly o = replicateChecks o := by
  simp [putChecks, closeChecks, replicateChecks]

theorem putChecks_outsider_localOnly (o : EObj) : putChecks false true o = .error .policy := rfl

theorem replicateChecks_ok_iff (o : EObj) : replicateChecks o = .ok () ↔ o.hdrOk = true ∧ o.contentOk = true := by
  unfold replicateChecks
  cases o.hdrOk <;> cases o.contentOk <;> simp

theorem cluster_cases (r : Route) (nodeSeals : Bool) (o : EObj) :
    (o.hdrOk = true ∧ o.contentOk = true ∧
      cluster r nodeSeals o =
        match r with
        | .put | .relay => (.ok (), [1, 2])
        | .putLocal => (.ok (), if nodeSeals && o.typ == .regular then [1, 2] else [1])
        | .relayLocal => (.error .policy, [])
        | .replicate => (.ok (), [1])) ∨
      ∃ e, cluster r nodeSeals o = (.error e, []) := by
  cases hc : replicateChecks o with
  | ok _ =>
    obtain ⟨h1, h2⟩ := (replicateChecks_ok_iff o).mp hc
    refine .inl ⟨h1, h2, ?_⟩
    cases r <;> simp [cluster, putChecks, closeChecks, replicateChecks, h1, h2, okNodes]
    split <;> rfl
  | error e =>
    right
    cases r with
    | put | putLocal | replicate => exact ⟨e, by simp [cluster, putChecks_inContainer, hc]⟩
    | relay =>
      -- the outsider may let it pass (it skips content checks); both container nodes then refuse it
      cases hout : putChecks false false o with
      | error e' => exact ⟨e', by simp [cluster, hout]⟩
      | ok _ => exact ⟨.fail, by simp [cluster, hout, putChecks_inContainer, hc, okNodes]⟩
    | relayLocal => exact ⟨.policy, rfl⟩

/-- **Every entry point.** Whatever the object type and however the request enters the cluster (PUT at a container
node for the network or local-only, PUT at a node outside the container that forwards it, `Replicate`): a node
whose local storage received the object had the header AND the type-specific content validated. -/
theorem stored_implies_format_valid (r : Route) (nodeSeals : Bool) (o : EObj) (n : Nat) (h : n ∈ (cluster r nodeSeals o).2) :
    o.hdrOk = true ∧ o.contentOk = true := by
  rcases cluster_cases r nodeSeals o with ⟨h1, h2, -⟩ | ⟨e, he⟩
  · exact ⟨h1, h2⟩
  · rw [he] at h; cases h

/-- the sender is told `ok` only if a container node stored the object (except for the refused route) -/
theorem cluster_ok_implies_stored (r : Route) (nodeSeals : Bool) (o : EObj) (h : (cluster r nodeSeals o).1 = .ok ()) :
    r = .relayLocal ∨ (cluster r nodeSeals o).2 ≠ [] := by
  rcases cluster_cases r nodeSeals o with ⟨-, -, ht⟩ | ⟨e, he⟩
  · rw [ht]
    cases r <;> simp
    split <;> simp
  · rw [he] at h; cases h

/-- a node outside the container may skip the content check of a tombstone or link only because it stores nothing -/
theorem outsider_stores_nothing (nodeSeals : Bool) (o : EObj) :
    3 ∉ (cluster .relay nodeSeals o).2 ∧ (cluster .relayLocal nodeSeals o).2 = [] := by
  refine ⟨?_, rfl⟩
  rcases cluster_cases .relay nodeSeals o with ⟨-, -, ht⟩ | ⟨e, he⟩
  · rw [ht]; simp
  · rw [he]; exact List.not_mem_nil

/-! ### Non-vacuity -/

private def goodHdr (size : Nat) (p : List Nat) : Hdr (List Nat) :=
  { size := size, csum := some p, versionOk := true, cidSet := true, ownerSet := true, cnrKnown := true, attrsOk := true,
    expOk := true, idSet := true, idMatches := true, sigOk := true, ownerIsSigner := true }

private def cfg0 : Cfg := { unprep := false, maxSz := 100, quota := some 10, rep := 1 }

private def verdict (r : Except (Nat × Err) St) : Option (Nat × Err) :=
  match r with
  | .ok _ => none
  | .error e => some e

example : verdict (stream cfg0 id (goodHdr 3 [1, 2, 3]) 0 [[1], [], [2, 3]]) = none := by decide
example : verdict (stream cfg0 id (goodHdr 3 [1, 2, 3]) 0 [[1, 2], [3, 4]]) = some (2, .size) := by decide
example : verdict (stream cfg0 id (goodHdr 3 [1, 2, 4]) 0 [[1, 2, 3]]) = some (2, .checksum) := by decide
example : verdict (stream cfg0 id { goodHdr 3 [1, 2, 3] with sigOk := false } 0 [[1, 2, 3]]) = some (0, .format) := by decide
example : verdict (stream { cfg0 with unprep := true } id (goodHdr 0 []) 2 [[1], [2]]) = some (2, .down) := by decide

private def tokTable : Nat → Tok
  | 1 => { issuer := 1, subject := 3, sigValid := true }    -- Alice's session for the gateway key
  | 2 => { issuer := 2, subject := 3, sigValid := true }    -- Bob's
  | _ => { issuer := 1, subject := 3, sigValid := false }   -- forged token

/-- a legit object of Alice's session, then the same token on an object owned by Bob, then the legit one again -/
example : authSeq tokTable 2 []
    [{ owner := 1, signer := 3, sigOk := true, tok := some 1 }, { owner := 2, signer := 3, sigOk := true, tok := some 1 },
     { owner := 1, signer := 3, sigOk := true, tok := some 1 }] = [none, some .sessionOwner, none] := by decide
example : authSeq tokTable 1 []
    [{ owner := 1, signer := 3, sigOk := true, tok := some 9 }, { owner := 2, signer := 3, sigOk := true, tok := some 2 },
     { owner := 1, signer := 1, sigOk := true, tok := none }] = [some .sessionToken, none, none] := by decide
example : cluster .relay false { typ := .tombstone, hdrOk := true, contentOk := false } = (.error .fail, []) := rfl
example : cluster .relay false { typ := .tombstone, hdrOk := true, contentOk := true } = (.ok (), [1, 2]) := rfl
example : cluster .replicate false { typ := .link, hdrOk := true, contentOk := false } = (.error .content, []) := rfl
example : cluster .putLocal true { typ := .regular, hdrOk := true, contentOk := true } = (.ok (), [1, 2]) := rfl

end NeoFS.Validate
