import NeoFS.Gen.Handlers
import NeoFS.Lemmas.Handlers
import NeoFS.Model.CtlAuth
import NeoFS.Model.CtlConc
import NeoFS.Lemmas.CtlConc
import NeoFS.Gen.CtlShared
/-!
# C32 — control-plane requests run only when signed by an authorised key

Every method of `control.ControlServiceServer` (storage node) and of the inner ring's `ControlServiceServer`
is regenerated into `Gen.controlHandlers` / `Gen.irControlHandlers` on every run (a new method appears
automatically). `isValidRequest` is a package-local helper, so it is inlined into every handler; what the
checker sees of it is the call of `neofscrypto.Signature.Verify` (`Tag.ctlSig`) and that its error result
decides whether the handler goes on. The allowed-key scan inside it is covered by the hand model
`CtlAuth.isValidRequest` (`isValid_iff`), tied to the code by the dynamic run with five request kinds.
-/
namespace NeoFS.C32
open NeoFS.Handlers

/-- Any effect of a control handler — every call into the engine, node state, health checker, notary manager,
placement, replicator — needs a signature verification whose latest answer is `pass`. The class `respond`, which
this policy lets through, does not occur there (`classify` in harness/extract/rules.go makes every effect `ctl`). -/
def ctlPolicyV : Eff → (Tag → Option Out) → Bool := fun e g =>
  match e with
  | .respond => true
  | _ => g .ctlSig == some .pass

def ctlPolicy : Policy := Policy.ofView ctlPolicyV

theorem control_handlers_checked :
    (∀ h ∈ Gen.controlHandlers, checker ctlPolicy h.2 = true) ∧
    (∀ h ∈ Gen.irControlHandlers, checker ctlPolicy h.2 = true) := by
  decide +kernel

/-- **C32, static part.** On every run of every control service method of the storage node and of the inner
ring, every effect is preceded by a verification of the request signature that succeeded. -/
theorem control_effects_follow_signature_check :
    ∀ h ∈ Gen.controlHandlers ++ Gen.irControlHandlers, ∀ (evs : List Event) (x : Option Nat),
      Run allOuts h.2 St.init evs x → ∀ (pre post : List Event) (e : Eff), evs = pre ++ Event.effect e :: post →
        ctlPolicyV e (lastOutcomes pre) = true := by
  intro h hh evs x hr pre post e hs
  have hc := (List.mem_append.mp hh).elim (control_handlers_checked.1 h) (control_handlers_checked.2 h)
  exact checker_sound_view hc hr hs

/-- The failed verification is final: no effect other than the answer happens while it stands denied. -/
theorem denied_signature_no_effect :
    ∀ h ∈ Gen.controlHandlers ++ Gen.irControlHandlers, ∀ (evs : List Event) (x : Option Nat),
      Run allOuts h.2 St.init evs x → ∀ (pre post : List Event) (e : Eff), evs = pre ++ Event.effect e :: post →
        lastOutcomes pre .ctlSig = some .deny → e = .respond := by
  intro h hh evs x hr pre post e hs hd
  have hp := control_effects_follow_signature_check h hh evs x hr pre post e hs
  cases e with
  | respond => rfl
  | _ => simp [ctlPolicyV, hd] at hp

open NeoFS.CtlAuth in
/-- `isValidRequest` accepts exactly the requests that carry a signature by a configured key that verifies
over the body (for every allowed-key list and every request). -/
theorem isValid_iff (allowed : List Nat) (r : Req) :
    isValidRequest allowed r = .ok ↔
      r.hasSig = true ∧ r.key ∈ allowed ∧ r.bodyMarshals = true ∧ r.keyDecodes = true ∧ r.sigValid = true := by
  rw [← List.contains_iff_mem]
  unfold isValidRequest
  cases r.hasSig
  · simp
  cases allowed.contains r.key
  · simp
  cases r.bodyMarshals
  · simp
  cases r.keyDecodes
  · simp
  cases r.sigValid <;> simp

/-- Non-vacuity: in every control handler the checker finds a real effect when the signature verifies, none is a stub. -/
example : (Gen.controlHandlers ++ Gen.irControlHandlers).all (fun h => reachesEffect [] h.2) = true := by decide +kernel
example : checker ctlPolicy (.seq (.eff .ctl) (.chk .ctlSig)) = false := by decide
example : CtlAuth.isValidRequest [1] { hasSig := true, key := 2, sigValid := true } = .disallowedKey := by decide

/-! ## One server, many requests in flight (`Model/CtlConc.lean`, op `crace`)

The verdict of a control request is a function of (body, signature, configured keys) — whatever other requests the
same server is serving and however their steps interleave. -/

section Concurrent
open NeoFS.CtlAuth NeoFS.CtlConc

/-- **C32, concurrent part.** One server, any set of requests in flight, ANY interleaving of their atomic steps:
whenever a request has its verdict, it is the verdict `isValidRequest` gives to that request alone. -/
theorem concurrent_verdicts_are_sequential (allowed : List Nat) (reqs : Nat → CReq) (sch : List Nat) (j : Nat)
    (v : Verdict) (h : ((run .fresh allowed sch (init reqs)).ts j).pc = .done v) :
    v = isValidRequest allowed (seqView (reqs j)) := by
  rw [run_fresh_thread] at h
  exact iter_stepT_verdict allowed (reqs j) _ v h

/-- Every request the schedule lets make its five steps is decided, with the sequential verdict. -/
theorem scheduled_request_is_decided (allowed : List Nat) (reqs : Nat → CReq) (sch : List Nat) (j : Nat)
    (h : 5 ≤ sch.count j) :
    ((run .fresh allowed sch (init reqs)).ts j).pc = .done (isValidRequest allowed (seqView (reqs j))) := by
  rw [run_fresh_thread]
  exact iter_stepT_decided allowed (reqs j) h

/-- A request that carries a signature made over ANOTHER body is never accepted, whatever runs beside it — in
particular beside replays of the request the signature was copied from. -/
theorem forged_request_never_accepted (allowed : List Nat) (reqs : Nat → CReq) (sch : List Nat) (j k k' x : Nat)
    (hs : (reqs j).sig = some (k, .made k' x)) (hx : x ≠ (reqs j).body) :
    ((run .fresh allowed sch (init reqs)).ts j).pc ≠ .done .ok := by
  intro h
  have := concurrent_verdicts_are_sequential allowed reqs sch j .ok h
  have hv := ((isValid_iff allowed (seqView (reqs j))).mp this.symm).2.2.2.2
  simp [seqView, hs, verify] at hv
  exact hx hv.2

/-- A genuinely signed request of a configured key is accepted, whatever runs beside it. -/
theorem genuine_request_accepted (allowed : List Nat) (reqs : Nat → CReq) (sch : List Nat) (j k : Nat)
    (hs : (reqs j).sig = some (k, .made k (reqs j).body)) (hk : k ∈ allowed)
    (hm : (reqs j).marshals = true) (hd : (reqs j).keyDecodes = true) (h : 5 ≤ sch.count j) :
    ((run .fresh allowed sch (init reqs)).ts j).pc = .done .ok := by
  rw [scheduled_request_is_decided allowed reqs sch j h]
  congr 1
  exact (isValid_iff allowed (seqView (reqs j))).mpr (by simp [seqView, hs, verify, hk, hm, hd])

/-- The schedule the engine forces (all requests marshal, then all verify) is one of these interleavings: the
driver's answer for op `crace` is the list of sequential verdicts. -/
theorem barrier_verdicts_are_sequential (allowed : List Nat) (l : List CReq) :
    barrierVerdicts .fresh allowed l = l.map (fun r => some (isValidRequest allowed (seqView r))) := by
  apply List.ext_getElem
  · simp [barrierVerdicts]
  · intro i h1 h2
    have hi : i < l.length := by simpa [barrierVerdicts] using h1
    have hc : 5 ≤ (barrierSchedule l.length).count i := by
      have hpos : 0 < (List.range l.length).count i := List.count_pos_iff.mpr (List.mem_range.mpr hi)
      simp only [barrierSchedule, List.count_append]
      omega
    have hd := scheduled_request_is_decided allowed (reqsOfList l) (barrierSchedule l.length) i hc
    have hr : reqsOfList l i = l[i] := by simp [reqsOfList, hi]
    simp [barrierVerdicts, verdictOf, hd, hr]

/-- **Regenerated tie of the model's step discipline.** In both control servers the authorisation path
(`isValidRequest` and whatever function of its package it calls) assigns, slices, takes the address of or hands out
NO field of the server and NO package-level variable, and no method of the server assigns a field the path reads:
all state that outlives a request is only read there — the discipline `fresh` of the model. -/
theorem auth_path_shares_nothing_mutable :
    Gen.CtlShared.storageNode.sharesNothingMutable = true ∧ Gen.CtlShared.innerRing.sharesNothingMutable = true ∧
    Gen.CtlShared.storageNode.mode = .fresh ∧ Gen.CtlShared.innerRing.mode = .fresh := by decide

/-- non-vacuity: a path that marshals into a buffer kept in the server is told apart -/
example : AuthPathUse.mode
    { funcs := ["Server.isValidRequest"]
      fieldsRead := ["allowedKeys", "buf"]
      fieldsWritten := ["buf"]
      fieldsAliased := ["buf"]
      pkgVarsRead := []
      pkgVarsWritten := []
      serverMethodsWritingReadFields := [] } = .scratch := by decide

/-- What the property excludes: were the signed data marshalled into ONE buffer owned by the server and read by the
verification after the marshalling step is over, a request with a signature copied from a genuine request (another
body) would be accepted when it runs beside a replay of the genuine one. Request 0 is the forged one, request 1
the genuine one; schedule: both scan and decide, 0 marshals, 1 marshals (over it), 0 decodes and verifies. -/
theorem scratch_buffer_allows_forgery :
    ∃ (sch : List Nat) (reqs : Nat → CReq),
      isValidRequest [1] (seqView (reqs 0)) = .invalidSignature ∧
      ((run .scratch [1] sch (init reqs)).ts 0).pc = .done .ok :=
  ⟨[0, 1, 0, 1, 0, 1, 0, 0], reqsOfList [{ body := 2, sig := some (1, .made 1 1) }, { body := 1, sig := some (1, .made 1 1) }],
    by decide, by decide⟩

/-- the same two requests under the same schedule in the code as it is -/
example : ((run .fresh [1] [0, 1, 0, 1, 0, 1, 0, 0] (init (reqsOfList
    [{ body := 2, sig := some (1, .made 1 1) }, { body := 1, sig := some (1, .made 1 1) }]))).ts 0).pc
    = .done .invalidSignature := by decide
example : barrierVerdicts .fresh [1, 3] ((["g1", "g2", "fo", "wk", "ns", "bs"].filterMap raceReq)) =
    [some .ok, some .ok, some .invalidSignature, some .disallowedKey, some .missingSignature, some .invalidSignature] := by
  decide
/-- under the barrier schedule the scratch-buffer discipline gives the verdict of whoever marshalled last -/
example : barrierVerdicts .scratch [1, 3] ((["fo", "g1"].filterMap raceReq)) = [some .ok, some .ok] := by decide

end Concurrent

end NeoFS.C32
