import NeoFS.Props.C20
/-!
# C08 — an object locked through the engine stays retrievable until the lock expires

Statuses live per shard: a lock protects the object on the shards whose metabase indexes the lock object.
Proved here, for every shard state and every epoch at which the lock is unexpired (`Shard.Protected`: the
shard has a metabase, indexes object and a live lock for it, holds its blob, no mark on the object):

* a protected object is served by its shard (`protected_served`) and, through `get_finds_held_object` (C20),
  by the engine for every order as long as no other shard reports it removed or expired;
* a tombstone for it is rejected by that shard and leaves the shard's index, marks and the object's blob
  untouched (`tombstone_rejected_keeps`), so protection survives every tombstone attempt;
* the engine refuses a tombstone for an object that ANY shard with a readable metabase reports locked before
  touching any shard (`engine_rejects_tombstone_of_locked`, the repaired defect: before the repair the
  broadcast wrote the target's garbage mark on the shards visited before the refusing one and the rollback
  left it there — `rollback_left_garbage`);
* a GC pass over the shard's marks and an epoch change below the lock's expiration keep the protection
  (`gc_marks_keeps_protected`, `protected_epoch`).

NOT proved: the induction over all engine histories (each step theorem is per operation of one shard).
The full statement is false for the current code when the lock did not reach the shard that holds the object
(`C08_counterexample`): recorded as a known finding.
-/
namespace NeoFS.Engine

/-- shard `s` protects object `o` by the lock object `l` at epoch `ep` -/
structure Shard.Protected (s : Shard) (o l : Obj) (ep : Nat) : Prop where
  hasMeta : s.mode.noMeta = false
  regular : o.kind = .reg
  indexed : s.find o.id = some o
  blob : s.blob o.id = some o
  lockIn : l ∈ s.idx
  lockKind : l.kind = .lock
  lockTarget : l.target = o.id
  lockLive : Shard.expiredObj l ep = false
  lockClean : s.inGarbage l.id = .avail
  clean : s.inGarbage o.id = .avail

theorem Shard.Protected.locked {s : Shard} {o l : Obj} {ep : Nat} (h : s.Protected o l ep) :
    s.locked o.id ep = true := by
  unfold Shard.locked
  rw [List.any_eq_true]
  exact ⟨l, h.lockIn, by simp [h.lockKind, h.lockTarget, h.lockLive, h.lockClean]⟩

theorem Shard.Protected.status {s : Shard} {o l : Obj} {ep : Nat} (h : s.Protected o l ep) :
    s.status o.id ep = .avail := by
  unfold Shard.status
  rw [h.locked]
  simp [h.clean]

/-- **A protected object is served by its shard** (unless the blob read itself fails): expiration of the
object, were it to pass, does not matter while the lock lives. -/
theorem protected_served (s : Shard) (o l : Obj) (ep : Nat) (h : s.Protected o l ep) (hr : s.failR = false) :
    s.holds o.id ep o :=
  ⟨hr, h.blob, Or.inr ⟨h.status, by rw [h.indexed]; rfl⟩⟩

/-- hence the engine returns it for EVERY order, whatever modes and failures the other shards have, as long
as no other shard reports it removed or expired (C20) -/
theorem protected_retrievable (e : Eng) (ord : List Nat) (hnd : ord.Nodup) (i : Nat) (s : Shard) (o l : Obj)
    (hi : i ∈ ord) (hs : e.shards[i]? = some s) (hp : s.Protected o l e.epoch) (hr : s.failR = false)
    (hnorem : ∀ j ∈ ord, ∀ t, e.shards[j]? = some t → t.mode.noMeta = false →
      t.status o.id e.epoch ≠ .tomb ∧ t.status o.id e.epoch ≠ .exp)
    (hsame : ∀ j ∈ ord, ∀ t o', e.shards[j]? = some t → t.blob o.id = some o' → o' = o) :
    (e.get o.id ord).2 = .ok o :=
  get_finds_held_object e o.id ord hnd i s o hi hs (protected_served s o l e.epoch hp hr) hnorem hsame

theorem Shard.metaPut_ts_locked (s : Shard) (t o : Obj) (ep : Nat) (hk : t.kind = .ts)
    (hnew : s.find t.id = none) (hclean : s.inGarbage t.id = .avail) (hfo : s.find t.target = some o)
    (hreg : o.kind = .reg) (hlk : s.locked t.target ep = true) : s.metaPut t ep = .error .locked := by
  have hst : s.status t.id ep = .avail := by
    simp [Shard.status, Shard.expiredId, hnew, hclean]
  simp only [Shard.metaPut, hst, hnew, Option.isSome_none, Bool.false_eq_true, if_false, hk, hfo,
    Option.map_some, hreg, hlk, if_true]

/-- **A tombstone for a protected object is rejected by the shard and changes nothing there** except that the
tombstone's own blob (written first, removed on refusal) is absent afterwards. -/
theorem tombstone_rejected_keeps (s : Shard) (o l t : Obj) (ep : Nat) (h : s.Protected o l ep)
    (hk : t.kind = .ts) (ht : t.target = o.id) (hid : t.id ≠ o.id) (hnew : s.find t.id = none)
    (hclean : s.inGarbage t.id = .avail)
    (hw : s.mode.readOnly = false) (hf : s.failW = false) :
    (s.put t ep).2 = some .locked ∧ (s.put t ep).1.idx = s.idx ∧ (s.put t ep).1.garbage = s.garbage ∧
      (s.put t ep).1.blob o.id = some o := by
  -- index, marks and locks do not depend on the blob written first
  have hmp : ({ s with blobs := Shard.insertObj t s.blobs } : Shard).metaPut t ep = .error .locked :=
    Shard.metaPut_ts_locked _ t o ep hk hnew hclean (ht ▸ h.indexed) h.regular (ht ▸ h.locked)
  have hput : s.put t ep =
      ({ s with blobs := Shard.eraseId t.id (Shard.insertObj t s.blobs) }, some .locked) := by
    unfold Shard.put
    rw [if_neg (by rw [hw]; simp), if_neg (by rw [hf]; simp)]
    simp only
    rw [if_neg (by rw [h.hasMeta]; simp), hmp]
  rw [hput]
  refine ⟨rfl, rfl, rfl, ?_⟩
  show (Shard.eraseId t.id (Shard.insertObj t s.blobs)).find? (·.id == o.id) = some o
  rw [find_eraseId_of_ne _ hid]
  exact find_insertObj_of_find t s.blobs o.id o h.blob

/-- **A GC pass over the shard's marks keeps the protection**: `removeGarbage` deletes what carries a garbage
mark; neither the protected object nor its lock does. -/
theorem gc_marks_keeps_protected (s : Shard) (o l : Obj) (ep : Nat) (h : s.Protected o l ep) :
    (s.deleteIds s.garbage).Protected o l ep := by
  have ho := (s.inGarbage_eq_avail_iff o.id).mp h.clean
  have hl := (s.inGarbage_eq_avail_iff l.id).mp h.lockClean
  have hkeep : ∀ (lst : List Obj) (id : Nat), s.garbage.contains id = false →
      (lst.filter (fun y => !s.garbage.contains y.id)).find? (·.id == id) = lst.find? (·.id == id) := by
    intro lst id hc
    refine find_filter_of_imp lst _ _ fun y hy => ?_
    rw [show y.id = id by simpa using hy, hc]
    rfl
  have hing : ∀ id, s.tombstoned id = false → (s.deleteIds s.garbage).inGarbage id = .avail := by
    intro id ht
    have h1 : (s.deleteIds s.garbage).tombstoned id = false := by
      rw [Bool.eq_false_iff] at ht ⊢
      intro hc
      obtain ⟨x, hx, hp⟩ := List.any_eq_true.mp hc
      exact ht (List.any_eq_true.mpr ⟨x, (List.mem_filter.mp hx).1, hp⟩)
    have h2 : (s.deleteIds s.garbage).garbage = [] :=
      List.filter_eq_nil_iff.mpr fun g hg => by simp [hg]
    exact (Shard.inGarbage_eq_avail_iff _ id).mpr ⟨h1, by rw [h2]; rfl⟩
  exact {
    hasMeta := h.hasMeta
    regular := h.regular
    indexed := (hkeep s.idx o.id ho.2).trans h.indexed
    blob := (hkeep s.blobs o.id ho.2).trans h.blob
    lockIn := List.mem_filter.mpr ⟨h.lockIn, by rw [hl.2]; rfl⟩
    lockKind := h.lockKind
    lockTarget := h.lockTarget
    lockLive := h.lockLive
    lockClean := hing l.id hl.1
    clean := hing o.id ho.1 }

/-- **Epochs below the lock's expiration keep the protection** (the object's own expiration may pass). -/
theorem protected_epoch (s : Shard) (o l : Obj) (ep ep' : Nat) (h : s.Protected o l ep)
    (hl : Shard.expiredObj l ep' = false) : s.Protected o l ep' :=
  { h with lockLive := hl }

/-- neither a protected object nor its live lock passes the filter that `Shard.expiredList` sorts -/
theorem protected_not_collected (s : Shard) (o l : Obj) (ep : Nat) (h : s.Protected o l ep) :
    o ∉ s.idx.filter (fun x => x.exp != 0 && decide (x.exp < ep) && !s.locked x.id ep) ∧
    l ∉ s.idx.filter (fun x => x.exp != 0 && decide (x.exp < ep) && !s.locked x.id ep) := by
  constructor
  · intro hm
    have := (List.mem_filter.mp hm).2
    rw [h.locked] at this
    simp at this
  · intro hm
    have h2 := (List.mem_filter.mp hm).2
    have hlive := h.lockLive
    unfold Shard.expiredObj at hlive
    simp only [Bool.and_eq_true, bne_iff_ne, ne_eq, decide_eq_true_eq, Bool.not_eq_true'] at h2
    have h3 : (l.exp != 0) = true := by simpa using h2.1.1
    rw [h3] at hlive
    simp only [Bool.true_and, decide_eq_false_iff_not, Nat.not_lt] at hlive
    omega

theorem existsLoop_frame (id : Nat) : ∀ (ord : List Nat) (e : Eng) (j : Nat) (s : Shard),
    e.shards[j]? = some s → ∃ s', (existsLoop id ord e).1.shards[j]? = some s' ∧ s'.idx = s.idx ∧ s'.blobs = s.blobs ∧ s'.garbage = s.garbage := by
  intro ord
  induction ord with
  | nil => intro e j s h; exact ⟨s, h, rfl, rfl, rfl⟩
  | cons i rest ih =>
    intro e j s h
    unfold existsLoop
    split
    · exact ih e j s h
    · split
      · exact ⟨s, h, rfl, rfl, rfl⟩
      · exact ⟨s, h, rfl, rfl, rfl⟩
      · exact ⟨s, h, rfl, rfl, rfl⟩
      · rename_i er _ _ _ _
        obtain ⟨n, m, h1, _⟩ := report_shard e i j er s h
        exact (ih (e.report i er) j _ h1 :)
      · exact ⟨s, h, rfl, rfl, rfl⟩
      · exact ih e j s h

/-- **The engine refuses a tombstone for an object that any visited shard reports locked, and no shard's index,
blob store or marks change** (repaired code): for every engine, every order of the existence probe and every
order of the broadcast. -/
theorem engine_rejects_tombstone_of_locked (e : Eng) (t : Obj) (ord bord : List Nat) (hk : t.kind = .ts)
    (hnew : (existsLoop t.id ord e).2 = .ok false)
    (hl : (existsLoop t.id ord e).1.anyLocked t.target bord = true) :
    (e.put t ord bord).2 = some .locked ∧
    ∀ (j : Nat) (s : Shard), e.shards[j]? = some s → ∃ s', (e.put t ord bord).1.shards[j]? = some s' ∧
      s'.idx = s.idx ∧ s'.blobs = s.blobs ∧ s'.garbage = s.garbage := by
  have hput : e.put t ord bord = ((existsLoop t.id ord e).1, some .locked) := by
    unfold Eng.put
    generalize hx : existsLoop t.id ord e = x at hnew hl
    obtain ⟨e1, r⟩ := x
    simp only at hnew hl
    subst hnew
    simp only [hk]
    unfold Eng.broadcast
    simp [hk, hl]
  rw [hput]
  exact ⟨rfl, fun j s h => existsLoop_frame t.id ord e j s h⟩

def ts5 : Obj := { id := 5, kind := .ts, target := 1, exp := 0 }

/-- the object on shard 1, its lock (accepted while shard 1 was read-only) on shard 0 only -/
def cexLock : Eng := { shards := [{ idx := [l7], blobs := [l7] }, { idx := [o1], blobs := [o1] }] }

/-- the defect that was repaired: the broadcast visiting shard 1 first wrote the garbage mark there, shard 0
refused, the rollback removed the tombstone but left the mark: the locked object was no longer found (and
the next GC pass deleted it); the repaired `put` refuses up front and changes nothing -/
theorem rollback_left_garbage :
    ((cexLock.broadcastRaw ts5 [1, 0]).2 = some .locked ∧
     ((cexLock.broadcastRaw ts5 [1, 0]).1.get 1 [0, 1]).2 = .err .notFound) ∧
    ((cexLock.put ts5 [0, 1] [1, 0]).2 = some .locked ∧
     ((cexLock.put ts5 [0, 1] [1, 0]).1.get 1 [0, 1]).2 = .ok o1) := by decide

/-- the property as stated: an object stored (with metadata) by some shard and locked on some shard is
retrievable while the lock is alive -/
def C08_full : Prop :=
  ∀ (e : Eng) (ord : List Nat) (o l : Obj) (i k : Nat) (s sl : Shard), ord.Nodup → i ∈ ord → k ∈ ord →
    e.shards[i]? = some s → s.mode.noMeta = false → s.find o.id = some o → s.blob o.id = some o →
    s.inGarbage o.id = .avail →
    e.shards[k]? = some sl → sl.locked o.id e.epoch = true →
    (e.get o.id ord).2 = .ok o

def o1e : Obj := { id := 1, kind := .reg, target := 0, exp := 2 }

/-- the witness: the lock reached shard 0 only (shard 1, which holds the object, was read-only when the lock
was broadcast); at epoch 3 the object's own expiration has passed and shard 1 reports it expired -/
def cexExpired : Eng :=
  { epoch := 3, shards := [{ idx := [l7], blobs := [l7] }, { idx := [o1e], blobs := [o1e] }] }

theorem C08_counterexample : ¬ C08_full := by
  intro h
  have := h cexExpired [0, 1] o1e l7 1 0 _ _ (by decide) (by decide) (by decide) rfl (by decide) (by decide)
    (by decide) (by decide) rfl (by decide)
  exact absurd this (by decide)

/-- The part of C08 that holds: with the lock on the shard that holds the object (`Shard.Protected`), and
no other shard reporting it removed or expired, the object is retrievable for every order
(`protected_retrievable` under the property's name); tombstone attempts, GC passes and epochs below the lock's expiration keep
`Protected` (step theorems above). -/
theorem locked_retrievable_partial (e : Eng) (ord : List Nat) (hnd : ord.Nodup) (i : Nat) (s : Shard) (o l : Obj)
    (hi : i ∈ ord) (hs : e.shards[i]? = some s) (hp : s.Protected o l e.epoch) (hr : s.failR = false)
    (hnorem : ∀ j ∈ ord, ∀ t, e.shards[j]? = some t → t.mode.noMeta = false →
      t.status o.id e.epoch ≠ .tomb ∧ t.status o.id e.epoch ≠ .exp)
    (hsame : ∀ j ∈ ord, ∀ t o', e.shards[j]? = some t → t.blob o.id = some o' → o' = o) :
    (e.get o.id ord).2 = .ok o :=
  protected_retrievable e ord hnd i s o l hi hs hp hr hnorem hsame

/-- non-vacuity: a protected object whose own expiration has passed, a tombstone attempt, a GC pass -/
example :
    let s : Shard := { idx := [o1e, l7], blobs := [o1e, l7] }
    s.Protected o1e l7 3 ∧ (s.put ts5 3).2 = some .locked ∧ (s.deleteIds s.garbage).get 1 3 false = .ok o1e := by
  refine ⟨⟨rfl, rfl, rfl, rfl, by decide, rfl, rfl, by decide, by decide, by decide⟩, by decide, by decide⟩

end NeoFS.Engine
