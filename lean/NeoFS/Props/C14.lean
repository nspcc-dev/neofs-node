import NeoFS.Lemmas.ShardMode
/-!
# C14 — read-only shard modes never change stored data

`Model/ShardMode.lean` follows the guards of the shard's operations; every guard and the mode predicates are the
facts `harness/extract` regenerates from the source into `Gen/ShardMode.lean` (stated in `Lemmas/ShardMode.lean`,
section "facts": a guard removed from the code makes its fact `false` and the proofs below stop checking).

Statements are about EVERY state satisfying `ROStable` (reported mode read-only, blobstor opened read-only,
write-cache in a read-only mode — exactly what a successful switch to a read-only mode establishes, theorem
`setMode_starts_period`) and EVERY sequence of operations: all modifying requests, all reads, the background jobs
(GC remover pass, flush-worker pass, new-epoch handler) as steps of the sequence, Restore, and switches between
read-only modes.  Helper lemmas: `Lemmas/ShardMode.lean`.
-/
namespace NeoFS.ShardMode
open NeoFS.Gen.ShardMode

/-! ### one step -/

/-- **Every modifying request fails with the read-only error** (only the REPORTED mode matters here) -/
theorem ro_rejects (s : St) (hm : isReadOnly s.mode = true) (o : Op) (ho : o.modifying = true) :
    step s o = (s, .readOnly) := by
  cases o with
  | put cn h => exact if_pos (ro_guard hm f_put)
  | delete cn ids => exact if_pos (ro_guard hm f_del)
  | mark cn ids r => exact if_pos (ro_guard hm f_mark)
  | inhumeCnr cn => exact if_pos (ro_guard hm f_inh)
  | deleteCnr cn => exact deleteContainer_ro s hm cn
  | revive cn id => exact if_pos (ro_guard hm f_rev)
  | restore cn hs => exact if_pos (ro_guard hm f_restore)
  | _ => cases ho

/-- an explicit write-cache flush is refused too (or there is no write-cache) -/
theorem ro_rejects_flush (s : St) (hm : isReadOnly s.mode = true) :
    step s .flush = (s, .readOnly) ∨ step s .flush = (s, .wcDisabled) := by
  show flushWriteCache s = _ ∨ flushWriteCache s = _
  unfold flushWriteCache
  cases s.hasWC
  · exact Or.inr rfl
  · exact Or.inl (if_pos (ro_guard hm f_flush))

/-- what a read-only period looks like once the components have been closed and opened again WITHOUT `Init`
(`StorageEngine.BlockExecution` / `ResumeExecution`): the shard still reports a read-only mode; blobstor, metabase
handle and write-cache may be opened for writing; what keeps the data still is that every request is refused on the
REPORTED mode and that the write-cache's background flush loop either sees a read-only cache or is not running. -/
structure ROQuiet (s : St) : Prop where
  mode : isReadOnly s.mode = true
  wc : s.hasWC = true → isReadOnly s.wcMode = true ∨ s.wcLoop = false

theorem ROStable.quiet {s : St} (hs : ROStable s) : ROQuiet s := ⟨hs.mode, fun h => Or.inl (hs.wc h)⟩

theorem flushTick_quiet (s : St) (hq : ROQuiet s) : flushTick s = s := by
  unfold flushTick
  cases hw : s.hasWC
  · rfl
  · cases hl : s.wcLoop
    · rfl
    · rcases hq.wc hw with h | h
      · rw [f_worker, show isRO s.wcMode = true from h]
        rfl
      · rw [hl] at h
        cases h

/-- **In a read-only period only a switch does anything**: requests are refused on the reported mode, the GC pass
returns at once, the flush workers stand still; the new-epoch handler records the epoch and nothing else. -/
theorem ro_quiet_idle (s : St) (hq : ROQuiet s) (o : Op) (ho : o.isSwitch = false) :
    (step s o).1 = { s with curEpoch := (step s o).1.curEpoch, metaEpoch := (step s o).1.metaEpoch } := by
  have hm := hq.mode
  cases o with
  | put _ _ | delete _ _ | mark _ _ _ | inhumeCnr _ | deleteCnr _ | revive _ _ | restore _ _ =>
    rw [ro_rejects s hm _ rfl]
  | flush => rcases ro_rejects_flush s hm with h | h <;> rw [h]
  | flushTick => rw [show (step s .flushTick).1 = s from flushTick_quiet s hq]
  | settle => rw [show (step s .settle).1 = s from flushTick_quiet s hq]
  | gc => rw [show (step s .gc).1 = s from removeGarbage_ro s hm]
  | epoch e => rw [show (step s (.epoch e)).1 = _ from handleEpoch_ro s hm e]
  | setMode _ _ | restart _ | reopen => cases ho
  | _ => rfl

/-- **The close/open cycle keeps the period**: stored data as it was, and — because `cache.Open` does not start the
flush loop (regenerated fact `wcOpen_startsFlushLoop = false`) — nothing is left running that could move it. -/
theorem reopen_quiet (s : St) (hm : isReadOnly s.mode = true) :
    (step s .reopen).1.persist = s.persist ∧ ROQuiet (step s .reopen).1 :=
  ⟨rfl, ⟨hm, fun _ => Or.inr (by simp [step, reopen])⟩⟩

/-- operations of a read-only period that may follow a close/open cycle: everything except a restart, an injected
failure and a switch to a mode WITHOUT metabase (that one flushes the cache into the blobstor the reopening left
writable: `C14_counterexample`) -/
def Op.staysQuiet : Op → Bool
  | .setMode m f => isReadOnly m && !noMetabase m && f == .none
  | .restart _ => false
  | _ => true

/-- which operations a history of a read-only period may contain at a point where the components are known to be
read-only (`st = true`: since the last switch no close/open cycle happened) or not -/
def Op.okIn (st : Bool) : Op → Bool
  | .setMode m f => isReadOnly m && f == .none && (st || !noMetabase m)
  | .restart _ => false
  | _ => true

/-- a switch to a read-only mode brings the components to it, a close/open cycle opens them for writing -/
def Op.nextStable (st : Bool) : Op → Bool
  | .reopen => false
  | .setMode .. => true
  | _ => st

theorem ro_period_step (s : St) (st : Bool) (hq : ROQuiet s) (hst : st = true → ROStable s) (o : Op)
    (ho : o.okIn st = true) :
    (step s o).1.persist = s.persist ∧ ROQuiet (step s o).1 ∧ (o.nextStable st = true → ROStable (step s o).1) := by
  cases hsw : o.isSwitch
  · have hn : o.nextStable st = st := by cases o <;> first | rfl | cases hsw
    rw [ro_quiet_idle s hq o hsw, hn]
    exact ⟨rfl, ⟨hq.mode, hq.wc⟩, fun h => ⟨(hst h).mode, (hst h).blob, (hst h).wc⟩⟩
  · cases o with
    | setMode m f =>
      obtain ⟨h12, h3⟩ := Bool.and_eq_true_iff.1 ho
      obtain ⟨h1, h2⟩ := Bool.and_eq_true_iff.1 h12
      cases eq_of_beq h2
      have : (setMode s m .none).1.persist = s.persist ∧ ROStable (setMode s m .none).1 := by
        cases st
        · exact setMode_ro_meta s m h1 ((Bool.not_eq_true' _).mp h3)
        · exact setMode_ro s (hst rfl) m h1
      exact ⟨this.1, this.2.quiet, fun _ => this.2⟩
    | restart _ => cases ho
    | reopen => exact ⟨rfl, (reopen_quiet s hq.mode).2, Bool.noConfusion⟩
    | _ => cases hsw

/-- **Frame.** Any operation of a read-only period — modifying request, read, GC remover pass, flush-worker pass,
new-epoch handler, Restore, switch to another read-only mode — leaves metabase, blobstor and write-cache content
exactly as they were, and the period continues. -/
theorem ro_step (s : St) (hs : ROStable s) (o : Op) (ho : o.staysRO = true) :
    (step s o).1.persist = s.persist ∧ ROStable (step s o).1 := by
  have h : o.okIn true = true ∧ o.nextStable true = true := by
    cases o with
    | setMode m f => exact ⟨by rw [Op.okIn, Bool.true_or, Bool.and_true]; exact ho, rfl⟩
    | restart _ | reopen => cases ho
    | _ => exact ⟨rfl, rfl⟩
  have := ro_period_step s true hs.quiet (fun _ => hs) o h.1
  exact ⟨this.1, this.2.2 h.2⟩

/-- **Frame over the reopened period.**  Any operation — modifying request, read, GC pass, flush-worker pass, a tick
of the real flush scheduler (`settle`), new-epoch handler, Restore, another close/open cycle, a switch to the
read-only mode with metabase — leaves metabase, blobstor and write-cache content exactly as they were. -/
theorem ro_quiet_step (s : St) (hs : ROQuiet s) (o : Op) (ho : o.staysQuiet = true) :
    (step s o).1.persist = s.persist ∧ ROQuiet (step s o).1 := by
  have h : o.okIn false = true := by
    cases o with
    | setMode m f =>
      obtain ⟨h12, h3⟩ := Bool.and_eq_true_iff.1 ho
      obtain ⟨h1, h2⟩ := Bool.and_eq_true_iff.1 h12
      rw [Op.okIn, h1, h2, h3]
      rfl
    | _ => exact ho
  have := ro_period_step s false hs Bool.noConfusion o h
  exact ⟨this.1, this.2.1⟩

/-! ### sequences -/

/-- **C14.** For every state of a read-only period and EVERY sequence of operations issued during it (background
jobs included as steps), the stored data after the sequence — hence, instantiating with prefixes, after every step
of it — is what it was before. -/
theorem ro_frame (ops : List Op) : ∀ (s : St), ROStable s → (∀ o ∈ ops, o.staysRO = true) →
    (run s ops).persist = s.persist ∧ ROStable (run s ops) := by
  induction ops with
  | nil => intro s hs _; exact ⟨rfl, hs⟩
  | cons o os ih =>
    intro s hs hall
    have h1 := ro_step s hs o (hall o (by simp))
    have h2 := ih (step s o).1 h1.2 (fun o' ho' => hall o' (by simp [ho']))
    simp only [run, List.foldl] at h2 ⊢
    exact ⟨h2.1.trans h1.1, h2.2⟩

/-- the data part, at every point inside the sequence -/
theorem ro_frame_prefix (s : St) (hs : ROStable s) (pre post : List Op) (h : ∀ o ∈ pre ++ post, o.staysRO = true) :
    (run s pre).persist = s.persist :=
  (ro_frame pre s hs (fun o ho => h o (by simp [ho]))).1

/-! ### the period over the engine's maintenance cycle (close, open again without `Init`) -/

/-- **What the model's `reopen` stands for**, regenerated from the source on every run: `StorageEngine.BlockExecution`
closes every shard, `ResumeExecution` opens every shard again and neither initializes it nor applies its mode;
`Shard.Open` opens the components and does nothing else; the write-cache's flush loop is started by `cache.Init`
and neither by `cache.Open` nor by `cache.SetMode`. -/
theorem maintenance_cycle_facts :
    engineBlock_closesShards = true ∧ engineResume_opensShards = true ∧ engineResume_initsShards = false ∧
    shardOpen_initsOrSetsMode = false ∧
    wcInit_startsFlushLoop = true ∧ wcOpen_startsFlushLoop = false ∧ wcSetMode_startsFlushLoop = false :=
  ⟨rfl, rfl, rfl, rfl, rfl, rfl, rfl⟩

theorem setMode_quiet (s : St) (hs : ROQuiet s) (m : Nat) (hm : isReadOnly m = true) (hn : noMetabase m = false) :
    (setMode s m .none).1.persist = s.persist ∧ ROStable (setMode s m .none).1 :=
  setMode_ro_meta s m hm hn

def legalPeriod : Bool → List Op → Bool
  | _, [] => true
  | st, o :: os => o.okIn st && legalPeriod (o.nextStable st) os

/-- **C14 over the maintenance cycle.**  For every state of a read-only period and EVERY sequence of operations
issued during it — all requests, reads, background jobs (GC pass, flush-worker pass, ticks of the real flush
scheduler, new-epoch handler), Restore, switches between read-only modes, and close/open cycles without `Init` at
any point — the stored data is unchanged after the sequence (hence after every prefix), PROVIDED no switch to a mode
without metabase follows a close/open cycle before the components have been switched back to a read-only mode with
metabase (`legalPeriod`; without the proviso the statement is false for the code: `C14_counterexample`). -/
theorem ro_period_frame (ops : List Op) : ∀ (s : St) (st : Bool), ROQuiet s → (st = true → ROStable s) →
    legalPeriod st ops = true → (run s ops).persist = s.persist ∧ ROQuiet (run s ops) := by
  induction ops with
  | nil => intro s st hq _ _; exact ⟨rfl, hq⟩
  | cons o os ih =>
    intro s st hq hst hl
    simp only [legalPeriod, Bool.and_eq_true] at hl
    have h1 := ro_period_step s st hq hst o hl.1
    have h2 := ih (step s o).1 (o.nextStable st) h1.2.1 h1.2.2 hl.2
    simp only [run, List.foldl] at h2 ⊢
    exact ⟨h2.1.trans h1.1, h2.2⟩

/-- the statement without the proviso: close/open cycles anywhere among the operations of a read-only period -/
def Op.inPeriod : Op → Bool
  | .reopen => true
  | o => o.staysRO

def C14_full : Prop :=
  ∀ (s : St) (ops : List Op), ROStable s → (∀ o ∈ ops, o.inPeriod = true) → (run s ops).persist = s.persist

/-! ### how a read-only period starts, and reads during it -/

theorem setMode_starts_period_wf (s : St) (hw : MetaWF s) (m : Nat) (hm : isReadOnly m = true)
    (hok : (setMode s m .none).2 = .ok) : ROStable (setMode s m .none).1 :=
  (setMode_recovers s hw m .none hok).roStable (by rw [setMode_ok_mode s m .none hok]; exact hm)

/-- **How a read-only period starts.** A fault-free `SetMode` to a read-only mode that succeeds from a state in which
reported and actual modes agree yields a state of a read-only period (and the agreement continues, lemma
`setMode_establishes`). -/
theorem setMode_starts_period (s : St) (hc : Consistent s) (m : Nat) (hm : isReadOnly m = true)
    (hok : (setMode s m .none).2 = .ok) : ROStable (setMode s m .none).1 :=
  setMode_starts_period_wf s hc.metaWF m hm hok

/-- **Configurations.** A shard (re)started with a read-only mode as its CONFIGURED mode is in a read-only period as
soon as `Init` returns (its components are opened for writing first and then switched). -/
theorem restart_starts_period (s : St) (m : Nat) (hm : isReadOnly m = true) (hok : (restart s m).2 = .ok) :
    ROStable (restart s m).1 := by
  have hne : ¬ (m == modeRW) = true := fun h => by
    rw [eq_of_beq h] at hm
    exact absurd hm (by decide)
  unfold restart at hok ⊢
  rw [if_neg hne] at hok ⊢
  exact setMode_starts_period_wf _ (restartBase_consistent s).metaWF m hm hok

/-- **Reads follow the mode table**: the reads that need the metabase answer exactly when the reported mode has one,
with the degraded-mode error otherwise; never with the read-only error -/
theorem ro_reads_meta (s : St) (hc : Consistent s) :
    (step s .list).2 = (if noMetabase s.mode then .degraded else .ok) ∧
    (step s .select).2 = (if noMetabase s.mode then .degraded else .ok) ∧
    (step s .listCnr).2 = (if noMetabase s.mode then .degraded else .ok) ∧
    (∀ cn, (step s (.cnrInfo cn)).2 = (if noMetabase s.mode then .degraded else .ok)) ∧
    (∀ a, (step s (.isLocked a)).2 = (if noMetabase s.mode then .degraded else .ok)) := by
  simp only [step]
  unfold list select listContainers containerInfo isLocked noMeta
  rw [hc.metaRead_eq]
  cases noMetabase s.mode
  · exact ⟨rfl, rfl, rfl, fun _ => rfl, fun _ => rfl⟩
  · exact ⟨rfl, rfl, rfl, fun _ => rfl, fun _ => rfl⟩

/-- `Get`, `Head` and `Exists` answer "ok", "not found", or what the metabase's `Exists` said — and they ask the
metabase only in a mode that has one -/
theorem reads_outcome (P : Err → Prop) (s : St) (a : Addr) (hok : P .ok) (hnf : P .notFound)
    (hm : noMetabase s.mode = false → P (metaExists s a).2) :
    P (get s a) ∧ P (head s a) ∧ P (exists_ s a).2 := by
  have ite : ∀ {c : Prop} [Decidable c] {x y : Err}, P x → P y → P (if c then x else y) :=
    fun hx hy => ite_rule hx fun _ => hy
  have hm' : ∀ b : Bool, P (if noMeta s.mode then (b, Err.ok) else metaExists s a).2 := by
    intro b
    by_cases hn : noMeta s.mode = true
    · rw [if_pos hn]
      exact hok
    · rw [if_neg hn]
      exact hm (Bool.eq_false_iff.2 hn)
  refine ⟨?_, ?_, ?_⟩
  · unfold get
    exact ite (hm' false) (ite hnf (ite hok (ite hok hnf)))
  · unfold head
    exact ite (hm' true) (ite hnf (ite hok hnf))
  · unfold exists_
    exact hm' _

/-- object reads (`Get`, `Head`, `Exists`) are never refused for a mode reason: they answer from the metabase when
the mode has one and from blobstor / write-cache otherwise -/
theorem ro_reads_object (s : St) (hc : Consistent s) (a : Addr) :
    (∀ e ∈ [(step s (.get a)).2, (step s (.head a)).2, (step s (.exists_ a)).2],
      e ≠ .readOnly ∧ e ≠ .degraded ∧ e ≠ .compRefused) := by
  obtain ⟨h1, h2, h3⟩ := reads_outcome (fun e => e ≠ .readOnly ∧ e ≠ .degraded ∧ e ≠ .compRefused) s a
    (by decide) (by decide) (fun hn => by
      -- in a consistent state the metabase's own guard lets the read through
      unfold metaExists
      rw [hc.metaRead_eq, hn]
      exact metaErr_not_mode _)
  intro e he
  simp only [List.mem_cons, List.mem_nil_iff, or_false] at he
  rcases he with rfl | rfl | rfl
  · exact h1
  · exact h2
  · exact h3

/-! ### non-vacuity -/

/-- a shard with write-cache holding an object in the cache, one in the blobstor, a garbage mark and a tombstone,
switched to read-only -/
def exampleRO : St :=
  run {} [.put 1 { id := 1, typ := .regular, size := 10 }, .flush, .put 1 { id := 2, typ := .regular, size := 20 },
    .put 1 { id := 7, typ := .tombstone, assoc := 1, exp := some "3" }, .mark 1 [2] false, .epoch 5,
    .setMode readOnly .none]

example : ROStable exampleRO := ⟨by decide, by decide, fun _ => by decide⟩
example : exampleRO.blob ≠ [] ∧ exampleRO.db ≠ [] := by decide
/-- the sequence really contains steps that would change data in read-write mode -/
example : (run (run {} [.put 1 { id := 1, typ := .regular }]) [.delete 1 [1], .gc]).persist ≠
    (run {} [.put 1 { id := 1, typ := .regular }]).persist := by decide
example : (run exampleRO [.delete 1 [1], .gc, .flushTick, .epoch 9, .setMode degradedReadOnly .none,
    .put 1 { id := 3, typ := .regular }, .restore 1 [{ id := 4, typ := .regular }]]).persist = exampleRO.persist := by decide
example : Consistent ({} : St) := ⟨rfl, by decide, by decide, fun _ => rfl⟩

/-- **The full statement is false for the current code** (known finding C14-reopen-switch-flush): a read-only shard
with an object in its write-cache goes through the maintenance cycle (every component is opened for writing again,
the mode is not re-applied) and is then switched to degraded-read-only — `cache.SetMode` flushes before entering a
mode without metabase, the blobstor accepts: the object moves from the cache to the blobstor although the shard
reported a read-only mode all along. -/
theorem C14_counterexample : ¬ C14_full := by
  intro h
  have := h exampleRO [.reopen, .setMode degradedReadOnly .none] ⟨by decide, by decide, fun _ => by decide⟩
    (by decide)
  revert this
  decide

/-- the reopened period is inhabited by a state whose components really are writable -/
example : ROQuiet (run exampleRO [.reopen]) ∧ (run exampleRO [.reopen]).blobRO = false ∧
    (run exampleRO [.reopen]).wcMode = readWrite ∧ (run exampleRO [.reopen]).wc ≠ [] :=
  ⟨⟨by decide, fun _ => Or.inr (by decide)⟩, by decide, by decide, by decide⟩
/-- a flush-worker pass / scheduler tick WOULD move the cached object if the loop were running after the reopening -/
example : (flushTick { run exampleRO [.reopen] with wcLoop := true }).persist ≠ (run exampleRO [.reopen]).persist := by decide
example : legalPeriod true [.put 1 { id := 3, typ := .regular }, .reopen, .settle, .flushTick, .gc, .epoch 9,
    .setMode readOnly .none, .setMode degradedReadOnly .none, .reopen, .settle] = true := by decide
example : legalPeriod true [.reopen, .setMode degradedReadOnly .none] = false := by decide
example : (run exampleRO [.reopen, .settle, .flushTick, .gc, .setMode readOnly .none]).persist = exampleRO.persist := by
  decide

end NeoFS.ShardMode
