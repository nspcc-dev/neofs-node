import NeoFS.Props.C20
/-!
# C19 — evacuation keeps every available object available on the remaining shards

`Eng.evacuate` (model of `StorageEngine.Evacuate` without fault handler): for every source shard, every listed
object is read from the source and offered with `putToShard` to the shards outside the source set in the given
order until one stores it or reports that it has it already.

Proved here, for ALL engines, source sets, orders, failures and both settings of `ignoreErrors`:
* evacuation never changes a source shard (nothing is removed, no status changes there);
* every object step that does not fail leaves the object with a remaining shard of the order: indexed in
  its metabase (or, on a degraded target, in its blob store) — `evacTargets_keeps` / `evacTargets_places`, the
  inductive step over the listing; the induction over listing and source shards that carries it to the final state is in
  Lemmas/EngineEvac.lean (`evacuate_preserves_partial`: after a successful strict evacuation every LISTED
  object is kept by a remaining shard).
Availability on the target is governed by the TARGET's own marks and locks (statuses are per shard; a lock or
tombstone object is moved like any object, to ONE remaining shard), and evacuation moves what the source
LISTS: the full statement `C19_full` is false for the current code (`C19_counterexample`).
-/
namespace NeoFS.Engine

/-- counting an error changes neither index nor blob store of any shard -/
theorem report_get (e : Eng) (i j : Nat) (er : Err) (s : Shard) (h : e.shards[j]? = some s) :
    ∃ s', (e.report i er).shards[j]? = some s' ∧ s'.idx = s.idx ∧ s'.blobs = s.blobs := by
  obtain ⟨n, m, h', _⟩ := report_shard e i j er s h
  exact ⟨_, h', rfl, rfl⟩

theorem find_eraseId_ne (id' id : Nat) (l : List Obj) (hne : id' ≠ id) (h : (l.find? (·.id == id)).isSome = true) :
    ((Shard.eraseId id' l).find? (·.id == id)).isSome = true := by
  rw [find_eraseId_of_ne l hne]
  exact h

theorem evacTargets_frame (o : Obj) (srcs : List Nat) (k : Nat) (hk : srcs.contains k = true) :
    ∀ (ord : List Nat) (e : Eng), (evacTargets o srcs ord e).1.shards[k]? = e.shards[k]? :=
  fun ord e => evacTargets_inv (P := fun e' => e'.shards[k]? = e.shards[k]?) srcs
    (fun o e' j hj h => (putToShard_frame_src hk o e' j hj).trans h) o ord e rfl

theorem evacObjs_frame (src : Nat) (srcs ord : List Nat) (ig : Bool) (k : Nat) (hk : srcs.contains k = true) :
    ∀ (l : List Obj) (e : Eng) (n : Nat), (evacObjs src srcs ord ig l e n).1.shards[k]? = e.shards[k]? :=
  fun l e n => evacObjs_inv (P := fun e' => e'.shards[k]? = e.shards[k]?) srcs
    (fun o e' j hj h => (putToShard_frame_src hk o e' j hj).trans h) src ord ig l e n rfl

theorem evacShards_frame (srcs ord : List Nat) (ig : Bool) (k : Nat) (hk : srcs.contains k = true) :
    ∀ (l : List Nat) (e : Eng) (n : Nat), (evacShards srcs ord ig l e n).1.shards[k]? = e.shards[k]? :=
  fun l e n => evacShards_inv (P := fun e' => e'.shards[k]? = e.shards[k]?) srcs
    (fun o e' j hj h => (putToShard_frame_src hk o e' j hj).trans h) ord ig l e n rfl

/-- **Evacuation does not remove data from the source shards and changes nothing on them** — whatever its
outcome, for every order, every failure of the targets and both settings of `ignoreErrors`. -/
theorem evacuate_sources_unchanged (e : Eng) (srcs ord : List Nat) (ig : Bool) (k : Nat) (hk : k ∈ srcs) :
    (e.evacuate srcs ord ig).1.shards[k]? = e.shards[k]? := by
  rcases evacuate_eq e srcs ord ig with ⟨er, h⟩ | h
  · rw [h]
  · rw [h]; exact evacShards_frame srcs ord ig k (List.contains_iff_mem.mpr hk) srcs e 0

/-- the shard keeps the object: indexed in its metabase, or (shard without metabase) in its blob store -/
def Shard.keeps (s : Shard) (id : Nat) : Prop :=
  (s.find id).isSome = true ∨ (s.mode.noMeta = true ∧ (s.blob id).isSome = true)

/-- the shard knows the object: indexed in its metabase, or present in its blob store -/
def Shard.knows (s : Shard) (id : Nat) : Prop := (s.find id).isSome = true ∨ (s.blob id).isSome = true

theorem Shard.keeps.knows {s : Shard} {id : Nat} (h : s.keeps id) : s.knows id :=
  h.imp_right And.right

theorem Shard.keeps.counted {s : Shard} {id : Nat} (h : s.keeps id) (n : Nat) {m : Mode}
    (hm : m = s.mode ∨ m = .degRO) : ({ s with errs := n, mode := m } : Shard).keeps id := by
  refine h.imp_right fun hk => ⟨?_, hk.2⟩
  rcases hm with rfl | rfl
  · exact hk.1
  · rfl

theorem Shard.put_keeps (s : Shard) (o : Obj) (ep : Nat) :
    (∀ id, s.keeps id → (s.put o ep).1.keeps id) ∧ ((s.put o ep).2 = none → (s.put o ep).1.keeps o.id) := by
  unfold Shard.put
  cases h1 : s.mode.readOnly with
  | true => exact ⟨fun _ hk => hk, fun h => nomatch h⟩
  | false =>
  cases h2 : s.failW with
  | true => exact ⟨fun _ hk => hk, fun h => nomatch h⟩
  | false =>
  cases h3 : s.mode.noMeta with
  | true =>
    exact ⟨fun id hk => hk.imp_right fun hk => ⟨h3, find_insertObj_mono o s.blobs id hk.2⟩,
      fun _ => Or.inr ⟨h3, find_insertObj_self o s.blobs⟩⟩
  | false =>
    -- with a metabase, what is kept is what is indexed, and only `metaPut` touches the index
    have hfind : ∀ id, s.keeps id → (s.find id).isSome = true :=
      fun id hk => hk.resolve_right fun hk => Bool.false_ne_true (h3.symm.trans hk.1)
    simp only [Bool.false_eq_true, if_false]
    split
    · rename_i s2 hmp
      have hok := metaPut_ok _ s2 o ep hmp
      exact ⟨fun id hk => Or.inl (hok.2.2 id (hfind id hk)), fun _ => Or.inl hok.1⟩
    · exact ⟨fun id hk => Or.inl (hfind id hk), fun h => nomatch h⟩

theorem putToShard_keeps_mono (e : Eng) (j k : Nat) (o : Obj) (t : Shard) (id : Nat)
    (h : e.shards[k]? = some t) (hk : t.keeps id) :
    ∃ t', (e.putToShard j o).1.shards[k]? = some t' ∧ t'.keeps id := by
  refine putToShard_inv (P := fun e' => ∃ t', e'.shards[k]? = some t' ∧ t'.keeps id) e j o ⟨t, h, hk⟩ ?_ ?_
  · intro s hs
    by_cases hkj : k = j
    · subst hkj
      cases hs.symm.trans h
      exact ⟨_, setShard_get_self h, (t.put_keeps o e.epoch).1 id hk⟩
    · exact ⟨t, (setShard_get_ne hkj).trans h, hk⟩
  · intro e' er ⟨t', ht', hk'⟩
    obtain ⟨n, m, h', hm⟩ := report_shard e' j k er t' ht'
    exact ⟨_, h', hk'.counted n hm⟩

theorem Shard.exists_keeps (s : Shard) (id ep : Nat)
    (h : s.exists_ id ep false = .error .expired ∨ s.exists_ id ep false = .ok true) : s.keeps id := by
  unfold Shard.exists_ at h
  split at h
  · rename_i hnm
    rcases h with h | h
    · cases h
    · exact Or.inr ⟨hnm, Except.ok.inj h⟩
  · exact Or.inl (h.elim (Shard.indexed_of_mExists s id ep).1 (Shard.indexed_of_mExists s id ep).2)

theorem putToShard_keeps (e e1 : Eng) (j : Nat) (o : Obj) (r : PutR)
    (h : e.putToShard j o = (e1, r)) (hr : r = .stored ∨ r = .exists_) :
    ∃ t, e1.shards[j]? = some t ∧ t.keeps o.id := by
  unfold Eng.putToShard at h
  split at h
  · cases h; rcases hr with hr | hr <;> cases hr
  · rename_i s hs
    split at h
    · rename_i heq
      cases h
      exact ⟨s, hs, s.exists_keeps _ _ (Or.inl heq)⟩
    · cases h; rcases hr with hr | hr <;> cases hr
    · rename_i heq
      cases h
      exact ⟨s, hs, s.exists_keeps _ _ (Or.inr heq)⟩
    · split at h
      · rename_i s1 hput
        cases h
        exact ⟨s1, setShard_get_self hs, by simpa only [hput, forall_const] using (s.put_keeps o e.epoch).2⟩
      · cases h; rcases hr with hr | hr <;> cases hr

theorem putToShard_places (e e1 : Eng) (j : Nat) (o : Obj) (r : PutR)
    (h : e.putToShard j o = (e1, r)) (hr : r = .stored ∨ r = .exists_) :
    ∃ t, e1.shards[j]? = some t ∧ t.knows o.id := by
  obtain ⟨t, ht, hk⟩ := putToShard_keeps e e1 j o r h hr
  exact ⟨t, ht, hk.knows⟩

theorem evacTargets_keeps (o : Obj) (srcs : List Nat) :
    ∀ (ord : List Nat) (e e1 : Eng) (b : Bool), evacTargets o srcs ord e = (e1, some b) →
      ∃ j ∈ ord, srcs.contains j = false ∧ ∃ t, e1.shards[j]? = some t ∧ t.keeps o.id := by
  intro ord
  induction ord with
  | nil => intro e e1 b h; cases h
  | cons j rest ih =>
    intro e e1 b h
    have htail : ∀ e2, evacTargets o srcs rest e2 = (e1, some b) →
        ∃ j' ∈ j :: rest, srcs.contains j' = false ∧ ∃ t, e1.shards[j']? = some t ∧ t.keeps o.id := by
      intro e2 h2
      obtain ⟨j', hj', r⟩ := ih e2 e1 b h2
      exact ⟨j', List.mem_cons_of_mem j hj', r⟩
    unfold evacTargets at h
    split at h
    · exact htail e h
    · rename_i hc
      split at h
      · exact htail e h
      · split at h
        · rename_i e2 heq
          cases h
          exact ⟨j, List.mem_cons_self, Bool.eq_false_iff.mpr hc, putToShard_keeps e _ j o _ heq (Or.inl rfl)⟩
        · rename_i e2 heq
          cases h
          exact ⟨j, List.mem_cons_self, Bool.eq_false_iff.mpr hc, putToShard_keeps e _ j o _ heq (Or.inr rfl)⟩
        · exact htail _ h

/-- **One object step**: if the step finds a taker, some shard of the order outside the source set knows the
object afterwards. -/
theorem evacTargets_places (o : Obj) (srcs : List Nat) :
    ∀ (ord : List Nat) (e e1 : Eng) (b : Bool), evacTargets o srcs ord e = (e1, some b) →
      ∃ j ∈ ord, srcs.contains j = false ∧ ∃ t, e1.shards[j]? = some t ∧ t.knows o.id := by
  intro ord e e1 b h
  obtain ⟨j, hj, hns, t, ht, hk⟩ := evacTargets_keeps o srcs ord e e1 b h
  exact ⟨j, hj, hns, t, ht, hk.knows⟩

/-- availability through a shard, read failures aside -/
def Shard.serves (s : Shard) (id ep : Nat) (o : Obj) : Prop :=
  s.blob id = some o ∧ (s.mode.noMeta = true ∨ (s.status id ep = .avail ∧ (s.find id).isSome = true))

/-- the property as stated: after a successful evacuation every object a source shard served is served by a
remaining shard.  FALSE for the current code, see `C19_counterexample`. -/
def C19_full : Prop :=
  ∀ (e : Eng) (srcs ord : List Nat) (src : Nat) (s : Shard) (o : Obj), ord.Nodup →
    (e.evacuate srcs ord false).2.2 = none → src ∈ srcs → e.shards[src]? = some s →
    s.mode.noMeta = false → s.serves o.id e.epoch o →
    ∃ j ∈ ord, j ∉ srcs ∧ ∃ t, (e.evacuate srcs ord false).1.shards[j]? = some t ∧ t.serves o.id e.epoch o

/-- the witness: object 1 carries a garbage mark (a forced `Delete`) and was locked afterwards: the lock makes
it available again (`Get` returns it), but the listing skips everything that carries a mark, so a successful
evacuation moves the lock only -/
def cexEvac : Eng :=
  { shards := [{ mode := .ro, idx := [o1, l7], blobs := [o1, l7], garbage := [1] }, {}] }

theorem C19_counterexample : ¬ C19_full := by
  intro h
  have hsrv : ({ mode := .ro, idx := [o1, l7], blobs := [o1, l7], garbage := [1] } : Shard).serves o1.id 0 o1 := by
    refine ⟨by decide, Or.inr ⟨by decide, by decide⟩⟩
  obtain ⟨j, hj, hns, t, ht, hserv⟩ :=
    h cexEvac [0] [1, 0] 0 _ o1 (by decide) (by decide) (by simp) rfl (by decide) hsrv
  simp only [List.mem_cons, List.not_mem_nil, or_false] at hj hns
  rcases hj with rfl | rfl
  · have hb : t.blob 1 = none := by
      have : (cexEvac.evacuate [0] [1, 0] false).1.shards[1]? = some { idx := [l7], blobs := [l7] } := by decide
      rw [this] at ht
      cases ht
      decide
    have := hserv.1
    simp only [o1] at this
    rw [hb] at this
    cases this
  · exact hns rfl

/-- the source serves the object before, the engine restricted to the remaining shard does not after -/
example : (cexEvac.get 1 [0, 1]).2 = .ok o1 ∧ (cexEvac.evacuate [0] [1, 0] false).2 = (1, none) ∧
    ((cexEvac.evacuate [0] [1, 0] false).1.get 1 [1]).2 = .err .notFound := by decide

/-- decidable extra hypothesis of the partial statement: nothing a source serves is hidden from its listing -/
def sourcesListWhatTheyServe (e : Eng) (srcs : List Nat) : Bool :=
  srcs.all fun i =>
    match e.shards[i]? with
    | none => true
    | some s => s.idx.all fun o => s.status o.id e.epoch != .avail || s.inGarbage o.id == .avail

def exA : Eng := { shards := [{ mode := .ro, idx := [o1, l7], blobs := [o1, l7] }, {}, {}] }
def exB : Eng := { shards := [{ mode := .ro, idx := [o1], blobs := [o1] }, { failW := true }, {}] }
def exC : Eng := { shards := [{ mode := .ro, idx := [o1], blobs := [o1] }, { mode := .ro }] }

/-- non-vacuity: a source with an object and its lock, two remaining shards: both are moved, the source keeps
everything, the engine restricted to the remaining shards serves the object and reports it locked -/
example :
    (exA.evacuate [0] [2, 1, 0] false).2 = (2, none) ∧
    (exA.evacuate [0] [2, 1, 0] false).1.shards[0]? = exA.shards[0]? ∧
    ((exA.evacuate [0] [2, 1, 0] false).1.get 1 [1, 2]).2 = .ok o1 ∧
    (match ((exA.evacuate [0] [2, 1, 0] false).1.isLocked 1 [1, 2]).2 with | .ok b => b | .error _ => false) = true := by
  decide

/-- a failing target is skipped, the next one takes the object -/
example :
    (exB.evacuate [0] [1, 2, 0] false).2 = (1, none) ∧
    ((exB.evacuate [0] [1, 2, 0] false).1.get 1 [1, 2]).2 = .ok o1 := by
  decide

/-- no writable target: evacuation reports the failure -/
example : (exC.evacuate [0] [1, 0] false).2 = (0, some .putShard) := by
  decide

end NeoFS.Engine
