import NeoFS.Lemmas.ShardSteps
/-!
# C15 — after a crash, every object the metadata lists as available is readable

For EVERY history of shard operations (puts of regular objects and tombstones, direct deletions, garbage marks
of both kinds, GC passes with tombstone expiry, single and whole write-cache flushes in any order, epoch
advances, restarts, metabase resyncs in any iteration order), in which EVERY operation may be cut by a crash
after ANY number of its atomic persistent steps: in the resulting state every address the metabase reports as
available (`Exists = true`) is returned by `Get` with exactly the bytes that were stored
(`meta_implies_data`).  The proof is the invariant `Inv` (Lemmas/ShardSteps.lean): every atomic step that is
*safe* where it executes preserves it (`inv_step`), and the step list of every operation is safe from every
state satisfying it (`opSteps_safe`) — data is written before metadata, metadata is removed before data, the
main-storage copy is written before the cache copy is removed.  `safe_trace_crash_consistent` is the same
statement for ARBITRARY interleavings of atomic steps (background flusher, concurrent GC) in which every step
is safe at the moment it runs.  The `…_breaks` theorems show the three swapped orders violate the property
(the first one is the order `deleteObjs` had before the repair).
-/
namespace NeoFS.ShardSteps

/-- **C15.** Every history, every crash point of every operation (shard with or without write-cache): whatever
the metabase lists as available afterwards is read back with the stored bytes. -/
theorem meta_implies_data (content : Nat → Body) (wc : Bool) (h : List (Op × Option Nat)) (hw : WFHist content h)
    (a : Nat) (hav : available (runHist { hasWC := wc } h) a = true) :
    get (runHist { hasWC := wc } h) a = (.ok, some (content a)) :=
  available_readable (runHist_inv h _ (inv_init content wc) hw) a hav

/-- the same at the granularity of atomic steps: ANY interleaving of steps (foreground operations, background
flusher, GC) in which every step is safe when it runs leaves, after ANY prefix and a crash, a state in which
everything listed as available is readable -/
theorem safe_trace_crash_consistent (content : Nat → Body) (s : St) (tr : List Step) (k : Nat)
    (hI : Inv content s) (hs : SafeList content s tr) (a : Nat)
    (hav : available (crash (applySteps s (tr.take k))) a = true) :
    get (crash (applySteps s (tr.take k))) a = (.ok, some (content a)) :=
  available_readable (crash_inv (inv_steps _ s hI (safeList_take _ s k hs))) a hav

def b1 : Body := { kind := .reg, payload := 11 }
def bT : Body := { kind := .ts 1 2, payload := 0 }
def contentEx : Nat → Body := fun a => if a = 7 then bT else { kind := .reg, payload := 10 + a }

/-! ### non-vacuity -/

/-- a history with a crash inside the GC's deletion, after which object 2 is still listed and read back -/
example :
    let h : List (Op × Option Nat) := [(.put 1 b1, none), (.put 2 (contentEx 2), none), (.put 7 bT, none),
      (.gc, some 2), (.reopen, none)]
    let s := runHist { hasWC := true } h
    WFHist contentEx h ∧ available s 2 = true ∧ get s 2 = (.ok, some (contentEx 2)) ∧ available s 1 = false
      ∧ s.wc 1 = none := by
  refine ⟨?_, by decide, by decide, by decide, by decide⟩
  intro p hp
  simp at hp
  rcases hp with rfl | rfl | rfl | rfl | rfl <;> simp [WFOp, contentEx, b1, bT]

/-! ### the swapped orders violate the property (these are the mutations the check must catch) -/

/-- one object, stored through the write-cache -/
def sPut : St := runOp { hasWC := true } (.put 1 b1)

/-- `deleteObjs` as it was before the repair (cache copy first): a crash after its first step leaves object 1
reported as available with no bytes anywhere -/
theorem delete_cache_first_breaks :
    let s' := crash (applySteps sPut ((deleteStepsOrig sPut [1]).take 1))
    available s' 1 = true ∧ (get s' 1).1 = .metaNoObject := by decide

/-- `Put` with the metabase record written before the bytes -/
theorem put_meta_first_breaks :
    let s0 : St := { hasWC := true }
    let s' := crash (applySteps s0 ([Step.metaPut 1 .reg, Step.wcPut 1 b1].take 1))
    available s' 1 = true ∧ (get s' 1).1 = .metaNoObject := by decide

/-- flush with the cache copy removed before the main-storage copy is written -/
theorem flush_delete_first_breaks :
    let s' := crash (applySteps sPut ([Step.wcDel 1, Step.blobPut 1 b1].take 1))
    available s' 1 = true ∧ (get s' 1).1 = .metaNoObject := by decide

/-- Outside C15's quantifier (crash points), recorded for honesty: a SCHEDULE, not a crash, breaks the same
invariant in the code as it is — a flusher that has copied object 1 to the main storage removes the cache copy
unconditionally, also when the object was deleted and stored again in between (`wcDel 1` is not safe there). -/
theorem flush_delete_reput_schedule_breaks :
    let s1 := applyStep sPut (.flushCopy 1)
    let s2 := runOp s1 (.delete [1])
    let s3 := runOp s2 (.put 1 b1)
    let s' := applyStep s3 (.wcDel 1)
    available s' 1 = true ∧ (get s' 1).1 = .metaNoObject := by decide

end NeoFS.ShardSteps
