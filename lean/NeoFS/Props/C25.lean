import NeoFS.Lemmas.PutCap
/-!
# C25 — a successful PUT means the storage policy's copies were acknowledged

Theorems over `Model/Put.lean` for every placement (any number of rules, any node lists that are
duplicate-free inside one list but may share nodes between lists and contain the local node anywhere),
every answer oracle, every order in which the parallel sends of a group complete and every interleaving of
the EC part threads.
-/
namespace NeoFS.Put

/-- **Regular object, no total cap** (no initial policy, or an initial policy with replica limits only).
If `saveObject` reports success then every acknowledgement in the log is a real one, every REP rule has at
least its required number (the limit under an initial policy) of distinct acknowledging nodes of its own
list, and every EC rule in force has every part acknowledged by a node of its list, different parts by
different nodes. -/
theorem put_ok_implies_acks (ans : Obj → Node → Bool) (sched : List Node → List Node) (picks : Nat → List Nat)
    (hs : ∀ l, (sched l).Perm l) (r : Req) (s : LS)
    (hreg : r.typ = 0) (hpart : r.ecPart = none) (hM : maxRep r = 0) (hnd : ∀ l ∈ r.lists, l.Nodup)
    (h : saveObject ans sched picks r = (s, .ok)) :
    (∀ n ∈ s.g.acks, ans .main n = true) ∧
    (∀ i < r.rep.length, (effRep r).getD i 0 ≤ ackCount s.g.acks (r.lists.getD i [])) ∧
    (∀ j < (effEc r).length, ecDisabled (effEcLimits r) j = false →
      ECPlaced ans s.g.ecAcks j (((effEc r).getD j (0, 0)).1 + ((effEc r).getD j (0, 0)).2)
        (r.lists.getD (r.rep.length + j) [])) := by
  have hl := saveObject_ok_ruleLoop hreg hpart h
  rw [ruleOrderOf_uncapped r hM] at hl
  obtain ⟨q1, _, _, q4⟩ := ruleLoop_uncapped (envOf ans sched picks r) hM hs _ _ _ (Inv.init _)
    (fun i _ => getD_nodup r.lists hnd i) hl
  have hlen : (envOf ans sched picks r).rep.length = r.rep.length := effRep_length r
  refine ⟨q1.acked_good, fun i hi => ?_, fun j hj hen => ?_⟩
  · exact (ruleMet_rep (e := envOf ans sched picks r) (hlen ▸ hi)).mp (q4 i (List.mem_range.mpr (by omega)))
  · have := (ruleMet_ec (e := envOf ans sched picks r) (by omega)).mp
      (q4 (r.rep.length + j) (List.mem_range.mpr (by omega)))
    rw [hlen, Nat.add_sub_cancel_left] at this
    exact this hen

/-- The same without an initial policy, in the container policy's own numbers. -/
theorem put_ok_implies_policy_copies (ans : Obj → Node → Bool) (sched : List Node → List Node) (picks : Nat → List Nat)
    (hs : ∀ l, (sched l).Perm l) (r : Req) (s : LS)
    (hreg : r.typ = 0) (hpart : r.ecPart = none) (hini : r.ini = none) (hnd : ∀ l ∈ r.lists, l.Nodup)
    (h : saveObject ans sched picks r = (s, .ok)) :
    (∀ i < r.rep.length, r.rep.getD i 0 ≤ ackCount s.g.acks (r.lists.getD i [])) ∧
    (r.signer = true → ∀ j < r.ec.length,
      ECPlaced ans s.g.ecAcks j ((r.ec.getD j (0, 0)).1 + (r.ec.getD j (0, 0)).2) (r.lists.getD (r.rep.length + j) [])) := by
  have hM : maxRep r = 0 := by simp [maxRep, hini]
  obtain ⟨_, a, b⟩ := put_ok_implies_acks ans sched picks hs r s hreg hpart hM hnd h
  have e1 : effRep r = r.rep := by simp [effRep, effLimits, hini]
  have e2 : effEcLimits r = none := by simp [effEcLimits, effLimits, hini]
  rw [e1] at a
  refine ⟨a, fun hsig j hj => ?_⟩
  have e3 : effEc r = r.ec := by simp [effEc, hsig]
  have := b j (by rw [e3]; exact hj) (by rw [e2]; rfl)
  rw [e3] at this
  exact this

/-- **Failure is reported when the requirement cannot be met**: if some REP rule's list does not contain
enough nodes that would acknowledge, the verdict is not `ok` (whatever the schedule). -/
theorem put_fails_when_impossible (ans : Obj → Node → Bool) (sched : List Node → List Node) (picks : Nat → List Nat)
    (hs : ∀ l, (sched l).Perm l) (r : Req)
    (hreg : r.typ = 0) (hpart : r.ecPart = none) (hM : maxRep r = 0) (hnd : ∀ l ∈ r.lists, l.Nodup)
    (i : Nat) (hi : i < r.rep.length) (hbad : (r.lists.getD i []).countP (ans .main) < (effRep r).getD i 0) :
    (saveObject ans sched picks r).2 ≠ .ok := by
  intro h
  obtain ⟨a, b, _⟩ := put_ok_implies_acks ans sched picks hs r _ hreg hpart hM hnd (Prod.ext rfl h)
  have := ackCount_le_good (ans .main) _ (r.lists.getD i []) a
  have := b i hi
  omega

/-- **Objects broadcast to the container** (tombstone, lock, link, split parents): success means every REP
list has its copies and every EC list as many copies as the rule has parts, on distinct nodes of the list. -/
theorem broadcast_ok_implies_acks (ans : Obj → Node → Bool) (sched : List Node → List Node) (picks : Nat → List Nat)
    (hs : ∀ l, (sched l).Perm l) (r : Req) (s : LS) (htyp : r.typ ≠ 0) (hnd : ∀ l ∈ r.lists, l.Nodup)
    (h : saveObject ans sched picks r = (s, .ok)) :
    (∀ n ∈ s.g.acks, ans .main n = true) ∧
    ∀ x ∈ (broadcastCounts r).zip r.lists, x.1 ≤ ackCount s.g.acks x.2 := by
  unfold saveObject at h
  simp only [ne_eq, htyp, not_false_eq_true, if_true, Prod.mk.injEq] at h
  obtain ⟨rfl, h2⟩ := h
  obtain ⟨a, b⟩ := iterateNodes_sound (ans .main) sched hs _ _ true {} _ (Inv.init _)
    (fun x hx => hnd x.2 (List.of_mem_zip hx).2) (Prod.ext rfl h2)
  exact ⟨a.acked_good, b⟩

/-- **A ready EC part**: success means a node of the rule's list acknowledged it, unless the initial policy
switches the rule off (then the part is handed to the post-placement replicator and nothing is claimed). -/
theorem ecpart_ok_implies_ack (ans : Obj → Node → Bool) (sched : List Node → List Node) (picks : Nat → List Nat)
    (r : Req) (s : LS) (rule idx : Nat) (hreg : r.typ = 0) (hpart : r.ecPart = some (rule, idx))
    (hdef : partDeferred r rule = false) (h : saveObject ans sched picks r = (s, .ok)) :
    ∃ n ∈ r.lists.getD (r.rep.length + rule) [], n ∈ s.g.acks ∧ ans .main n = true := by
  unfold saveObject at h
  simp only [hreg, ne_eq, not_true_eq_false, if_false, hpart, hdef, Bool.false_eq_true] at h
  generalize hsq : seqPart _ _ _ _ = out at h
  obtain ⟨g1, b⟩ := out
  simp only [Prod.mk.injEq] at h
  obtain ⟨rfl, hb⟩ := h
  cases b with
  | false => simp at hb
  | true =>
    obtain ⟨good, i, hi, hacked⟩ := seqPart_sound _ _ _ _ _ (by simp) hsq
    rw [getD_of_lt _ _ (EC.nodeSeq_lt hi)] at hacked
    exact ⟨_, List.getElem_mem _, hacked, good _ hacked⟩

/-- **Regular object under a total cap** (`MaxReplicas > 0`, any `PreferLocal` order). If `saveObject` reports
success: every REP rule's counted copies `st` are at most its limit and at most the number of distinct
acknowledging nodes of its own list; the number of acknowledgements is at most the sum of the counted copies;
counted copies plus applied EC rules never exceed `MaxReplicas`; and they are exactly `MaxReplicas` whenever
the limits of the rules in force add up to it (with EC limits 0/1 — both are what the SDK's policy
verification guarantees). -/
theorem put_ok_capped (ans : Obj → Node → Bool) (sched : List Node → List Node) (picks : Nat → List Nat)
    (hs : ∀ l, (sched l).Perm l) (r : Req) (s : LS)
    (hreg : r.typ = 0) (hpart : r.ecPart = none) (hM : maxRep r > 0) (hnd : ∀ l ∈ r.lists, l.Nodup)
    (h : saveObject ans sched picks r = (s, .ok)) :
    (∀ n ∈ s.g.acks, ans .main n = true) ∧
    (∀ x ∈ s.stored, x.2 ≤ (effRep r).getD x.1 0 ∧ x.2 ≤ ackCount s.g.acks (r.lists.getD x.1 [])) ∧
    s.g.acks.length ≤ sumStored s ∧
    sumStored s + s.applied.length ≤ maxRep r ∧
    ((∀ i ∈ ruleOrderOf r, r.rep.length ≤ i → limitOf (effRep r) (effEcLimits r) i ≤ 1) →
      maxRep r ≤ sumLimits (effRep r) (effEcLimits r) (ruleOrderOf r) →
      sumStored s + s.applied.length = maxRep r) := by
  have hl := saveObject_ok_ruleLoop hreg hpart h
  have hc : CapInv (envOf ans sched picks r) { g := {}, left := maxRep r } :=
    ⟨Inv.init _, by simp [sumStored, envOf], hM, by simp [sumStored], nofun⟩
  obtain ⟨q1, q2⟩ := ruleLoop_capped (envOf ans sched picks r) hM hs _ _ _ hc (fun i _ => getD_nodup r.lists hnd i) hl
  have hlen : (envOf ans sched picks r).rep.length = r.rep.length := effRep_length r
  exact ⟨q1.good, q1.perRule, q1.acksLe, q1.totalLe, fun hlim hsum => q2 (fun i hi hle => hlim i hi (hlen ▸ hle)) hsum⟩

/-- **No node holds two parts of a rule, in ANY run** (successful or not): under every interleaving of the part
threads' critical sections and every answer oracle, two acknowledgements of `applyECRule` by one node are
acknowledgements of the same part. This is what the forced interleavings of op `ecrace` check on the real
`ecProgress` (oracles `ec-node-reserved-by-one-part-of-a-rule`, `ec-rule-parts-on-distinct-nodes-of-its-list`). -/
theorem applyEC_node_holds_one_part (f : Nat → Node → Bool) (d p : Nat) (nodes : List Node) (picks : List Nat)
    (hnd : nodes.Nodup) (k k' : Nat) (n : Node)
    (h : (k, n) ∈ (applyEC f d p nodes picks).2) (h' : (k', n) ∈ (applyEC f d p nodes picks).2) : k = k' :=
  (applyEC_acks f d p nodes picks hnd).2.1 k k' n h h'

/-! ### Non-vacuity and the boundary of the hypotheses -/

private def okAll : Obj → Node → Bool := fun _ _ => true
private def failing (bad : List Node) : Obj → Node → Bool := fun _ n => !bad.contains n

/-- the contended reserve node: EC 1/1 over three nodes, the first nodes of both parts refuse, both parts go for
node index 2 in lock-step; one part stays homeless and the PUT is not reported as done -/
example : (saveObject (failing [1, 2]) id (fun _ => [0, 1, 0, 1, 0, 1, 1, 0, 1])
    { typ := 0, rep := [], ec := [(1, 1)], lists := [[1, 2, 3]], loc := none, signer := true,
      ecPart := none, ini := none }).2 ≠ .ok := by decide


/-- two overlapping REP lists, node 2 fails: success with acknowledgements 1,3 and 3,4 (3 shared) -/
example : (saveObject (failing [2]) id (fun _ => [])
    { typ := 0, rep := [2, 2], ec := [], lists := [[1, 2, 3], [3, 2, 4]], loc := some 3, signer := true,
      ecPart := none, ini := none }).2 = .ok := by decide

/-- an EC 2/1 rule over four nodes with one failing node succeeds under an interleaved schedule -/
example : (saveObject (failing [2]) id (fun _ => [0, 1, 2, 1, 0, 2, 1, 1, 0])
    { typ := 0, rep := [], ec := [(2, 1)], lists := [[1, 2, 3, 4]], loc := none, signer := true,
      ecPart := none, ini := none }).2 = .ok := by decide

/-- too few good nodes: an explicit incomplete result (one copy was stored) -/
example : (saveObject (failing [2, 3]) id (fun _ => [])
    { typ := 0, rep := [2], ec := [], lists := [[1, 2, 3]], loc := none, signer := false,
      ecPart := none, ini := none }).2 = .incomplete := by decide

/-- an initial policy with MaxReplicas 3 and local preference: the second list (holding the local node 4) is visited
first; three copies are counted and the PUT succeeds -/
example : (saveObject (failing [1]) id (fun _ => [])
    { typ := 0, rep := [2, 2], ec := [], lists := [[1, 2, 3], [3, 4, 5]], loc := some 4, signer := true,
      ecPart := none, ini := some { limits := [], maxReplicas := 3, preferLocal := true } }).2 = .ok := by decide

/-- The hypothesis "no duplicates inside one list" is necessary: a node listed twice in one list is counted
twice by `handleREPRule` once its first answer is known (placement vectors of the network map never repeat
a node, which is why the hypothesis is harmless). -/
theorem duplicate_in_list_counts_twice :
    let r : Req := { typ := 0, rep := [2], ec := [], lists := [[1, 2, 1]], loc := none, signer := false,
                     ecPart := none, ini := none }
    (saveObject (failing [2]) id (fun _ => []) r).2 = .ok ∧
      (saveObject (failing [2]) id (fun _ => []) r).1.g.acks = [1] := by decide

end NeoFS.Put
