import NeoFS.Lemmas.EC
/-!
# C22 — EC part node order visits every node once and spreads parts

Property theorems only.  The model is `NeoFS.EC.nodeSeq` (`Model/EC.lean`), the
list of indexes yielded by `iec.NodeSequenceForPart(part, total, nodes)`.
All theorems are for *every* `part`, `total ≥ 1` and `nodes` — no bound.
-/
namespace NeoFS.EC

/-- Every node index is listed, nothing else is, and nothing is listed twice. -/
theorem nodeSeq_each_once (part total nodes : Nat) (ht : 1 ≤ total) :
    (nodeSeq part total nodes).Nodup ∧ ∀ i, i ∈ nodeSeq part total nodes ↔ i < nodes :=
  ⟨nodeSeq_nodup ht, fun _ => mem_nodeSeq ht⟩

/-- The order is a permutation of `0 … nodes-1`. -/
theorem nodeSeq_perm (part total nodes : Nat) (ht : 1 ≤ total) :
    (nodeSeq part total nodes).Perm (List.range nodes) := by
  rw [List.perm_ext_iff_of_nodup (nodeSeq_nodup ht) List.nodup_range]
  intro i
  rw [mem_nodeSeq ht, List.mem_range]

/-- With at least as many nodes as parts each part starts at the node with its own index. -/
theorem nodeSeq_first (part total nodes : Nat) (hp : part < total) (hn : total ≤ nodes) :
    (nodeSeq part total nodes).head? = some part := by
  have hn' : part < nodes := Nat.lt_of_lt_of_le hp hn
  cases total with
  | zero => exact absurd hp (Nat.not_lt_zero _)
  | succ t =>
    cases nodes with
    | zero => exact absurd hn' (Nat.not_lt_zero _)
    | succ n =>
      unfold nodeSeq
      rw [List.range_succ_eq_map, List.flatMap_cons, Nat.add_zero part, Nat.mod_eq_of_lt hp]
      unfold innerLoop
      rw [if_pos hn']
      rfl

/-- Distinct parts start at distinct nodes. -/
theorem nodeSeq_distinct_starts (p1 p2 total nodes : Nat) (h1 : p1 < total) (h2 : p2 < total)
    (hn : total ≤ nodes) (hne : p1 ≠ p2) :
    (nodeSeq p1 total nodes).head? ≠ (nodeSeq p2 total nodes).head? := by
  rw [nodeSeq_first p1 total nodes h1 hn, nodeSeq_first p2 total nodes h2 hn]
  intro h; exact hne (Option.some.inj h)

/-- Non-vacuity: a concrete instance of the hypotheses, with the computed order. -/
example : nodeSeq 1 3 7 = [1, 4, 2, 5, 0, 3, 6] := by decide

end NeoFS.EC
