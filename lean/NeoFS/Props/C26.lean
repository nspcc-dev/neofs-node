import NeoFS.Lemmas.Policer
import Mathlib.Data.List.TakeWhile
import Mathlib.Data.List.Perm.Subperm
/-!
# C26 — the policer never drops a local copy that may be needed

All theorems are about `processObject e false o p` — the model of the policer pass as the code is now
(`legacy = false`) — for EVERY environment `e` (local node at any position or absent, every maintenance flag
function, every HEAD answer function, every replication outcome function, readable or unreadable local object),
every object (type, EC part indexes, shard count) and every placement (any number of lists of any length,
any copy numbers, any EC rules).  `redundant ∈ dels` is "the pass called `localStorage.Delete` with the
redundant-copy mark", i.e. dropped the local copy because it considered it not needed.
-/
namespace NeoFS.Policer

theorem runVectors_confirmed (e : Env) (t : OType) (vs : List (List Nat × Nat)) (c : Ctx)
    (hn : (runVectors e false t c vs).need = false) :
    ∀ v ∈ vs, e.me ∈ v.1 → ∃ D : List Nat, D.Nodup ∧ D.length = startShortage t v.1 v.2 ∧
      ∀ n ∈ D, n ∈ v.1 ∧ HeadOK e (runVectors e false t c vs).heads n := by
  induction vs generalizing c with
  | nil => intro v hv; simp at hv
  | cons w ws ih =>
    intro v hv hm
    unfold runVectors at hn ⊢
    rcases List.mem_cons.mp hv with rfl | hv
    · exact CoveredBy.mono (processNodes_confirmed e t c v.1 v.2 hm (eq_false_of_imp (runVectors_need_heads e false t ws _).1 hn))
        fun n _ h => h.mono (runVectors_need_heads e false t ws _).2
    · exact ih _ hn v hv hm

/-- What a redundancy drop guarantees under the REP rules. -/
def RepSafe (e : Env) (o : Obj) (p : Placement) (out : Out) : Prop :=
  -- every rule whose list contains the local node: as many DISTINCT OTHER nodes of that list as the rule's copy
  -- number (for LOCK/LINK: as the list is long) are not under maintenance and had their header read in this pass
  (∀ v ∈ effVectors o p, e.me ∈ v.1 →
    ∃ D : List Nat, D.Nodup ∧ D.length = startShortage o.typ v.1 v.2 ∧ ∀ n ∈ D, n ∈ v.1 ∧ HeadOK e out.heads n) ∧
  -- the local node is in no list: some other node is confirmed (header read, or replication acknowledged)
  ((∀ v ∈ effVectors o p, e.me ∉ v.1) → ∃ n, Confirmed e out.heads out.tasks n)

theorem repPart_drop_safe (e : Env) (o : Obj) (p : Placement) (pre : List Mark) (hpre : Mark.redundant ∉ pre)
    (h : Mark.redundant ∈ (repPart e false o p pre).dels) : RepSafe e o p (repPart e false o p pre) := by
  unfold repPart RepSafe at *
  rcases verdict_dels e false o (runVectors e false o.typ {} (effVectors o p)) pre with hd | ⟨_, hneed, hk⟩
  · rw [hd] at h
    exact absurd h hpre
  · rw [verdict_heads, verdict_tasks]
    refine ⟨runVectors_confirmed e o.typ (effVectors o p) {} hneed, fun hno => ?_⟩
    have inv : CacheInv e (runVectors e false o.typ {} (effVectors o p)) :=
      runVectors_cacheInv e false o.typ _ _ nofun
    exact atLeastOneHolder_confirmed e _ inv (hk (runVectors_inCnr e false o.typ (effVectors o p) {} hno)).2

/-- What a redundancy drop of an EC part guarantees: a node EARLIER than the local one in the part's node sequence
is confirmed to hold the part (header read, or replication acknowledged). -/
def ECSafe (e : Env) (seq : List Nat) (out : Out) : Prop :=
  ∃ n ∈ seq.takeWhile (fun m => decide (m ≠ e.me)), Confirmed e out.heads out.tasks n

theorem ecPartByRule_drop_safe (e : Env) (seq : List Nat) (h : Mark.redundant ∈ (ecPartByRule e seq).dels) :
    ECSafe e seq (ecPartByRule e seq) := by
  obtain ⟨s1, _, s3⟩ := ecWalk_spec e seq {}
  have ne_me : ∀ n ∈ seq.takeWhile (fun m => decide (m ≠ e.me)), n ≠ e.me := fun n hn => by
    simpa using List.mem_takeWhile_imp hn
  revert h
  refine ecPartByRule_cases (P := fun out => Mark.redundant ∈ out.dels → ECSafe e seq out) _ rfl nofun ?_ ?_
  · intro hd _
    obtain ⟨n, hm, ha, hh⟩ := s3 hd
    exact ⟨n, hm, ne_me n hm, Or.inl ⟨ha, hh⟩⟩
  · rintro _ (rfl | ⟨rfl, hne⟩) h
    · cases h
    · -- a candidate took the copy: a node before the local one
      obtain ⟨n, hn⟩ := List.exists_mem_of_ne_nil _ hne
      have snd := (handleTask_sound e 1 _).2 n hn
      have hc := (s1 n snd.1).resolve_left (List.not_mem_nil)
      exact ⟨n, hc.1, snd.2.1, Or.inr ⟨_, List.mem_singleton.mpr rfl, hn, snd.1, snd.2.2⟩⟩

/-- The property, for one pass: a redundancy drop happens only in a safe situation. -/
def Safe (e : Env) (o : Obj) (p : Placement) (out : Out) : Prop :=
  match o.ec with
  | none => RepSafe e o p out
  | some (ri, pi) =>
    if p.ecRules.isEmpty then RepSafe e o p out
    else ∃ d par, p.ecRules[ri]? = some (d, par) ∧ pi < d + par ∧ ECSafe e (partSeq (ecNodes p ri) pi (d + par)) out

def C26_full (legacy : Bool) : Prop :=
  ∀ (e : Env) (o : Obj) (p : Placement),
    Mark.redundant ∈ (processObject e legacy o p).dels → Safe e o p (processObject e legacy o p)

/-- **C26** for the code as it is now. -/
theorem drop_implies_confirmed : C26_full false := by
  intro e o p
  refine processObject_cases (P := fun out => Mark.redundant ∈ out.dels → Safe e o p out) ?_ ?_ ?_
  · exact fun dels hd h => absurd h hd
  · intro pre hpre hrep h
    have safe := repPart_drop_safe e o p pre hpre h
    unfold Safe
    rcases hrep with hec | hemp
    · rw [hec]; exact safe
    · cases o.ec with
      | none => exact safe
      | some rp => dsimp only; rw [if_pos hemp]; exact safe
  · intro ri pi d par hec hemp hr hlt h
    unfold Safe
    rw [hec]
    dsimp only
    rw [if_neg (by simp [hemp])]
    exact ⟨d, par, hr, hlt, ecPartByRule_drop_safe e _ h⟩

/-- Maintenance and unreachable nodes never are the confirmation: every node the theorems count answered the
HEAD request with the header (`ans = holds`), or accepted the replica (`repl = true`). -/
theorem confirmed_is_real (e : Env) (heads : List Nat) (tasks : List Task) (n : Nat) (h : Confirmed e heads tasks n) :
    n ≠ e.me ∧ (e.ans n = .holds ∨ e.repl n = true) :=
  ⟨h.1, h.2.elim (fun x => Or.inl x.1) (fun ⟨_, _, x⟩ => Or.inr x.2.2)⟩

/-- LOCK and LINK objects are never dropped by a node that is in one of the lists the pass walks. -/
theorem lock_link_never_dropped (e : Env) (o : Obj) (p : Placement) (hb : isBroadcast o.typ = true)
    (hec : o.ec = none) (hin : ∃ v ∈ effVectors o p, e.me ∈ v.1) :
    Mark.redundant ∉ (processObject e false o p).dels := by
  intro h
  have s := drop_implies_confirmed e o p h
  unfold Safe at s
  rw [hec] at s
  obtain ⟨v, hv, hm⟩ := hin
  obtain ⟨D, nd, len, ok⟩ := s.1 v hv hm
  simp only [startShortage, hb, if_true] at len
  -- D is a duplicate-free sub-list of the list without the local node, which is shorter than the list
  have hsub : D ⊆ v.1.filter (fun n => decide (n ≠ e.me)) := fun n hn =>
    List.mem_filter.mpr ⟨(ok n hn).1, by simpa using (ok n hn).2.1⟩
  have h1 := (List.subperm_of_subset nd hsub).length_le
  have h2 : (v.1.filter (fun n => decide (n ≠ e.me))).length < v.1.length := by
    apply List.length_filter_lt_length_iff_exists.mpr
    exact ⟨e.me, hm, by simp⟩
  omega

/-- For LOCK/LINK objects of a well-formed placement, "the lists the pass walks" are all the lists of the
container (REP and EC). -/
theorem effVectors_broadcast (o : Obj) (p : Placement) (hb : isBroadcast o.typ = true)
    (hw : p.lists.length = p.rep.length + p.ecRules.length) : (effVectors o p).map (·.1) = p.lists := by
  unfold effVectors
  apply List.map_fst_zip
  by_cases hemp : p.ecRules.isEmpty = true
  · rw [if_pos hemp]
    have : p.ecRules.length = 0 := by simpa using hemp
    omega
  · rw [if_neg hemp]
    have all : p.lists.length ≤ (p.rep ++ p.ecRules.map fun _ => 0).length := by simp [hw]
    cases ht : o.typ with
    | lock => exact all
    | link => exact all
    | regular => rw [ht] at hb; exact absurd hb (by decide)
    | tombstone => rw [ht] at hb; exact absurd hb (by decide)

/-! ## the behaviour before the repair -/

/-- REP 1, list `[1 (not found), 2 (maintenance), 3 = local]`, replication to 1 fails. -/
def legacyEnv : Env :=
  { me := 3, inNetmap := true, flag := fun n => n == 2, ans := fun n => if n == 1 then .notFound else .holds,
    repl := fun _ => false }
def legacyPlc : Placement := { lists := [[1, 2, 3]], rep := [1] }

/-- On this input the old chain replicates to node 1 (which fails) and then drops the local copy. -/
theorem legacy_drops : (processObject legacyEnv true { typ := .regular } legacyPlc).dels = [.redundant] ∧
    (processObject legacyEnv true { typ := .regular } legacyPlc).heads = [1] ∧
    (processObject legacyEnv true { typ := .regular } legacyPlc).tasks = [{ quantity := 1, nodes := [1], done := [] }] := by
  decide

/-- The property fails for the old chain: the copy is dropped although no node is confirmed to hold the object. -/
theorem C26_legacy_counterexample : ¬ C26_full true := by
  intro h
  have s := h legacyEnv { typ := .regular } legacyPlc (by decide)
  obtain ⟨D, _, len, ok⟩ := s.1 ([1, 2, 3], 1) (by decide) (by decide)
  have hlen : D.length = 1 := len
  match D, hlen with
  | [n], _ =>
    have hn := ok n List.mem_cons_self
    have hh : n ∈ [1] := legacy_drops.2.1 ▸ hn.2.2.2.2
    have : n = 1 := by simpa using hh
    subst this
    exact absurd hn.2.2.2.1 (by decide)

/-- the repaired code keeps the copy on the same input -/
example : (processObject legacyEnv false { typ := .regular } legacyPlc).dels = [] := by decide

/-- the same defect for a node outside the container: REP 2, list `[1 (not found), 2 (maintenance)]`,
replication fails, the maintenance node counted as "at least one holder" -/
example : (processObject { legacyEnv with me := 9 } true { typ := .regular } { lists := [[1, 2]], rep := [2] }).dels = [.redundant] ∧
    (processObject { legacyEnv with me := 9 } false { typ := .regular } { lists := [[1, 2]], rep := [2] }).dels = [] := by decide

/-! ## non-vacuity: the repaired code does drop copies, and then the guarantees are met non-trivially -/

/-- REP 2 over `[1, 2, 3 = local, 4]` with 1 and 2 holding: the local copy is dropped. -/
example : (processObject { me := 3, inNetmap := true, flag := fun _ => false, ans := fun _ => .holds, repl := fun _ => true }
    false { typ := .regular } { lists := [[1, 2, 3, 4]], rep := [2] }).dels = [.redundant] := by decide

/-- a node outside the container drops after a successful replication (no header read at all) -/
example : (processObject { me := 9, inNetmap := true, flag := fun _ => false, ans := fun _ => .notFound, repl := fun _ => true }
    false { typ := .regular } { lists := [[1, 2]], rep := [1] }).dels = [.redundant] := by decide

/-- an EC part (rule 2+1, part 0, nodes `[1, 2 = local, 3]`) is moved to the better node 1 and dropped -/
example : (processObject { me := 2, inNetmap := true, flag := fun _ => false, ans := fun _ => .notFound, repl := fun _ => true }
    false { typ := .regular, ec := some (0, 0) } { lists := [[1, 2, 3]], rep := [], ecRules := [(2, 1)] }).dels = [.redundant] := by
  decide

/-- a LOCK object on a container node is kept even when every other node holds it -/
example : (processObject { me := 3, inNetmap := true, flag := fun _ => false, ans := fun _ => .holds, repl := fun _ => true }
    false { typ := .lock } { lists := [[1, 2, 3, 4]], rep := [2] }).dels = [] := by decide

end NeoFS.Policer
