import NeoFS.Model.SigChain
import NeoFS.Gen.Wiring
import NeoFS.Lemmas.Replicate
/-!
# C31 — replication requests are accepted only from container nodes for container nodes

Theorems over EVERY request shape and EVERY environment (any current epoch, any pair of per-epoch node sets
incl. unreadable network maps and policy-application errors, any set of own keys, any storage verdict).
The signature primitive, the key / object decoders and the storage's full validation are inputs.
-/
namespace NeoFS.SigChain

/-- The callback-stopping iteration finds a key exactly when the lookups succeed and a key satisfying `p`
is among the nodes selected at the current epoch, or (only with `withPrev`, only if the epoch is not 0, and
only if the current network map was readable) at the previous epoch. -/
theorem forEachNode_found_iff (env : RepEnv) (wp : Bool) (p : Nat → Bool) :
    forEachNode env wp p = .done true ↔
      env.epochFails = false ∧ env.cnrFound = true ∧
      ∃ c, env.cur = some c ∧
        (c.any p = true ∨ (wp = true ∧ env.epoch ≠ 0 ∧ ∃ pv, env.prev = some pv ∧ pv.any p = true)) := by
  unfold forEachNode
  rw [ite_eq_iff_of_ne (by decide), ite_not_eq_iff_of_ne (by decide), Bool.not_eq_true]
  refine and_congr_right fun _ => and_congr_right fun _ => ?_
  cases env.cur with
  | none => simp
  | some c =>
    simp only [Option.some.injEq, exists_eq_left']
    rw [ite_eq_left_iff, ← Decidable.or_iff_not_imp_left, ite_eq_iff_of_ne (ite_ne_of_ne (by decide) (by decide))]
    refine or_congr_right ?_
    rw [show (¬(!wp || env.epoch == 0) = true) ↔ wp = true ∧ env.epoch ≠ 0 by simp, and_assoc]
    refine and_congr_right fun _ => and_congr_right fun _ => ?_
    cases env.prev with
    | none => simp
    | some pv =>
      simp only [Option.some.injEq, exists_eq_left']
      rw [ite_eq_left_iff, ← Decidable.or_iff_not_imp_left, or_iff_left (ite_ne_of_ne (by decide) (by decide))]

/-- The local node is among the nodes selected for the container at the CURRENT epoch. -/
def LocalInCurrent (env : RepEnv) : Prop :=
  env.epochFails = false ∧ env.cnrFound = true ∧
    ∃ ks, env.cur = some (.nodes ks) ∧ ∃ k ∈ ks, k ∈ env.own

/-- The key is among the nodes selected at the current epoch, or at the previous epoch (if there is one). -/
def SenderInLastTwo (env : RepEnv) (key : Nat) : Prop :=
  (∃ ks, env.cur = some (.nodes ks) ∧ key ∈ ks) ∨
  (env.epoch ≠ 0 ∧ ∃ ks, env.prev = some (.nodes ks) ∧ key ∈ ks)

/-- All request-side conditions the handler demands before it consults the network. -/
def WellFormed (r : RepReq) : Prop :=
  r.objPresent = true ∧ r.idPresent = true ∧ r.sigPresent = true ∧ r.keyEmpty = false ∧ r.signEmpty = false ∧
  (r.scheme = 0 ∨ r.scheme = 1 ∨ r.scheme = 2) ∧ r.hdrPresent = true ∧ r.cnrPresent = true ∧ r.cnrValid = true ∧
  r.keyDecodes = true ∧ r.sigValid = true

theorem local_found_iff (env : RepEnv) :
    forEachNode env false (fun k => env.own.contains k) = .done true ↔ LocalInCurrent env := by
  rw [forEachNode_found_iff]
  simp only [Bool.false_eq_true, false_and, or_false, some_any_iff, List.contains_iff_mem]
  rfl

theorem sender_found_iff (env : RepEnv) (key : Nat) (hloc : LocalInCurrent env) :
    forEachNode env true (fun k => k == key) = .done true ↔ SenderInLastTwo env key := by
  have hmem : ∀ o : Option Sel, (∃ ks, o = some (.nodes ks) ∧ key ∈ ks) ↔ ∃ c, o = some c ∧ c.any (fun k => k == key) = true := by
    intro o; rw [some_any_iff]; simp
  obtain ⟨he, hc, ks, hcur, _⟩ := hloc
  rw [forEachNode_found_iff, SenderInLastTwo, hmem, hmem, hcur]
  simp only [he, hc, true_and, Option.some.injEq, exists_eq_left']

theorem netCheck_none_iff (env : RepEnv) (key : Nat) :
    netCheck env key = none ↔ LocalInCurrent env ∧ SenderInLastTwo env key := by
  have h : netCheck env key = none ↔
      forEachNode env false (fun k => env.own.contains k) = .done true ∧
      forEachNode env true (fun k => k == key) = .done true := by
    unfold netCheck
    cases forEachNode env false (fun k => env.own.contains k) with
    | done f =>
      cases f with
      | false => simp
      | true =>
        cases forEachNode env true (fun k => k == key) with
        | done g => cases g <;> simp
        | _ => simp
    | _ => simp
  rw [h, local_found_iff]
  exact and_congr_right (sender_found_iff env key)

theorem netCheck_some_sound (env : RepEnv) (key : Nat) (s : RepStatus) (h : netCheck env key = some s) :
    (s = .deniedServer → ¬ LocalInCurrent env) ∧
    (s = .deniedClient → LocalInCurrent env ∧ ¬ SenderInLastTwo env key) ∧
    (s = .cnrNotFound → env.cnrFound = false) ∧
    (s = .cnrNotFound ∨ s = .internalPolicy ∨ s = .deniedServer ∨ s = .deniedClient) := by
  unfold netCheck at h
  cases hl : forEachNode env false (fun k => env.own.contains k) with
  | notFound => rw [hl] at h; cases h; simpa using forEachNode_notFound _ _ _ hl
  | otherErr => rw [hl] at h; cases h; simp
  | done f =>
    rw [hl] at h
    cases f with
    | false =>
      cases h
      have hn : ¬ LocalInCurrent env := by rw [← local_found_iff, hl]; nofun
      simp [hn]
    | true =>
      have hloc := (local_found_iff env).mp hl
      cases hs : forEachNode env true (fun k => k == key) with
      | notFound => rw [hs] at h; cases h; simpa using forEachNode_notFound _ _ _ hs
      | otherErr => rw [hs] at h; cases h; simp
      | done g =>
        rw [hs] at h
        cases g with
        | true => cases h
        | false =>
          cases h
          have hn : ¬ SenderInLastTwo env key := by rw [← sender_found_iff env key hloc, hs]; nofun
          simp [hloc, hn]

theorem preCheck_none_iff (r : RepReq) : preCheck r = none ↔ WellFormed r := by
  unfold preCheck WellFormed
  rw [Option.map_eq_none_iff, List.find?_eq_none]
  simp only [reqChecks, List.mem_cons, List.not_mem_nil, or_false, forall_eq_or_imp, forall_eq]
  simp only [Bool.not_eq_true', Bool.not_eq_false, Bool.not_eq_true, Bool.or_eq_true, beq_iff_eq, or_assoc]

/-- A request-side refusal names a check that really failed. -/
theorem preCheck_some_failed (r : RepReq) (s : RepStatus) (h : preCheck r = some s) :
    (true, s) ∈ reqChecks r := by
  unfold preCheck at h
  rw [Option.map_eq_some_iff] at h
  obtain ⟨⟨b, s'⟩, hf, hs⟩ := h
  have hm := List.mem_of_find?_eq_some hf
  have hb := List.find?_some hf
  simp only at hs hb
  subst hs; subst hb
  exact hm

theorem replicate_cases (env : RepEnv) (r : RepReq) :
    (∃ s, replicate env r = refuse s ∧ s ≠ .ok ∧
      (preCheck r = some s ∨ preCheck r = none ∧ netCheck env r.key = some s)) ∨
    (preCheck r = none ∧ netCheck env r.key = none ∧ replicate env r = finish env r) := by
  unfold replicate
  cases hp : preCheck r with
  | some s =>
    refine .inl ⟨s, rfl, ?_, .inl rfl⟩
    rintro rfl
    have := preCheck_some_failed r _ hp
    simp [reqChecks] at this
  | none =>
    cases hn : netCheck env r.key with
    | some s =>
      refine .inl ⟨s, rfl, ?_, .inr ⟨rfl, rfl⟩⟩
      rintro rfl
      have := (netCheck_some_sound env r.key _ hn).2.2.2
      simp at this
    | none => exact .inr ⟨rfl, rfl, rfl⟩

/-- **C31 main theorem.** The storage is called IF AND ONLY IF the request is well-formed, its signature
verifies over the object id under the stated key, the LOCAL node is a container node at the current epoch,
the SENDER key is a container node at the current or the previous epoch, and the object decodes. -/
theorem store_called_iff (env : RepEnv) (r : RepReq) :
    (replicate env r).storeCalled = true ↔
      WellFormed r ∧ LocalInCurrent env ∧ SenderInLastTwo env r.key ∧ r.objDecodes = true := by
  rw [← preCheck_none_iff, ← and_assoc (a := LocalInCurrent env), ← netCheck_none_iff]
  rcases replicate_cases env r with ⟨s, hr, _, hp | ⟨hp, hn⟩⟩ | ⟨hp, hn, hr⟩
  · simp [hr, hp, refuse]
  · simp [hr, hn, refuse]
  · simp [hr, hp, hn, finish_storeCalled]

/-- Success status exactly when the storage was called and accepted the object (its full validation and
write) and — if an object signature was requested — the signing succeeded. -/
theorem ok_iff (env : RepEnv) (r : RepReq) :
    (replicate env r).status = .ok ↔
      (replicate env r).storeCalled = true ∧ env.store = .ok ∧ (r.signObject = true → env.signFails = false) := by
  rcases replicate_cases env r with ⟨s, hr, hs, _⟩ | ⟨_, _, hr⟩
  · simp [hr, refuse, hs]
  · rw [hr, finish_status_ok_iff, finish_storeCalled]

/-- No storage effect ⇒ an error status (never OK). -/
theorem not_stored_not_ok (env : RepEnv) (r : RepReq) (h : (replicate env r).storeCalled = false) :
    (replicate env r).status ≠ .ok :=
  fun hok => Bool.false_ne_true (h.symm.trans ((ok_iff env r).mp hok).1)

/-- Every status other than ok / busy / store failure / sign failure comes without a storage effect. -/
theorem refusal_no_effect (env : RepEnv) (r : RepReq)
    (h : (replicate env r).status ≠ .ok ∧ (replicate env r).status ≠ .busy ∧
         (replicate env r).status ≠ .internalStore ∧ (replicate env r).status ≠ .internalSign) :
    (replicate env r).storeCalled = false := by
  rcases replicate_cases env r with ⟨s, hr, _⟩ | ⟨_, _, hr⟩
  · rw [hr]; rfl
  · rw [hr] at h ⊢
    rw [finish_storeCalled]
    rcases finish_status env r with ⟨hd, _⟩ | ⟨_, h1 | h1 | h1 | h1⟩
    · exact hd
    · exact absurd h1 h.1
    · exact absurd h1 h.2.1
    · exact absurd h1 h.2.2.1
    · exact absurd h1 h.2.2.2

/-- the condition a refusal status names, if it names one -/
def Certifies (env : RepEnv) (r : RepReq) : RepStatus → Prop
  | .badObjMissing => r.objPresent = false
  | .badIdMissing => r.idPresent = false
  | .badSigMissing => r.sigPresent = false
  | .badKeyMissing => r.keyEmpty = true
  | .badSignMissing => r.signEmpty = true
  | .badScheme => ¬ (r.scheme = 0 ∨ r.scheme = 1 ∨ r.scheme = 2)
  | .badHdrMissing => r.hdrPresent = false
  | .badCnrMissing => r.cnrPresent = false
  | .badCnrInvalid => r.cnrValid = false
  | .badKeyInvalid => r.keyDecodes = false
  | .badSigMismatch => r.sigValid = false
  | .badObject => r.objDecodes = false
  | .deniedServer => ¬ LocalInCurrent env
  | .deniedClient => LocalInCurrent env ∧ ¬ SenderInLastTwo env r.key
  | .cnrNotFound => env.cnrFound = false
  | _ => True

theorem status_certified (env : RepEnv) (r : RepReq) : Certifies env r (replicate env r).status := by
  rcases replicate_cases env r with ⟨s, hr, _, hp | ⟨_, hn⟩⟩ | ⟨_, _, hr⟩
  · rw [hr]
    have hm := preCheck_some_failed r s hp
    simp only [reqChecks, List.mem_cons, Prod.mk.injEq, List.not_mem_nil, or_false] at hm
    rcases hm with ⟨h, rfl⟩ | ⟨h, rfl⟩ | ⟨h, rfl⟩ | ⟨h, rfl⟩ | ⟨h, rfl⟩ | ⟨h, rfl⟩ | ⟨h, rfl⟩ | ⟨h, rfl⟩ | ⟨h, rfl⟩ |
      ⟨h, rfl⟩ | ⟨h, rfl⟩
    all_goals simpa [Certifies, refuse, and_assoc] using h.symm
  · rw [hr]
    obtain ⟨a, b, c, d⟩ := netCheck_some_sound env r.key s hn
    rcases d with rfl | rfl | rfl | rfl
    · exact c rfl
    · trivial
    · exact a rfl
    · exact b rfl
  · rw [hr]
    rcases finish_status env r with ⟨hd, h1⟩ | ⟨_, h1 | h1 | h1 | h1⟩
    · rw [h1]; exact hd
    all_goals rw [h1]; trivial

/-- These nine refusals are specific: the status implies that the condition it names failed (and, for the two
access refusals, which of the two memberships failed). -/
theorem refusal_sound (env : RepEnv) (r : RepReq) :
    ((replicate env r).status = .badSigMismatch → r.sigValid = false) ∧
    ((replicate env r).status = .badSigMissing → r.sigPresent = false) ∧
    ((replicate env r).status = .badKeyInvalid → r.keyDecodes = false) ∧
    ((replicate env r).status = .badScheme → ¬ (r.scheme = 0 ∨ r.scheme = 1 ∨ r.scheme = 2)) ∧
    ((replicate env r).status = .badCnrInvalid → r.cnrValid = false) ∧
    ((replicate env r).status = .badObject → r.objDecodes = false) ∧
    ((replicate env r).status = .deniedServer → ¬ LocalInCurrent env) ∧
    ((replicate env r).status = .deniedClient → LocalInCurrent env ∧ ¬ SenderInLastTwo env r.key) ∧
    ((replicate env r).status = .cnrNotFound → env.cnrFound = false) := by
  have h := status_certified env r
  refine ⟨?_, ?_, ?_, ?_, ?_, ?_, ?_, ?_, ?_⟩
  all_goals
    intro hs
    rw [hs] at h
    exact h

/-- The response carries an object signature only together with success and a storage effect. -/
theorem signed_only_after_store (env : RepEnv) (r : RepReq) (h : (replicate env r).signed = true) :
    (replicate env r).status = .ok ∧ (replicate env r).storeCalled = true ∧ r.signObject = true := by
  rcases replicate_cases env r with ⟨s, hr, _⟩ | ⟨_, _, hr⟩
  · rw [hr] at h; cases h
  · rw [hr] at h ⊢
    rw [finish_storeCalled]
    exact finish_signed env r h

/-! ## Non-vacuity and boundary facts -/

def exEnv : RepEnv :=
  { epochFails := false, cnrFound := true, epoch := 7, cur := some (.nodes [1, 2, 3]), prev := some (.nodes [3, 4]),
    own := [2], store := .ok, signFails := false }

def exRep (key : Nat) : RepReq :=
  { objPresent := true, idPresent := true, sigPresent := true, keyEmpty := false, signEmpty := false, scheme := 1,
    hdrPresent := true, cnrPresent := true, cnrValid := true, keyDecodes := true, sigValid := true, key := key,
    objDecodes := true, signObject := false }

example : (replicate exEnv (exRep 1)).storeCalled = true := rfl
/-- a sender that was a container node only in the previous epoch is accepted -/
example : replicate exEnv (exRep 4) = { status := .ok, storeCalled := true } := rfl
example : replicate exEnv (exRep 5) = refuse .deniedClient := rfl
/-- at epoch 0 there is no previous epoch to consult -/
example : replicate { exEnv with epoch := 0 } (exRep 4) = refuse .deniedClient := rfl
/-- the local node must be a container node NOW: membership in the previous epoch only is not enough -/
example : replicate { exEnv with own := [4] } (exRep 1) = refuse .deniedServer := rfl
example : replicate exEnv { exRep 1 with sigValid := false } = refuse .badSigMismatch := rfl
/-- a policy error at the current epoch does not stop a sender known from the previous epoch at the
iteration level, but the local-node check (current epoch only) already refuses -/
example : replicate { exEnv with cur := some .policyErr } (exRep 4) = refuse .internalPolicy := rfl
example : forEachNode { exEnv with cur := some .policyErr } true (fun k => k == 4) = .done true := rfl

/-- **Production wiring** (regenerated from `cmd/neofs-node/object.go` on every run, `Gen/Wiring.lean`): the `FSChain`
the node hands to `Server.Replicate` answers the "local node" question from the CURRENT epoch only
(`netCheck`'s `forEachNode env false`), the "sender" question from the last two epochs (`forEachNode env true`), and the
storage step is `put.Service.ValidateAndStoreObjectLocally`. The adapters are plain delegations, so the theorems above,
stated for `placement.Service`'s two iterators, are statements about the running node. -/
theorem wiring_matches_model :
    Gen.Wiring.fsChain_forEachNode = "placement.ForEachContainerNodePublicKey" ∧
    Gen.Wiring.fsChain_forEachNodeTwoEpochs = "placement.ForEachContainerNodePublicKeyInLastTwoEpochs" ∧
    Gen.Wiring.storage_verifyAndStore = "putSvc.ValidateAndStoreObjectLocally" := ⟨rfl, rfl, rfl⟩

end NeoFS.SigChain
