/-
Control skeletons of RPC handlers (DESIGN.md §5.1 "Control skeletons", §9 C29/C32/C45, Appendix A `Prog`).

`harness/extract` abstracts every handler body of the object service and of the two control services into a
term of the small language `Prog` below (regenerated into `NeoFS/Gen/Handlers.lean` on every check run).
This file is the hand-written, core-only part; the proofs about it are in `Lemmas/Handlers.lean`:

* the language and its nondeterministic big-step semantics `Run` (what sequences of check calls, check results,
  branch decisions and effects a handler can perform; loops run any number of times);
* an executable checker `post` (exact collecting semantics over the finite set of reachable knowledge vectors,
  loop invariants are computed with fuel and then *verified*, so the proof never relies on the fuel);
* the statement `SoundF` of the once-proved soundness theorem `post_sound` / `checker_sound`: if the checker
  accepts a term under a policy, then on EVERY run of the term, every effect happens in a state the policy allows.

A state is the outcome of the latest call of every check (`pass`, `soft` = a non-fatal sentinel such as
"no eACL rule matched", `deny`), absent = not called on this run. `chk t` calls check `t` (any outcome the
oracle `ω` permits), `asm t allowed` is a branch of the handler that the source takes only when the latest
outcome of `t` is in `allowed` (the translator derives it from the branch condition), `set/copy/forget` move
the result of an inlined helper into the caller's variable (`Tag.aux n`), `eff e` is a call classified as an
effect, `scope/exit k` encode `return`, `break`, `continue` and the return of an inlined helper.
-/
namespace NeoFS.Handlers

inductive Out | pass | soft | deny
  deriving DecidableEq, Repr

/-- Checks, by role (the translator's table maps resolved callees to these). -/
inductive Tag
  | sig      -- request signature chain verification (icrypto.VerifyRequestSignatures*)
  | maint    -- FSChain.LocalNodeUnderMaintenance (deny = node is in maintenance)
  | token    -- ACLInfoExtractor.Verify{Session,SessionV1,Bearer}TokenMessage
  | reqInfo  -- ACLInfoExtractor.*RequestToInfo (soft = ErrSkipRequest)
  | basic    -- ACLChecker.CheckBasicACL
  | sticky   -- ACLChecker.StickyBitCheck
  | eacl     -- ACLChecker.CheckEACL (soft = ErrNotMatched)
  | objSig   -- Replicate: object signature verification
  | cnrSrv   -- Replicate: container node iteration for the local node
  | cnrCli   -- Replicate: container node iteration for the requester
  | ctlSig   -- control services: neofscrypto.Signature.Verify over the signed request body
  | aux (n : Nat)  -- result of an inlined package-local helper (translator-generated)
  deriving DecidableEq, Repr

/-- Effect classes. -/
inductive Eff
  | storage  -- reaches the local object storage / metadata service / object handlers
  | forward  -- opens or uses a connection to another node
  | data     -- writes a data-carrying message into the response stream (grpc SendMsg)
  | putCont  -- continues/closes an object PUT stream opened earlier (Streamer.SendChunk/Close)
  | respond  -- sends/constructs a typed response (also used for status-only answers)
  | ctl      -- control plane: any call into the node state / engine / notary manager / health checker
  deriving DecidableEq, Repr

inductive Prog
  | skip
  | chk (t : Tag)
  | set (t : Tag) (o : Out)
  | copy (dst src : Tag)
  | forget (t : Tag)
  | asm (t : Tag) (allowed : List Out)
  | eff (e : Eff)
  | seq (a b : Prog)
  | alt (a b : Prog)
  | loop (body : Prog)
  | scope (body : Prog)
  | exit (k : Nat)
  deriving Repr

/-! ## States -/

/-- Position of a tag in a state word. -/
def Tag.idx : Tag → Nat
  | .sig => 0 | .maint => 1 | .token => 2 | .reqInfo => 3 | .basic => 4 | .sticky => 5 | .eacl => 6
  | .objSig => 7 | .cnrSrv => 8 | .cnrCli => 9 | .ctlSig => 10 | .aux n => 11 + n

def Out.code : Out → Nat
  | .pass => 1 | .soft => 2 | .deny => 3

/-- A state is a finite map Tag → Out, packed two bits per tag into one natural number (0 = not called,
1 = pass, 2 = soft, 3 = deny) so that the kernel compares and updates states with its built-in
big-number arithmetic. Nothing in the soundness proof depends on the encoding. -/
abbrev St := Nat

def St.init : St := 0

def St.get (s : St) (t : Tag) : Option Out :=
  match (s >>> (2 * t.idx)) % 4 with
  | 0 => none
  | 1 => some .pass
  | 2 => some .soft
  | _ => some .deny

def St.erase (s : St) (t : Tag) : St :=
  s - (((s >>> (2 * t.idx)) % 4) <<< (2 * t.idx))

def St.put (s : St) (t : Tag) (o : Out) : St :=
  St.erase s t + (o.code <<< (2 * t.idx))

inductive Event
  | check (t : Tag) (o : Out)
  | assign (t : Tag) (o : Option Out)
  | effect (e : Eff)
  deriving DecidableEq, Repr

def applyEv (s : St) : Event → St
  | .check t o => s.put t o
  | .assign t (some o) => s.put t o
  | .assign t none => s.erase t
  | .effect _ => s

def runEv (s : St) (evs : List Event) : St := evs.foldl applyEv s

/-- A policy says in which states an effect of a class may happen. -/
abbrev Policy := Eff → St → Bool

/-- A policy written over the plain reading of a state: `g t` = latest outcome of check `t`, `none` = not
called. (`Lemmas/Handlers.lean` proves that the packed state is exactly that finite map.) -/
def Policy.ofView (π : Eff → (Tag → Option Out) → Bool) : Policy := fun e s => π e (fun t => s.get t)

/-- Every effect of the event sequence happens in a state (reached from `s`) that the policy allows. -/
def safeFrom (π : Policy) : St → List Event → Bool
  | _, [] => true
  | s, ev :: r => (match ev with | .effect e => π e s | _ => true) && safeFrom π (applyEv s ev) r

/-! ## Semantics -/

/-- `Run ω p s evs x`: from state `s` the term can emit `evs` and finish normally (`x = none`) or by leaving
`k+1` enclosing scopes (`x = some k`). `ω t` lists the outcomes check `t` can have. -/
inductive Run (ω : Tag → List Out) : Prog → St → List Event → Option Nat → Prop
  | skip {s} : Run ω .skip s [] none
  | chk {s t o} : o ∈ ω t → Run ω (.chk t) s [.check t o] none
  | set {s t o} : Run ω (.set t o) s [.assign t (some o)] none
  | copy {s d src} : Run ω (.copy d src) s [.assign d (s.get src)] none
  | forget {s t} : Run ω (.forget t) s [.assign t none] none
  | asm {s t al} : (∀ o, s.get t = some o → o ∈ al) → Run ω (.asm t al) s [] none
  | eff {s e} : Run ω (.eff e) s [.effect e] none
  | seqN {a b s e1 e2 x} : Run ω a s e1 none → Run ω b (runEv s e1) e2 x → Run ω (.seq a b) s (e1 ++ e2) x
  | seqX {a b s e1 k} : Run ω a s e1 (some k) → Run ω (.seq a b) s e1 (some k)
  | altL {a b s e x} : Run ω a s e x → Run ω (.alt a b) s e x
  | altR {a b s e x} : Run ω b s e x → Run ω (.alt a b) s e x
  | loopDone {b s} : Run ω (.loop b) s [] none
  | loopStep {b s e1 e2 x} : Run ω b s e1 none → Run ω (.loop b) (runEv s e1) e2 x → Run ω (.loop b) s (e1 ++ e2) x
  | loopExit {b s e1 k} : Run ω b s e1 (some k) → Run ω (.loop b) s e1 (some k)
  | scopeN {b s e} : Run ω b s e none → Run ω (.scope b) s e none
  | scope0 {b s e} : Run ω b s e (some 0) → Run ω (.scope b) s e none
  | scopeS {b s e k} : Run ω b s e (some (k + 1)) → Run ω (.scope b) s e (some k)
  | exit {s k} : Run ω (.exit k) s [] (some k)

/-! ## Checker

Configurations are single natural numbers `state * 64 + code` (`code = 0`: finished normally, `code = k+1`:
leaving `k+1` scopes) and sets of configurations are duplicate-free lists compared with `Nat.beq`, so that the
kernel evaluates the checker with built-in arithmetic only. -/

def cfg (x : Option Nat) (s : St) : Nat :=
  s * 64 + (match x with | none => 0 | some k => k + 1)

def memN (a : Nat) : List Nat → Bool
  | [] => false
  | b :: r => Nat.beq a b || memN a r

def insertN (a : Nat) (l : List Nat) : List Nat := if memN a l then l else a :: l

def unionN (a b : List Nat) : List Nat := b.foldl (fun acc x => insertN x acc) a

/-- Continue every normally finished configuration with `f`, keep the exiting ones. `none` = violation. -/
def bindCfgs (f : St → Option (List Nat)) : List Nat → Option (List Nat)
  | [] => some []
  | c :: r =>
    if c % 64 = 0 then
      match f (c / 64), bindCfgs f r with
      | some a, some b => some (unionN a b)
      | _, _ => none
    else
      match bindCfgs f r with
      | some b => some (insertN c b)
      | none => none

def descope (c : Nat) : Nat := if c % 64 = 0 then c else c - 1

def normals : List Nat → List St
  | [] => []
  | c :: r => if c % 64 = 0 then (c / 64) :: normals r else normals r

def exits : List Nat → List Nat
  | [] => []
  | c :: r => if c % 64 = 0 then exits r else c :: exits r

/-- Worklist exploration of the loop-head states: every state is expanded once; when the worklist is empty
the set of expanded states is closed under the body (`explore_closed`). -/
def explore (f : St → Option (List Nat)) : Nat → List St → List St → List Nat → Option (List St × List Nat)
  | 0, _, _, _ => none
  | _ + 1, seen, [], ex => some (seen, ex)
  | n + 1, seen, s :: todo, ex =>
    if memN s seen then explore f n seen todo ex
    else match f s with
      | none => none
      | some cs => explore f n (s :: seen) (normals cs ++ todo) (unionN ex (exits cs))

def loopFuel : Nat := 4096

def allMem (l I : List Nat) : Bool := l.all fun s => memN s I

/-- Loop from state `s`: if one iteration of the body can only come back to `s` itself, `{s}` is the invariant
(the common case, one evaluation of the body); otherwise the reachable loop-head states are explored. -/
def loopPost (f : St → Option (List Nat)) (s : St) : Option (List Nat) :=
  match f s with
  | none => none
  | some cs =>
    if allMem (normals cs) [s] then some (insertN (s * 64) (exits cs))
    else match explore f loopFuel [] [s] [] with
      | none => none
      | some (I, E) => some (I.map (fun s => s * 64) ++ E)

def memOut (o : Out) : List Out → Bool
  | [] => false
  | x :: r => Nat.beq o.code x.code || memOut o r

/-- All configurations the term can finish in from `s`; `none` as soon as an effect is not allowed by `π`
(or a loop invariant could not be established, or an exit is deeper than 62 scopes). -/
def post (ω : Tag → List Out) (π : Policy) : Prog → St → Option (List Nat)
  | .skip, s => some [s * 64]
  | .chk t, s => some ((ω t).map fun o => (s.put t o) * 64)
  | .set t o, s => some [(s.put t o) * 64]
  | .copy d src, s => some [(applyEv s (.assign d (s.get src))) * 64]
  | .forget t, s => some [(s.erase t) * 64]
  | .asm t al, s =>
    match s.get t with
    | some o => if memOut o al then some [s * 64] else some []
    | none => some [s * 64]
  | .eff e, s => if π e s then some [s * 64] else none
  | .seq a b, s =>
    match post ω π a s with
    | some cs => bindCfgs (post ω π b) cs
    | none => none
  | .alt a b, s =>
    match post ω π a s, post ω π b s with
    | some x, some y => some (unionN x y)
    | _, _ => none
  | .loop b, s => loopPost (post ω π b) s
  | .scope b, s =>
    match post ω π b s with
    | some cs => some (cs.map descope)
    | none => none
  | .exit k, s => if k < 62 then some [s * 64 + (k + 1)] else none

def allOuts : Tag → List Out := fun _ => [.pass, .soft, .deny]

/-- The checker of the "programs" properties: the handler term never performs an effect the policy forbids. -/
def checker (π : Policy) (p : Prog) : Bool := (post allOuts π p St.init).isSome

/-! ## What soundness of the checker says -/

/-- Exit depths the checker accepts. -/
def okExit : Option Nat → Prop
  | none => True
  | some k => k < 62

/-- Soundness statement for one evaluator of a term (`f = post ω π n p`). -/
def SoundF (ω : Tag → List Out) (π : Policy) (p : Prog) (f : St → Option (List Nat)) : Prop :=
  ∀ s evs x, Run ω p s evs x → ∀ cs, f s = some cs →
    safeFrom π s evs = true ∧ cfg x (runEv s evs) ∈ cs ∧ okExit x

/-- `I` is closed under one more iteration of the body `f` and `E` collects every way of leaving it. -/
def Closed (f : St → Option (List Nat)) (I : List St) (E : List Nat) : Prop :=
  ∀ s ∈ I, ∃ cs, f s = some cs ∧ (∀ s', cfg none s' ∈ cs → s' ∈ I) ∧
    (∀ k s', k < 63 → cfg (some k) s' ∈ cs → cfg (some k) s' ∈ E)

/-! ## Queries used by the model driver and by the "does not consult" theorems -/

/-- The term syntactically contains a call of check `t`. -/
def mentions (t : Tag) : Prog → Bool
  | .chk t' => t' = t
  | .seq a b | .alt a b => mentions t a || mentions t b
  | .loop b | .scope b => mentions t b
  | _ => false

/-- Oracle of a scenario: the listed checks have the given outcome, helper results are unconstrained,
every other check passes. -/
def scenario (forced : List (Tag × Out)) : Tag → List Out
  | .aux _ => [.pass, .soft, .deny]
  | t => match forced.find? (·.1 = t) with
    | some (_, o) => [o]
    | none => [.pass]

def isRealEffect : Eff → Bool
  | .respond => false
  | _ => true

/-- Under the scenario, can the handler reach a real effect (anything but building/sending a response)? -/
def reachesEffect (forced : List (Tag × Out)) (p : Prog) : Bool :=
  (post (scenario forced) (fun e _ => !isRealEffect e) p St.init).isNone

/-- Under the scenario, does every real effect happen while none of the checks forced to `deny` has `deny` as
its latest outcome? (A request whose token is refused may still be served by the paths that never look at a
token; the question is whether anything happens AFTER the refusal.) -/
def noEffectWhileDenied (forced : List (Tag × Out)) (p : Prog) : Bool :=
  (post (scenario forced)
    (fun e s => !(isRealEffect e && forced.any fun f => f.2 == .deny && s.get f.1 == some .deny)) p St.init).isSome

end NeoFS.Handlers
